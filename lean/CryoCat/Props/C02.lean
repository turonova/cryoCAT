import CryoCat.Lemmas.C02_Select
import CryoCat.Lemmas.C02_Export
import CryoCat.Lemmas.C02_Value
/-! C02 — property theorems: STAR files read back to the same blocks, columns, rows and values. The model
(`Model/C02.lean`) is the one the driver executes; the layout grammar of the statement is `Model/C02_Layout.lean`.

`star_roundtrip`, `written_column_typing` and `typed_roundtrip`, which C04 builds on, are proved in
`Lemmas/C02_Export.lean`, which neither contains nor imports a translator obligation; here they are restated under the
same names. Other properties import `Lemmas/C02_Export`, never this file: this file stops building when an anchor fails
or a regenerated dump of `Gen/C02.lean` changes, and only C02 may fail for that. -/
namespace CryoCat.C02

/-! Translator obligations: the literals and function bodies regenerated from `cryocat/starfileio.py` into `Gen/C02.lean`
are the documented ones; an edit of the source breaks the theorem concerned. -/

theorem anchors_ok : Gen.C02.anchorsOk = true := rfl

/-- `Token.tokenize`: split at `\n`, `#` starts a comment, a sequence starting with `_` is a PROPERTY
(tested first), the sequence `loop_` is LOOP (tested second), anything else a LITERAL; a column name
is the PROPERTY without its first character -/
theorem tokenizer_literals_documented :
    Gen.C02.lineSep = '\n' ∧ Gen.C02.commentChar = '#' ∧ Gen.C02.propPrefix = '_' ∧
    Gen.C02.loopKw = ['l', 'o', 'o', 'p', '_'] ∧ Gen.C02.classifyOrder = ["PROPERTY", "LOOP", "LITERAL"] ∧
    Gen.C02.propNameDrop = 1 := ⟨rfl, rfl, rfl, rfl, rfl, rfl⟩

/-- `Starfile.write`: `round(6)` before formatting, `'{:<10}'` cells joined by a tab, `stopgap` in the
block name or `number_columns=False` selects the un-numbered header, and the order and text of the
writes of one block (`\n<name>\n\n`, `loop_\n`, `_<col> #<i>\n` from 1 / `_<col>\n`, a blank line for
STOPGAP, the rows, a blank line) -/
theorem writer_literals_documented :
    Gen.C02.floatPrecision = 6 ∧ Gen.C02.roundsBeforeFormat = true ∧
    Gen.C02.cellFill = [] ∧ Gen.C02.cellAlign = ['<'] ∧ Gen.C02.cellWidth = 10 ∧
    Gen.C02.cellSep = ['\t'] ∧ Gen.C02.rowEnd = ['\n'] ∧
    Gen.C02.stopgapKw = ['s', 't', 'o', 'p', 'g', 'a', 'p'] ∧
    Gen.C02.numberedCond = "write_without_numberifnotnumber_columnsorstopgapelsewrite_with_number" ∧
    Gen.C02.labelCall = "write_function(column,index)" ∧
    Gen.C02.labelNumbered = [['_'], [' ', '#'], ['\n']] ∧ Gen.C02.labelPlain = [['_'], ['\n']] ∧
    Gen.C02.specLine = [['\n'], ['\n', '\n']] ∧ Gen.C02.loopLine = ['l', 'o', 'o', 'p', '_', '\n'] ∧
    Gen.C02.stopgapExtra = ['\n'] ∧ Gen.C02.blockEnd = ['\n'] ∧ Gen.C02.labelStart = 1 :=
  ⟨rfl, rfl, rfl, rfl, rfl, rfl, rfl, rfl, rfl, rfl, rfl, rfl, rfl, rfl, rfl, rfl, rfl⟩

/-- **The table is written as it is**: the only re-binding of the table inside the block loop of
`Starfile.write` is the cell formatting (`frame.map(format_value)`, with the pandas-2 fall-back
`applymap`) — no sorting, no de-duplication, no re-indexing — and the rows are taken in the order of
the table, row labels left out (`frame.itertuples(index=False)`). The harness writes tables with
permuted, repeated and string row labels, so an edit here also shows as a failing input. -/
theorem writer_rows_documented :
    Gen.C02.frameStatements = ["frame=frame.map(format_value)ifhasattr(frame,'map')elseframe.applymap(format_value)"] ∧
    Gen.C02.rowsLoop = "frame.itertuples(index=False)" := ⟨rfl, rfl⟩

/-- the `comments` argument of `Starfile.write` (`\n# <c>` per comment, then `\n`, before the specifier
line), the value of a COMMENT token (stripped), `parse_newline_or_comments`, the order of the comment
lists `Starfile.read` concatenates per block, its `data_id` branch, `get_specifier_id` and
`get_frame_and_comments` are the documented ones (function bodies as normalised dumps: locals renamed
`v0, v1, …` in order of first binding, error messages dropped — renaming a local does not matter) -/
theorem comments_and_selection_documented :
    Gen.C02.commentLine = [['\n', '#', ' '], []] ∧ Gen.C02.commentsEnd = ['\n'] ∧
    Gen.C02.commentValue = "line[index+1:].strip()" ∧
    Gen.C02.commentsOrder = "parse_specifier+parse_columns+parse_rows" ∧
    Gen.C02.dataIdBranch = "ifv1isnotNone:;return(v5[v1],v7[v1],v6[v1]);else:;return(v5,v7,v6)" ∧
    Gen.C02.newlineOrComments = "v1=[];whileTrue:;v2=Token.check_then_consume(v0,TokenType.COMMENT);ifv2isnotNone:;v1.append(v2.value);elifnotToken.check_then_consume(v0,TokenType.NEWLINE):;break;returnv1" ∧
    Gen.C02.getSpecifierId = "ifv1inv0:;returnv0.index(v1);else:;returnNone" ∧
    Gen.C02.getFrameAndComments = "v2,v3,v4=Starfile.read(v0);v5=Starfile.get_specifier_id(v3,v1);ifv5isNone:;raiseValueError();return(v2[v5],v4[v5])" :=
  ⟨rfl, rfl, rfl, rfl, rfl, rfl, rfl, rfl⟩

/-- **Signature defaults** the statement depends on: `Starfile.write(frames, path, specifiers=None,
comments=None, number_columns=True, float_precision=6)`, `specifiers=None` means `["data"] * len(frames)`,
`comments=None` means no comments, then the length check and `frames[i] = f.round(float_precision)`;
`Starfile.read(file_path, data_id=None)`; `remove_lines(..., output_file=None, data_specifier=None,
number_columns=True)` -/
theorem signature_defaults_documented :
    Gen.C02.writeSignature = ["frames", "path", "specifiers=None", "comments=None", "number_columns=True", "float_precision=6"] ∧
    Gen.C02.readSignature = ["file_path", "data_id=None"] ∧
    Gen.C02.removeLinesSignature = ["file_path", "lines_to_remove", "output_file=None", "data_specifier=None", "number_columns=True"] ∧
    Gen.C02.defaultSpecifier = ['d', 'a', 't', 'a'] ∧ Gen.C02.numberColumnsDefault = true ∧
    Gen.C02.removeLinesNumberColumnsDefault = true ∧
    Gen.C02.writeDefaults = "ifv2isNone:;v2=['data']*len(v0);ifv3isNone:;v3=(None,)*len(v0);iflen(v0)!=len(v2)orlen(v0)!=len(v3)orlen(v2)!=len(v3):;raiseValueError();forv6,v7inenumerate(v0):;v0[v6]=v7.round(v5)" :=
  ⟨rfl, rfl, rfl, rfl, rfl, rfl, rfl⟩

/-- **The character loop of `Token.tokenize` is the documented one** (whole-body dump: locals numbered
by binding occurrence, the message of the `IOError` dropped): split at `\n`; per line the pending
sequence starts at the first character that is neither `str.isspace()` nor `#`; at a blank or `#` the
sequence `line[first:index]` — the WHOLE slice, nothing cut off — becomes a PROPERTY / LOOP / LITERAL
token; `#` turns the rest of the line, stripped, into a COMMENT; a sequence pending at the end of the
line is classified the same way from `line[first:]`; every line ends with a NEWLINE token; the list
is returned reversed (the parser pops from its end). What `go` / `tokenizeLine` / `lineToks` /
`tokenize` model. -/
theorem tokenizer_body_documented :
    Gen.C02.body_tokenize = "v1=list();v2=v0.split('\\n');forv3,v4inenumerate(v2):;v5=None;forv6,v7inenumerate(v4):;ifnotv7.isspace()andv7!='#':;ifv5isNone:;v5=v6;continue;elifv5isnotNone:;ifv4[v5]=='_':;v1.append(Token(TokenType.PROPERTY,v4[v5:v6],(v3,v5)));elifv4[v5:v6]=='loop_':;v1.append(Token(TokenType.LOOP,v4[v5:v6],(v3,v5)));else:;v1.append(Token(TokenType.LITERAL,v4[v5:v6],(v3,v5)));v5=None;ifv7=='#':;v1.append(Token(TokenType.COMMENT,v4[v6+1:].strip(),(v3,v6)));break;elifnotv7.isspace():;raiseIOError();ifv5isnotNone:;ifv4[v5]=='_':;v1.append(Token(TokenType.PROPERTY,v4[v5:],(v3,v5)));elifv4[v5:]=='loop_':;v1.append(Token(TokenType.LOOP,v4[v5:],(v3,v5)));else:;v1.append(Token(TokenType.LITERAL,v4[v5:],(v3,v5)));v1.append(Token(TokenType.NEWLINE,None,(v3,0)));returnv1[::-1]" := rfl

/-- **The constructors are the documented ones** (whole-body dumps): `Token.__init__` stores the token type, the value AS GIVEN —
no normalisation, no trimming, no case folding — and the 1-based location; `Starfile.__init__` on an existing file is exactly
`self.read(file_path)` — nothing kept between two calls — and otherwise stores its arguments. The harness reads back through
`Starfile(path)` in a fifth of the write / read cases and in half of the repeated rounds on one path, and writes text cells, labels
and block names that Unicode normalisation would change. -/
theorem constructors_documented :
    Gen.C02.body_token_init = "v0.token_type=v1;v0.value=v2;v0.location=(v3[0]+1,v3[1]+1)" ∧
    Gen.C02.body_starfile_init = "ifv1andpath.isfile(v1):;v0.frames,v0.specifiers,v0.comments=v0.read(v1);else:;v0.frames=v2;v0.specifiers=v3;v0.comments=v4" :=
  ⟨rfl, rfl⟩

/-- **The whole of `Starfile.write` is the documented one** (normalised dump of every statement: the defaults, the length check,
the rounding, the `with`, the three nested functions — the label writers pass the name on uncut, `format_value` pads `str(value)`
uncut — the block loop with its row loop, and nothing after it). What `printStarC` / `printBlock` / `labelText` / `padCell` /
`rowText` model; the literal pieces are compared with the source on every run by `writer_literals_documented`, the blanks
inside string literals by the framework's binding fingerprint. A statement added anywhere in the function breaks this theorem. -/
theorem writer_body_documented :
    Gen.C02.body_write = "ifv2isNone:;v2=['data']*len(v0);ifv3isNone:;v3=(None,)*len(v0);iflen(v0)!=len(v2)orlen(v0)!=len(v3)orlen(v2)!=len(v3):;raiseValueError();forv6,v7inenumerate(v0):;v0[v6]=v7.round(v5);withopen(v1,'w')asv8:;;defv9(v10,v11):;v8.write(f'_{v10}#{v11}\\n');;defv12(v13,v14):;v8.write(f'_{v13}\\n');;defv15(v16):;return'{:<10}'.format(str(v16));forv17,v18,v19inzip(v0,v2,v3):;v17=v17.map(v15)ifhasattr(v17,'map')elsev17.applymap(v15);v20='stopgap'inv18;v21=v12ifnotv4orv20elsev9;ifv19isnotNone:;forv22inv19:;v8.write(f'\\n#{v22}');v8.write('\\n');v8.write(f'\\n{v18}\\n\\n');v8.write('loop_\\n');forv23,v24inenumerate(v17.columns,1):;v21(v24,v23);ifv20:;v8.write('\\n');forv25inv17.itertuples(index=False):;v8.write('\\t'.join(map(str,v25))+'\\n');v8.write('\\n')" := rfl

/-- **The parser half is the documented one**: whole-body dumps (statement kinds and expressions,
locals renamed, messages dropped) of `parse_specifier`, `parse_columns`, `parse_column`, `parse_rows`,
`check`, `consume`, `check_then_consume`, `lookahead`, the loop of `Starfile.read` and
`_to_numeric_if_possible` — what `parseSpecifier`, `parseColumns`, `parseLabels`, `rowsGo`,
`lookaheadLit`, `blocksGoC` and `colNumeric` model. An added, removed or changed statement breaks
this theorem; a renamed local, an added type annotation or a reworded error message does not; the
spellings `len(x) == 0` / `not x` and `len(x) > 0` / `x` are folded (the dump shows `not x` / `x`). -/
theorem parser_documented :
    Gen.C02.body_parse_specifier = "v1=Token.parse_newline_or_comments(v0);v2=Token.consume(v0,TokenType.LITERAL);return(v1,v2.value)" ∧
    Gen.C02.body_parse_columns = "v1=Token.parse_newline_or_comments(v0);v2=[];Token.consume(v0,TokenType.LOOP);Token.consume(v0,TokenType.NEWLINE);whileToken.check(v0,TokenType.PROPERTY):;v3=Token.parse_column(v0);v2.append(v3);return(v1,v2)" ∧
    Gen.C02.body_parse_column = "v1=Token.consume(v0,TokenType.PROPERTY);Token.check_then_consume(v0,TokenType.COMMENT);Token.consume(v0,TokenType.NEWLINE);returnv1.value[1:]" ∧
    Gen.C02.body_parse_rows = "v2=Token.parse_newline_or_comments(v0);v3=False;v4=[];whilenotv3:;v5=[];forv6inrange(len(v1)):;v7=Token.check_then_consume(v0,TokenType.LITERAL);ifv7isNone:;v3=True;break;else:;v5.append(v7.value);else:;Token.consume(v0,TokenType.NEWLINE);v4.append(v5);return(v2,pd.DataFrame(v4,columns=v1))" ∧
    Gen.C02.body_check = "ifnotv0:;raiseIOError();ifv0[-1].token_type==v1:;returnTrue;returnFalse" ∧
    Gen.C02.body_consume = "ifnotv0:;raiseIOError();ifv0[-1].token_type==v1:;returnv0.pop();else:;raiseIOError()" ∧
    Gen.C02.body_check_then_consume = "ifv0andv0[-1].token_type==v1:;returnToken.consume(v0,v1);returnNone" ∧
    Gen.C02.body_lookahead = "v2=set(v2);forv3inrange(len(v0)-1,-1,-1):;ifv0[v3].token_type==v1:;returnTrue;elifv0[v3].token_typeinv2:;continue;else:;break;returnFalse" ∧
    Gen.C02.body_read = "withopen(v0,mode='r')asv2:;v3=v2.read();v4=Token.tokenize(v3);v5=[];v6=[];v7=[];whileToken.lookahead(v4,TokenType.LITERAL,[TokenType.NEWLINE,TokenType.COMMENT]):;v8,v9=Token.parse_specifier(v4);v10,v11=Token.parse_columns(v4);v12,v13=Token.parse_rows(v4,v11);v6.append(v8+v10+v12);v7.append(v9);v5.append(v13);Token.parse_newline_or_comments(v4);ifv4:;raiseIOError();forv14,v15inenumerate(v5):;v5[v14]=v15.apply(Starfile._to_numeric_if_possible);ifv1isnotNone:;return(v5[v1],v7[v1],v6[v1]);else:;return(v5,v7,v6)" ∧
    Gen.C02.body_to_numeric_if_possible = "try:;returnpd.to_numeric(v0);except(ValueError,TypeError):;returnv0" :=
  ⟨rfl, rfl, rfl, rfl, rfl, rfl, rfl, rfl, rfl, rfl⟩

/-- `Starfile.remove_lines` is the documented one (what `removeLines` models): read, block 0 or the
block `get_specifier_id` finds (absent: a warning and nothing written), drop the rows at the given
positions, write the frames back with the specifiers and comments `read` returned -/
theorem remove_lines_documented :
    Gen.C02.body_remove_lines = "v5,v6,v7=Starfile.read(v0);ifv3isNone:;v8=0;else:;v8=Starfile.get_specifier_id(v6,v3);ifv8isNone:;warnings.warn();return;v9=v5[v8].index[v1];v5[v8]=v5[v8].drop(v9);v5[v8].reset_index(drop=True,inplace=True);ifv2isnotNone:;Starfile.write(v5,v2,specifiers=v6,comments=v7,number_columns=v4);else:;return(v5,v6,v7)" := rfl

/-- **Line tokenizer.** For every decomposition of a line into leading blanks, words (non-empty, no
white space, no `#`) each followed by a run of blanks/tabs/CR (non-empty between two words), and an
optional `# comment`, the character loop of `Token.tokenize` returns exactly those words, in order,
and that comment. -/
theorem tokenizeLine_spec (lead : List Char) (items : List (Word × List Char)) (tl : List Char)
    (hl : PadOk lead) (hw : ∀ p ∈ items, WordOk p.1 ∧ PadOk p.2) (hs : SepsOk items) (ht : Tail tl) :
    tokenizeLine (lead ++ (render items ++ tl)) = finish ((items.map (·.1)).reverse) tl :=
  tokenizeLine_line ⟨lead, items, tl⟩ ⟨hl, hw, hs, ht⟩

/-- the tokens of such a line: its words classified (`_…` PROPERTY, `loop_` LOOP, else LITERAL), the
comment, NEWLINE -/
theorem line_tokens (l : Line) (h : l.Ok) : lineToks l.text = l.toks := lineToks_line l h

/-- `text.split("\n")` followed by the line tokenizer sees a text line by line -/
theorem text_tokens (ls : List Line) (hne : ls ≠ []) (h : ∀ l ∈ ls, l.Ok) :
    tokenize (joinLines (ls.map Line.text)) = ls.flatMap Line.toks := tokenize_lines ls hne h

/-- **Any well laid-out STAR text is read into exactly its blocks, labels and row tokens.**
`d` ranges over all documents of the layout grammar of the statement (`Doc.Ok`): any number of data
blocks with one loop each; blank and `#` comment lines before a block, between its name and `loop_`,
after the column labels, between blocks and at the end; labels with or without a trailing `#n`
comment; tokens separated by arbitrary runs of blanks/tabs with leading and trailing blanks; with or
without final newline; an empty loop only last. No bound on sizes. -/
theorem read_any_layout (d : Doc) (h : d.Ok) : readStar d.text = .ok (d.blocks.map BlockLayout.block) := by
  rw [← readStarC_tables, readStarC_doc d h, dropC_zip _ _ (by rw [docComs_length, List.length_map])]

/-- **Numeric typing of a column**: a column of a non-empty block is numeric iff every one of its
cells is a number; all other columns keep their cells as the unchanged texts `readStar` returned. -/
theorem column_typing (isNum : Word → Bool) (rows : List (List Word)) (j : Nat) :
    colNumeric isNum rows j = true ↔ rows ≠ [] ∧ ∀ r ∈ rows, isNum (r.getD j []) = true := by
  simp [colNumeric, column, List.all_eq_true]

/-- **Round trip.** For any list of tables — any number of blocks, any sizes, numbered (RELION) or
un-numbered header (`number_columns` off, or a STOPGAP block name), cells any texts that are words
(non-empty, no white space, no `#`), do not start with `_` and are not the reserved word `loop_`,
at least one column, an empty table only as the last block — reading the text `Starfile.write`
produces returns the same block names, column names and rows of cells, all in order. -/
theorem star_roundtrip (numberColumns : Bool) (bs : List Block) (h : ∀ b ∈ bs, BlockOk b)
    (he : EmptyOnlyLast bs) : readStar (printStar numberColumns bs) = .ok bs :=
  Export.star_roundtrip numberColumns bs h he

/-- the written text *is* a document of the layout grammar (so every fact about reading laid-out
texts applies to files written by cryoCAT) -/
theorem written_text_is_laid_out (numberColumns : Bool) (bs : List Block) (hne : bs ≠ [])
    (h : ∀ b ∈ bs, BlockOk b) (he : EmptyOnlyLast bs) :
    (docOf numberColumns bs).Ok ∧ (docOf numberColumns bs).text = printStar numberColumns bs :=
  ⟨docOf_ok numberColumns bs h he, docOf_text numberColumns bs hne⟩

/-- **The recogniser is the grammar.** `isNumTok` — what the driver runs to type a column, the model of
`pandas.to_numeric` on one cell — accepts exactly the tokens of the declarative grammar `NumTok`:
`[+-]?(d+[.d*]|.d+)([eE][+-]?d+)?` or `[+-]?(inf|infinity)` in any letter case. -/
theorem numeric_grammar (w : Word) : isNumTok w = true ↔ NumTok w := isNumTok_iff w

/-- **Every cell the writer prints for a number is a number token, every text cell of the
quantifier is not.** `str(n)` of any integer; `repr` of any finite float, laid out from *any*
non-empty digit string and *any* decimal-point position (fixed form, `.0`, exponent form beyond 16 /
below -4 digits, two-digit exponent); `inf`/`-inf`. Conversely a cell outside the grammar — in
particular any word containing a character that no number contains — is never typed as a number. -/
theorem writer_cells_numeric :
    (∀ n : Int, isNumTok (cellText (.int n)) = true) ∧
    (∀ (neg : Bool) (ds : Word) (decpt : Int), ds ≠ [] → AllDigits ds → isNumTok (cellText (.flt (.fin neg ds decpt))) = true) ∧
    (∀ neg : Bool, isNumTok (cellText (.flt (.inf neg))) = true) ∧
    (∀ w : Word, ¬ NumTok w → isNumTok w = false) ∧
    (∀ (w : Word) (c : Char), c ∈ w → numChar c = false → isNumTok w = false) := by
  refine ⟨fun n => (isNumTok_iff _).2 (Or.inl (intStr_dec n)),
    fun neg ds decpt h1 h2 => (isNumTok_iff _).2 (Or.inl (floatRepr_dec neg ds decpt h1 h2)),
    fun neg => (isNumTok_iff _).2 (Or.inr (infStr_inf neg)),
    fun w h => Bool.eq_false_iff.2 fun hb => h ((isNumTok_iff w).1 hb),
    fun w c hc h => Bool.eq_false_iff.2 fun hb => not_numTok_of_char w c hc h ((isNumTok_iff w).1 hb)⟩

/-- outside the quantifier, recorded: a NaN is printed as `nan`, which `to_numeric` (and the model)
does not take for a number — a float column holding a NaN comes back as text -/
theorem nan_cell_reads_as_text : isNumTok (cellText (.flt .nan)) = false := by decide

/-- the printed number cells are cells the round trip is claimed for (no white space, no `#`, not a
label, not `loop_`), so `star_roundtrip` applies to every table of typed cells -/
theorem number_cells_are_cells (c : Cell) (h : CellWF c) : CellOk (cellText c) := cellText_ok c h

/-- **A written column comes back numeric iff it was written from numbers** (`column_typing` applied
to the printed cells): for a non-empty table of integers, floats and text cells, column `j` of the
printed texts is typed numeric exactly when every cell of the column was an integer, a finite or
infinite float, or a text that is itself a number token. -/
theorem written_column_typing (rows : List (List Cell)) (j : Nat) (hj : ∀ r ∈ rows, j < r.length)
    (hwf : ∀ r ∈ rows, ∀ c ∈ r, CellWF c) :
    colNumeric isNumTok (rows.map (fun r => r.map cellText)) j = true ↔
      rows ≠ [] ∧ ∀ r ∈ rows, ∀ c, r[j]? = some c → c.isNumber = true :=
  Export.written_column_typing rows j hj hwf

/-- **Round trip of typed tables**: writing tables of integers, floats (any digit strings) and text
cells and reading the file back returns the printed cells block by block, and every column of a
non-empty block is typed numeric iff it was written from numbers. -/
theorem typed_roundtrip (numberColumns : Bool) (bs : List TBlock) (h : ∀ b ∈ bs, TBlockOk b)
    (he : EmptyOnlyLast (bs.map TBlock.texts)) :
    readStar (printTyped numberColumns bs) = .ok (bs.map TBlock.texts) ∧
    ∀ b ∈ bs, ∀ j < b.cols.length,
      (colNumeric isNumTok b.texts.rows j = true ↔ b.rows ≠ [] ∧ ∀ r ∈ b.rows, ∀ c, r[j]? = some c → c.isNumber = true) :=
  Export.typed_roundtrip numberColumns bs h he

/-- a CR at the end of a line is white space (or the last character of a comment, which `strip`
removes): the tokens of the line do not change -/
theorem cr_at_line_end (l : List Char) : lineToks (l ++ ['\r']) = lineToks l := lineToks_cr l

/-- **CRLF normalisation**: for every text, the CRLF form (each `\n` replaced by `\r\n`) has the same
tokens, hence is read into the same blocks, kinds and comments — whether or not the I/O layer
translates line ends before the tokenizer sees them. (A CR *not* followed by a line break is outside
the quantifier: the model treats it as white space, universal-newline I/O as a line break.) -/
theorem crlf_normalisation (txt : List Char) :
    tokenize (toCRLF txt) = tokenize txt ∧ readStar (toCRLF txt) = readStar txt ∧ readStarC (toCRLF txt) = readStarC txt := by
  refine ⟨tokenize_crlf txt, ?_, ?_⟩
  · unfold readStar; rw [tokenize_crlf]
  · unfold readStarC; rw [tokenize_crlf]

/-- **Comments never change the parsed tables**: `Starfile.read` with the comment lists it collects
returns, for every text, exactly the outcome of the token reader (the same blocks or the same error) -/
theorem comments_never_change_tables (txt : List Char) : dropC (readStarC txt) = readStar txt := readStarC_tables txt

/-- **The `comments` argument of `Starfile.write` never changes the tables read back**: whatever
comment lines (without line breaks) are written in front of the blocks, `None` or a list per block. -/
theorem written_comments_keep_tables (numberColumns : Bool) (coms : List (Option (List Comment))) (bs : List Block)
    (txt : List Char) (hw : printStarC numberColumns coms bs = some txt) (hc : ComsOk coms)
    (h : ∀ b ∈ bs, BlockOk b) (he : EmptyOnlyLast bs) : readStar txt = .ok bs :=
  readStar_printStarC numberColumns coms bs txt hw hc h he

/-- `comments=None` writes `printStar`; lists of different lengths are the `ValueError` -/
theorem write_comments_argument (numberColumns : Bool) (bs : List Block) :
    printStarC numberColumns (List.replicate bs.length none) bs = some (printStar numberColumns bs) ∧
    ∀ coms : List (Option (List Comment)), coms.length ≠ bs.length → printStarC numberColumns coms bs = none := by
  refine ⟨by simp [printStarC, printAllC_none], fun coms h => by simp [printStarC, h]⟩

/-- **`data_id = i` returns the `i`-th block** of the full read (negative `i` counts from the end as
Python does), an index out of range is the `IndexError`, and a text that does not parse fails the
same way with or without `data_id` (the whole file is parsed first). -/
theorem data_id_selects (txt : List Char) :
    (∀ bs, readStarC txt = .ok bs → ∀ k (hk : k < bs.length),
        readSel txt (k : Int) = .ok bs[k] ∧ readSel txt (-((bs.length - k : Nat) : Int)) = .ok bs[k]) ∧
    (∀ bs, readStarC txt = .ok bs → ∀ i : Int, (i ≥ bs.length ∨ i < -(bs.length : Int)) → readSel txt i = .error .index) ∧
    (∀ e, readStarC txt = .error e → ∀ i, readSel txt i = .error (.parse e)) := by
  refine ⟨?_, ?_, ?_⟩
  · intro bs hb k hk
    unfold readSel
    simp only [hb]
    constructor
    · rw [pyIndex_nonneg _ _ hk]; simp [hk]
    · rw [pyIndex_neg _ _ (by omega) (by omega)]
      have : bs.length - (bs.length - k) = k := by omega
      simp [this, hk]
  · intro bs hb i hi
    unfold readSel
    simp only [hb]
    have : pyIndex bs.length i = none := by
      unfold pyIndex
      split <;> rw [if_neg] <;> omega
    rw [this]
  · intro e he i
    unfold readSel
    simp [he]

/-- **The comments of any well laid-out STAR text**: besides its blocks (`read_any_layout`) the
reader returns, per block, the stripped comments of the comment lines before the block, on its name
line, between the name and `loop_` and after the labels, in that order; comments on label lines are
not recorded; comments after the last block are dropped unless that block has no rows. -/
theorem read_any_layout_comments (d : Doc) (h : d.Ok) :
    readStarC d.text = .ok ((d.blocks.map BlockLayout.block).zip (docComs d.trailing d.blocks)) := readStarC_doc d h

/-- **Written comments read back**: reading the text `Starfile.write` produces with a `comments`
argument returns every table together with the comments written for it, each stripped of leading and
trailing white space, in order (`None` reads back as no comments). -/
theorem written_comments_read_back (numberColumns : Bool) (coms : List (Option (List Comment))) (bs : List Block)
    (txt : List Char) (hw : printStarC numberColumns coms bs = some txt) (hc : ComsOk coms)
    (h : ∀ b ∈ bs, BlockOk b) (he : EmptyOnlyLast bs) : readStarC txt = .ok (bs.zip (coms.map comRead)) :=
  readStarC_printStarC numberColumns coms bs txt hw hc h he

/-- `data_id` on a written file: block `k` of the tables handed to `Starfile.write`, with its comments -/
theorem written_block_by_data_id (numberColumns : Bool) (coms : List (Option (List Comment))) (bs : List Block)
    (txt : List Char) (hw : printStarC numberColumns coms bs = some txt) (hc : ComsOk coms)
    (h : ∀ b ∈ bs, BlockOk b) (he : EmptyOnlyLast bs) (k : Nat) (hk : k < bs.length) (hk' : k < coms.length) :
    readSel txt (k : Int) = .ok (bs[k], comRead coms[k]) := by
  have h1 := readStarC_printStarC numberColumns coms bs txt hw hc h he
  have hlen : k < (bs.zip (coms.map comRead)).length := by simp [List.length_zip]; omega
  rw [((data_id_selects txt).1 _ h1 k hlen).1]
  simp [List.getElem_zip]

/-- **`get_specifier_id`** returns the first index holding the specifier, `None` iff there is none -/
theorem specifier_id_first (names : List Word) (s : Word) :
    (∀ k, specifierId names s = some k ↔ names[k]? = some s ∧ ∀ j < k, names[j]? ≠ some s) ∧
    (specifierId names s = none ↔ s ∉ names) :=
  ⟨specifierId_some names s, specifierId_none names s⟩

/-- **`get_frame_and_comments`** returns the first block of the full read whose name is the
specifier, raises the `ValueError` iff no block has that name, and fails like the reader otherwise -/
theorem get_frame_and_comments_spec (txt : List Char) (s : Word) :
    (∀ bs, readStarC txt = .ok bs → ∀ k, specifierId (bs.map (·.1.name)) s = some k →
        ∃ hk : k < bs.length, getFrameAndComments txt s = .ok bs[k] ∧ bs[k].1.name = s) ∧
    (∀ bs, readStarC txt = .ok bs → s ∉ bs.map (·.1.name) → getFrameAndComments txt s = .error .noEntry) ∧
    (∀ e, readStarC txt = .error e → getFrameAndComments txt s = .error (.parse e)) := by
  refine ⟨?_, ?_, ?_⟩
  · intro bs hb k hk
    have h1 := ((specifierId_some _ s k).1 hk).1
    have hlt : k < bs.length := by
      have := (List.getElem?_eq_some_iff.1 h1).1
      simpa using this
    refine ⟨hlt, ?_, ?_⟩
    · unfold getFrameAndComments
      simp [hb, hk, hlt]
    · simpa [List.getElem?_map, List.getElem?_eq_getElem hlt] using h1
  · intro bs hb hs
    unfold getFrameAndComments
    simp [hb, (specifierId_none _ s).2 hs]
  · intro e he
    unfold getFrameAndComments
    simp [he]

/-- **`isWs` is the full `str.isspace` set** (without the line feed the text is split at): TAB, VT, FF,
CR, U+001C–U+001F, blank, U+0085, U+00A0, U+1680, U+2000–U+200A, U+2028, U+2029, U+202F, U+205F,
U+3000 — so `WordOk`/`CellOk`/`PadOk` (hence `tokenizeLine_spec`, `read_any_layout`, `star_roundtrip`)
speak about exactly the words Python's tokenizer sees. The harness compares this set with
`str.isspace` over all 1 114 112 code points on every run. -/
theorem isWs_is_str_isspace (c : Char) :
    isWs c = true ↔ (c.toNat = 0x09 ∨ (0x0B ≤ c.toNat ∧ c.toNat ≤ 0x0D) ∨ (0x1C ≤ c.toNat ∧ c.toNat ≤ 0x20) ∨ c.toNat = 0x85 ∨
      c.toNat = 0xA0 ∨ c.toNat = 0x1680 ∨ (0x2000 ≤ c.toNat ∧ c.toNat ≤ 0x200A) ∨ (0x2028 ≤ c.toNat ∧ c.toNat ≤ 0x2029) ∨
      c.toNat = 0x202F ∨ c.toNat = 0x205F ∨ c.toNat = 0x3000) :=
  isWs_iff c

/-- **Integer typing of written cells**: `str(n)` of any integer is an integer token (`[+-]?d+`), the
`repr` of any float — finite from any digit string, infinite, NaN — never is; so (with
`written_int_column_typing`) an integer column comes back integer-typed and a float column does not. -/
theorem writer_cells_integer :
    (∀ n : Int, isIntTok (cellText (.int n)) = true) ∧ (∀ f : FloatVal, isIntTok (cellText (.flt f)) = false) :=
  ⟨intStr_isInt, floatStr_not_int⟩

/-- **A written column comes back integer-typed iff it was written from integers** (or from text cells
that are themselves integer tokens), for a non-empty table of any typed cells -/
theorem written_int_column_typing (rows : List (List Cell)) (j : Nat) (hj : ∀ r ∈ rows, j < r.length) :
    colNumeric isIntTok (rows.map (fun r => r.map cellText)) j = true ↔
      rows ≠ [] ∧ ∀ r ∈ rows, ∀ c, r[j]? = some c → c.isInteger = true :=
  typed_column_gen isIntTok Cell.isInteger rows j hj (fun _ _ c _ => cell_int_iff c)

/-- **`specifiers=None`**: the tables are written under the name `data` each, and — the name `data`
being a cell the round trip is claimed for — read back as such -/
theorem default_specifiers_roundtrip (numberColumns : Bool) (bs : List Block) (h : ∀ b ∈ bs, BlockOk b)
    (he : EmptyOnlyLast bs) :
    (withDefaultNames bs).map Block.name = defaultSpecifiers bs.length ∧
    readStar (printStar numberColumns (withDefaultNames bs)) = .ok (withDefaultNames bs) := by
  refine ⟨by simp [withDefaultNames, defaultSpecifiers, List.map_map, Function.comp_def, List.map_const'], ?_⟩
  apply star_roundtrip
  · intro b hb
    obtain ⟨b0, hb0, rfl⟩ := List.mem_map.1 hb
    obtain ⟨_, h2, h3, h4⟩ := h b0 hb0
    exact ⟨(by decide : CellOk Gen.C02.defaultSpecifier), h2, h3, h4⟩
  · exact emptyOnlyLast_map _ (fun _ => by rfl) bs he

/-- **`remove_lines` keeps exactly the rows at positions not listed, in order** -/
theorem remove_lines_rows {α : Type} (idx : List Nat) (rows : List α) :
    (dropRows idx rows).Sublist rows ∧ (∀ x, x ∈ dropRows idx rows ↔ ∃ k, rows[k]? = some x ∧ k ∉ idx) ∧
    dropRows [] rows = rows := by
  refine ⟨dropRows_sublist idx rows, fun x => ?_, dropRowsGo_nil 0 rows⟩
  have := dropRowsGo_mem idx 0 rows x
  simpa [dropRows] using this

/-- **`remove_lines` round trip**: the file it writes — the tables with the listed rows of block `k`
dropped, under the comments `read` returned — is read back as exactly those tables with those comments
(stripped), as long as no block but the last becomes empty. -/
theorem remove_lines_roundtrip (numberColumns : Bool) (bs : List Block) (coms : List (List Comment)) (k : Nat) (idx : List Nat)
    (txt : List Char) (hw : printStarC numberColumns (coms.map some) (dropAt bs k idx) = some txt)
    (hc : ComsOk (coms.map some)) (h : ∀ b ∈ bs, BlockOk b) (he : EmptyOnlyLast (dropAt bs k idx)) :
    readStarC txt = .ok ((dropAt bs k idx).zip (coms.map (fun cs => cs.map stripWs))) := by
  have := readStarC_printStarC numberColumns (coms.map some) (dropAt bs k idx) txt hw hc (dropAt_ok bs k idx h) he
  simpa [List.map_map, Function.comp_def, comRead] using this

/-- **`removeLines` — the function the driver executes for `Starfile.remove_lines` — is `dropAt` on the blocks read, written back
under the comments read**: every outcome. A text that does not parse fails like the reader; an absent `data_specifier` is the
"not found" warning (nothing written); otherwise block `k` (block 0, or the first block of that name) loses the listed rows —
`dropAt`, whose rows are characterised by `remove_lines_rows` — and the text written is `printStarC` of those blocks with the
comment lists `read` returned (never the `ValueError`: the lists have equal lengths); a position beyond the last row is the
`IndexError`. -/
theorem remove_lines_is_dropAt (txt : List Char) (idx : List Nat) (spec : Option Word) (numberColumns : Bool) :
    (∀ e, readStarC txt = .error e → removeLines txt idx spec numberColumns = .error (.sel (.parse e))) ∧
    (∀ bcs, readStarC txt = .ok bcs → removeTarget bcs spec = none → removeLines txt idx spec numberColumns = .error .notFound) ∧
    (∀ bcs k, readStarC txt = .ok bcs → removeTarget bcs spec = some k → ∀ hk : k < bcs.length,
      ((∀ i ∈ idx, i < bcs[k].1.rows.length) →
        removeLines txt idx spec numberColumns = .ok (printAllC numberColumns (comsOf bcs) (dropAt (blocksOf bcs) k idx)) ∧
        printStarC numberColumns (comsOf bcs) (dropAt (blocksOf bcs) k idx) = some (printAllC numberColumns (comsOf bcs) (dropAt (blocksOf bcs) k idx))) ∧
      (¬ (∀ i ∈ idx, i < bcs[k].1.rows.length) → removeLines txt idx spec numberColumns = .error .rowIndex)) := by
  refine ⟨fun e he => by unfold removeLines; simp [he], fun bcs hb ht => by rw [removeLines_read _ _ _ _ bcs hb, ht],
    fun bcs k hb ht hk => ?_⟩
  have hall : idx.all (· < bcs[k].1.rows.length) = true ↔ ∀ i ∈ idx, i < bcs[k].1.rows.length := by simp
  rw [removeLines_read _ _ _ _ bcs hb, ht]
  simp only [List.getElem?_eq_getElem hk]
  exact ⟨fun hi => ⟨if_pos (hall.2 hi), printStarC_dropAt numberColumns bcs k idx⟩, fun hi => if_neg (mt hall.1 hi)⟩

/-- **What `remove_lines` writes is read back as the tables without the listed rows**, stated about `removeLines` itself: if the
input text reads as `bcs`, the target block is `k` and every listed position exists, then `removeLines` succeeds and its output is
read back as `dropAt (blocks) k idx` with the comments of the input (stripped) — as long as the blocks and comments read are ones
the writer's round trip is claimed for and no block but the last becomes empty. -/
theorem remove_lines_reads_back (numberColumns : Bool) (txt : List Char) (bcs : List (Block × List Comment)) (spec : Option Word)
    (k : Nat) (idx : List Nat) (hr : readStarC txt = .ok bcs) (ht : removeTarget bcs spec = some k) (hk : k < bcs.length)
    (hi : ∀ i ∈ idx, i < bcs[k].1.rows.length) (hc : ComsOk (comsOf bcs)) (h : ∀ b ∈ blocksOf bcs, BlockOk b)
    (he : EmptyOnlyLast (dropAt (blocksOf bcs) k idx)) :
    ∃ out, removeLines txt idx spec numberColumns = .ok out ∧
      readStarC out = .ok ((dropAt (blocksOf bcs) k idx).zip (bcs.map (fun p => p.2.map stripWs))) := by
  obtain ⟨h1, h2⟩ := ((remove_lines_is_dropAt txt idx spec numberColumns).2.2 bcs k hr ht hk).1 hi
  refine ⟨_, h1, ?_⟩
  have hcoms : comsOf bcs = (bcs.map (fun p => p.2)).map some := by simp [comsOf, List.map_map, Function.comp_def]
  rw [hcoms] at h2 hc ⊢
  have := remove_lines_roundtrip numberColumns (blocksOf bcs) (bcs.map (fun p => p.2)) k idx _ h2 hc h he
  simpa [List.map_map, Function.comp_def] using this

/-- a text ending on the last label line of an empty last block, no final newline (class C02-K3) -/
abbrev k3Doc : Doc :=
  { blocks := [{ pre := [], name := "data_".toList, nameLine := ⟨[], [("data_".toList, [])], []⟩, mid := [],
                 loopLine := ⟨[], [("loop_".toList, [])], []⟩, cols := ["a".toList],
                 labels := [⟨[], [("_a".toList, [])], []⟩], post := [], rows := [] }],
    trailing := [] }
/-- two blocks with no blank / comment line between them (class C02-K4) -/
abbrev k4Doc : Doc :=
  { blocks := [{ pre := [], name := "data_a".toList, nameLine := ⟨[], [("data_a".toList, [])], []⟩, mid := [],
                 loopLine := ⟨[], [("loop_".toList, [])], []⟩, cols := ["x".toList, "y".toList],
                 labels := [⟨[], [("_x".toList, [])], []⟩, ⟨[], [("_y".toList, [])], []⟩], post := [],
                 rows := [⟨[], [("1".toList, [' ']), ("2".toList, [])], []⟩] },
               { pre := [], name := "data_b".toList, nameLine := ⟨[], [("data_b".toList, [])], []⟩, mid := [],
                 loopLine := ⟨[], [("loop_".toList, [])], []⟩, cols := ["z".toList],
                 labels := [⟨[], [("_z".toList, [])], []⟩], post := [],
                 rows := [⟨[], [("3".toList, [])], []⟩] }],
    trailing := [⟨[], [], []⟩] }

def ReaderRejectsOutsideSepOk : Prop :=
  ∀ d : Doc, d.OkStatement → ¬ SepOk d.trailing d.blocks → ∃ e, readStar d.text = .error e

/-- **Every unseparated text of the statement's layout class is rejected** (the full classes of the open findings C02-K3 and
C02-K4, not only one witness each): if a document of `Doc.OkStatement` ends on the last label line of an empty last block
(`Token.check` raises on the exhausted queue), or a block's name line directly follows the rows of the previous block (the name
is consumed as a cell; the row loop then fails on a comment where the line end is due, or stops in front of `loop_` and the
block loop fails with left-over tokens), `Starfile.read` raises — whatever the number of blocks, their sizes and the layout of
everything else. -/
theorem reader_rejects_outside_sepOk : ReaderRejectsOutsideSepOk := fun d h hns => readStar_reject d h hns

/-- **Within the statement's layout class the reader accepts a text iff it is separated** — and then returns exactly its blocks:
`Doc.Ok` is not merely a class the reader happens to accept, it is ALL of the statement's class it accepts. -/
theorem reader_accepts_iff_separated (d : Doc) (h : d.OkStatement) :
    (readStar d.text = .ok (d.blocks.map BlockLayout.block) ↔ SepOk d.trailing d.blocks) ∧
    ((∃ bs, readStar d.text = .ok bs) ↔ SepOk d.trailing d.blocks) := by
  have hok : SepOk d.trailing d.blocks → readStar d.text = .ok (d.blocks.map BlockLayout.block) :=
    fun hs => read_any_layout d ⟨h.1, h.2.1, hs, h.2.2.2⟩
  have hsep : ∀ {bs}, readStar d.text = .ok bs → SepOk d.trailing d.blocks := by
    intro bs hr
    by_cases hs : SepOk d.trailing d.blocks
    · exact hs
    · obtain ⟨e, he⟩ := readStar_reject d h hs
      rw [he] at hr; cases hr
  exact ⟨⟨hsep, hok⟩, fun ⟨_, hr⟩ => hsep hr, fun hs => ⟨_, hok hs⟩⟩

/-- **The statement's layout class is strictly wider than what the reader accepts** (open findings C02-K3 and C02-K4; the reason
for the two extra constraints of `Doc.Ok`). (i) `Doc.Ok d ↔ Doc.OkStatement d ∧ SepOk …` — `Doc.OkStatement` is the layout grammar
exactly as worded ("blank and comment lines *may* … separate blocks", "with or without final newline", an empty loop only last),
`Doc.Ok` adds `SepOk`; by `read_any_layout` + `reader_accepts_iff_separated` the reader accepts exactly the `Doc.Ok` part.
(ii) one document of `OkStatement` without `SepOk` of each kind, with its text, that the reader rejects and that reads fine once a
line break / a blank line is added: (K3) a text ending on the last label line of an empty last block without final newline;
(K4) a block that directly follows the rows of the previous one. -/
theorem statement_layout_wider_than_reader :
    (∀ d : Doc, d.Ok ↔ d.OkStatement ∧ SepOk d.trailing d.blocks) ∧
    (k3Doc.OkStatement ∧ k3Doc.text = "data_\nloop_\n_a".toList ∧ readStar k3Doc.text = .error (.expected .prop true) ∧
      readStar "data_\nloop_\n_a\n".toList = .ok [{ name := "data_".toList, cols := ["a".toList], rows := [] }]) ∧
    (k4Doc.OkStatement ∧ k4Doc.text = "data_a\nloop_\n_x\n_y\n1 2\ndata_b\nloop_\n_z\n3\n".toList ∧
      readStar k4Doc.text = .error .trailing ∧
      readStar "data_a\nloop_\n_x\n_y\n1 2\n\ndata_b\nloop_\n_z\n3\n".toList =
        .ok [{ name := "data_a".toList, cols := ["x".toList, "y".toList], rows := [["1".toList, "2".toList]] },
             { name := "data_b".toList, cols := ["z".toList], rows := [["3".toList]] }]) := by
  refine ⟨fun d => ?_, ?_, ?_⟩
  rotate_left
  · unfold k3Doc
    -- the kernel decodes `"…".toList` through UTF-8, at a cost quadratic in the length; a literal IS `String.ofList` of its characters
    repeat rw [String.toList_ofList]
    exact ⟨by decide +kernel, by decide +kernel, by decide +kernel, by decide +kernel⟩
  · unfold k4Doc
    repeat rw [String.toList_ofList]
    exact ⟨by decide +kernel, by decide +kernel, by decide +kernel, by decide +kernel⟩
  exact ⟨fun h => ⟨h.okStatement, h.2.2.1⟩, fun ⟨⟨h1, h2, _, h4⟩, h3⟩ => ⟨h1, h2, h3, h4⟩⟩

/-- outside the quantifier, recorded: a text whose last row is short (`1 2` / `3` under two labels) is
not a STAR text of the statement; the reader (and the model) silently drops the incomplete row -/
theorem short_last_row_dropped :
    readStar "data_\nloop_\n_a\n_b\n1 2\n3\n".toList =
      .ok [{ name := "data_".toList, cols := ["a".toList, "b".toList], rows := [["1".toList, "2".toList]] }] := by decide +kernel

/-- **Witness for the open finding C02-K1** (and the reason `loop_` is excluded in `BlockOk`): a text
cell equal to the reserved word is written verbatim and the reader then fails. -/
theorem loop_cell_breaks_roundtrip :
    readStar (printStar true [{ name := "data_".toList, cols := ["t".toList], rows := [["loop_".toList]] }])
      = .error .trailing := by decide +kernel

/-- the hypothesis "an empty table only as the last block" is needed: after an empty loop the next
block name is consumed as a cell -/
theorem empty_block_not_last_breaks :
    readStar (printStar true [{ name := "data_a".toList, cols := ["x".toList], rows := [] },
                              { name := "data_b".toList, cols := ["y".toList], rows := [["1".toList]] }])
      ≠ .ok [{ name := "data_a".toList, cols := ["x".toList], rows := [] },
             { name := "data_b".toList, cols := ["y".toList], rows := [["1".toList]] }] := by decide +kernel

/-- **Witness for the open finding C02-K5**: by the statement a column holding the tokens `9223372036854775808` (= 2^63) and
`-1` is a numeric — indeed an integer — column (both are number tokens of the grammar, with exact values 2^63 and −1);
`pandas.to_numeric` gives up on the mix of the unsigned 64-bit range with a negative value and silently returns the strings, so
`Starfile.read` returns the column as text (shown by the harness; no exception is raised that `_to_numeric_if_possible` could
notice). -/
theorem uint64_with_negative_is_numeric :
    blockKinds isNumTok { name := "data_".toList, cols := ["id".toList], rows := [["9223372036854775808".toList], ["-1".toList]] } = [true] ∧
    blockInts { name := "data_".toList, cols := ["id".toList], rows := [["9223372036854775808".toList], ["-1".toList]] } = [true] ∧
    decValue "9223372036854775808".toList = some ((2 ^ 63 : Nat) : Rat) ∧ decValue "-1".toList = some (-1) := by
  repeat rw [String.toList_ofList]
  exact ⟨by decide +kernel, by decide +kernel, by decide +kernel, by decide +kernel⟩

/-! The value clause, "numeric values equal after rounding to 6 decimals": read side, exact arithmetic. -/

/-- **The exact value of a decimal token.** For every literal of the grammar — sign, integer digits, optional fraction,
optional exponent `e`/`E` with its own sign — `decValue` returns `± (integer and fractional digits read as one number) ·
10^(exponent − number of fractional digits)`; and `decValue` is defined exactly on the tokens the recogniser `isDecTok`
(= the grammar, `numeric_grammar`) accepts: `inf`, `nan` and text have no value. -/
theorem decimal_token_value :
    (∀ d : Dec, d.Ok → decValue d.text = some d.value) ∧
    (∀ w : Word, (decValue w).isSome = isDecTok w) ∧
    (∀ w : Word, isDecTok w = true → ∃ d : Dec, d.Ok ∧ w = d.text ∧ decValue w = some d.value) :=
  ⟨decValue_dec, decValue_isSome, decValue_of_isDecTok⟩

/-- **The cells the writer prints denote the numbers they were printed from, whichever form `repr` chooses**: `str(n)` of an
integer has the exact value `n`; the cell laid out from ANY non-empty digit string and ANY decimal-point position (fixed form with
leading or trailing zeros, `.0`, exponent form beyond 16 / below −4 digits with sign and two-digit exponent) has the exact value
`± digits · 10^(decpt − number of digits)`. (The digit string itself — numpy's `round` and the shortest round-trip digits — is
not modelled: see `written_value_meets_clause` for what is asked of it.) -/
theorem written_cell_value :
    (∀ n : Int, decValue (cellText (.int n)) = some (n : Rat)) ∧
    (∀ (neg : Bool) (ds : Word) (decpt : Int), ds ≠ [] → AllDigits ds →
      decValue (cellText (.flt (.fin neg ds decpt))) = some (digitsValue neg ds decpt)) :=
  ⟨decValue_intStr, decValue_floatRepr⟩

/-- **The checker decides the clause.** `round6Ok` — run by the driver on every float cell of every file the real
`Starfile.write` produces, with `p = Gen.C02.floatPrecision` read from the source — is true exactly when the token is a decimal
literal whose exact value `d` has at most `p` fractional digits and `|d − v| ≤ ½·10⁻ᵖ + ulps·ulp`. -/
theorem round6Ok_iff (p ulps : Nat) (v ulp : Rat) (tok : Word) :
    round6Ok p ulps v ulp tok = true ↔ Round6Spec p ulps v ulp tok := by
  unfold round6Ok Round6Spec
  cases decValue tok <;> simp

/-- **Value clause of the round trip.** A float cell `v` printed from the digits `(neg, ds, decpt)` meets the clause "equal after
rounding to `p` decimals" — as checked on the FILE — iff the digits do: the printed token's exact value is the digits' value
(`written_cell_value`), so any "round to `p` decimals, then print" writer whose digit string is within half a unit of the `p`-th
decimal (plus the floating-point allowance) of `v` and has at most `p` fractional digits yields a token that reads back — by exact
decimal parsing — to a value within that distance of `v`. -/
theorem written_value_meets_clause (p ulps : Nat) (v ulp : Rat) (neg : Bool) (ds : Word) (decpt : Int) (hne : ds ≠ []) (hd : AllDigits ds) :
    (Round6Spec p ulps v ulp (cellText (.flt (.fin neg ds decpt))) ↔
      ((digitsValue neg ds decpt * ((10 ^ p : Nat) : Rat)).den = 1 ∧ absQ (digitsValue neg ds decpt - v) ≤ halfUnit p + (ulps : Rat) * ulp)) ∧
    (Round6Spec p ulps v ulp (cellText (.flt (.fin neg ds decpt))) →
      ∃ d, decValue (cellText (.flt (.fin neg ds decpt))) = some d ∧ absQ (d - v) ≤ halfUnit p + (ulps : Rat) * ulp) :=
  ⟨round6Spec_of_value (decValue_floatRepr neg ds decpt hne hd), fun ⟨d, h1, _, h3⟩ => ⟨d, h1, h3⟩⟩

/-- the number of decimals and the allowance the driver's check runs with are the documented ones: `float_precision = 6` (read
from the regenerated `Gen.C02.floatPrecision`: an edit of the default changes what the checker asks) and 3 units in the last place -/
theorem round6Cell_documented (bits : Nat) (tok : Word) :
    round6Cell bits tok = (match bitsValue bits with
      | some (v, ulp) => round6Ok 6 3 v ulp tok
      | none => false) := rfl

/-- **Witness for the open finding C02-K2**: the cell printed for an infinity has no decimal value, so it meets the value clause
for NO finite written value, whatever the number of decimals and the allowance — a finite float written as `inf` / `-inf`
(numpy's `round` overflows in `v·10⁶` from `|v| ≥ 1.7976931348623157e302` on) violates the statement. -/
theorem inf_cell_never_meets_clause (neg : Bool) :
    decValue (cellText (.flt (.inf neg))) = none ∧
    ∀ (p ulps : Nat) (v ulp : Rat), round6Ok p ulps v ulp (cellText (.flt (.inf neg))) = false := by
  have h : decValue (cellText (.flt (.inf neg))) = none := by cases neg <;> decide
  exact ⟨h, fun p ulps v ulp => by unfold round6Ok; rw [h]⟩

/-! Non-vacuity: concrete inputs meeting the hypotheses. -/

abbrev exBlocks : List Block :=
  [{ name := "data_optics".toList, cols := ["rlnVoltage".toList, "rlnName".toList], rows := [["300.0".toList, "opticsGroup1".toList]] },
   { name := "data_stopgap_motl".toList, cols := ["x".toList], rows := [] }]
private theorem exBlocks_ok : (∀ b ∈ exBlocks, BlockOk b) ∧ EmptyOnlyLast exBlocks := by
  unfold exBlocks
  repeat rw [String.toList_ofList]
  decide +kernel
/-- two blocks (RELION-style and STOPGAP, the empty table last) meet the hypotheses of `star_roundtrip` -/
example : (∀ b ∈ exBlocks, BlockOk b) ∧ EmptyOnlyLast exBlocks := exBlocks_ok
example : printStar true exBlocks = "\ndata_optics\n\nloop_\n_rlnVoltage #1\n_rlnName #2\n300.0     \topticsGroup1\n\n\ndata_stopgap_motl\n\nloop_\n_x\n\n\n".toList := by
  unfold exBlocks
  repeat rw [String.toList_ofList]
  decide +kernel
example : printStar false exBlocks = "\ndata_optics\n\nloop_\n_rlnVoltage\n_rlnName\n300.0     \topticsGroup1\n\n\ndata_stopgap_motl\n\nloop_\n_x\n\n\n".toList := by
  unfold exBlocks
  repeat rw [String.toList_ofList]
  decide +kernel
example : readStar (printStar true exBlocks) = .ok exBlocks := star_roundtrip true exBlocks exBlocks_ok.1 exBlocks_ok.2

def cLine (c : String) : Line := ⟨[], [], '#' :: c.toList⟩
abbrev exDoc : Doc :=
  { blocks := [{ pre := [cLine " made by hand", eLine], name := "data_".toList,
                 nameLine := ⟨[' '], [("data_".toList, ['\t'])], []⟩, mid := [],
                 loopLine := ⟨[], [("loop_".toList, [' '])], []⟩,
                 cols := ["a".toList, "b".toList],
                 labels := [⟨[], [("_a".toList, [' '])], "#1".toList⟩, ⟨[], [("_b".toList, [])], []⟩],
                 post := [cLine "x", ⟨[' '], [], []⟩],
                 rows := [⟨['\t'], [("1.5".toList, [' ', ' ', '\t']), ("x".toList, [' '])], []⟩] }],
    trailing := [cLine " end"] }
example : exDoc.text = "# made by hand\n\n data_\t\nloop_ \n_a #1\n_b\n#x\n \n\t1.5  \tx \n# end".toList := by
  rw [String.toList_ofList]
  decide +kernel
private theorem exDoc_ok : exDoc.Ok := by decide +kernel
/-- a hand-made text with comment lines, blank lines, a `#1` label comment, tabs, runs of blanks,
leading and trailing blanks and no final newline meets the hypothesis of `read_any_layout` -/
example : exDoc.Ok := exDoc_ok
example : readStar exDoc.text = .ok [{ name := "data_".toList, cols := ["a".toList, "b".toList], rows := [["1.5".toList, "x".toList]] }] :=
  read_any_layout exDoc exDoc_ok
example : blockKinds isNumTok { name := [], cols := ["a".toList, "b".toList, "c".toList], rows := [["1.5".toList, "x".toList, "1e5".toList], ["-2".toList, "3".toList, ".5".toList]] } = [true, false, true] := by decide +kernel
example : tokenizeLine "  1.0   \tx # c".toList = (["1.0".toList, "x".toList], some " c".toList) := by decide +kernel

abbrev exTyped : List TBlock :=
  [{ name := "data_particles".toList, cols := ["rlnX".toList, "rlnName".toList, "n".toList],
     rows := [[.flt (.fin false "15".toList 1), .txt "mic_1.mrc".toList, .int (-3)],
              [.flt (.fin true "1".toList 17), .txt "12".toList, .int 40]] }]
example : (∀ b ∈ exTyped, TBlockOk b) ∧ EmptyOnlyLast (exTyped.map TBlock.texts) := by
  refine ⟨?_, trivial⟩
  -- the cells are given, so `CellWF` unfolds to decidable conditions on their texts
  simp only [exTyped, TBlockOk, List.forall_mem_cons, List.not_mem_nil, false_imp_iff, implies_true, and_true, CellWF]
  decide +kernel
set_option maxRecDepth 8000 in
example : printTyped true exTyped = "\ndata_particles\n\nloop_\n_rlnX #1\n_rlnName #2\n_n #3\n1.5       \tmic_1.mrc \t-3        \n-1e+16    \t12        \t40        \n\n".toList := by
  rw [String.toList_ofList]
  decide +kernel
example : (exTyped.map TBlock.texts).map (blockKinds isNumTok) = [[true, false, true]] := by decide +kernel
example : [floatRepr false "1".toList 16, floatRepr false "1".toList (-3), floatRepr false "1".toList (-4), floatRepr true "5".toList (-323),
           floatRepr false "0".toList 1, floatRepr false "123456".toList 3, floatRepr false "33".toList 101, intStr (-12)]
    = ["1000000000000000.0".toList, "0.0001".toList, "1e-05".toList, "-5e-324".toList, "0.0".toList, "123.456".toList, "3.3e+100".toList, "-12".toList] := by decide +kernel
example : ["inf", "-Infinity", "+iNf", "1e5", ".5", "7.", "-0.0"].map (fun s => isNumTok s.toList) = [true, true, true, true, true, true, true] ∧
          ["nan", "infinit", "1e", ".", "+", "1_0", "0x10", "--1", "e5", "1.2.3"].map (fun s => isNumTok s.toList) = List.replicate 10 false := by decide +kernel
example : toCRLF "# c \ndata_\nloop_\n_a #1\n1\n".toList = "# c \r\ndata_\r\nloop_\r\n_a #1\r\n1\r\n".toList := by
  repeat rw [String.toList_ofList]
  decide +kernel
example : readStarC "# c \r\ndata_ # d\r\nloop_\r\n_a #1\r\n# e\r\n1\r\n#z".toList
    = .ok [({ name := "data_".toList, cols := ["a".toList], rows := [["1".toList]] }, ["c".toList, "d".toList, "e".toList])] := by
  repeat rw [String.toList_ofList]
  decide +kernel
set_option maxRecDepth 8000 in
example : printStarC true [some [" made by hand ".toList, "x".toList], none] exBlocks
    = some "\n#  made by hand \n# x\n\ndata_optics\n\nloop_\n_rlnVoltage #1\n_rlnName #2\n300.0     \topticsGroup1\n\n\ndata_stopgap_motl\n\nloop_\n_x\n\n\n".toList := by
  unfold exBlocks
  repeat rw [String.toList_ofList]
  decide +kernel
example : ComsOk [some [" made by hand ".toList, "x".toList], none] := by decide +kernel
example : comRead (some [" made by hand ".toList, "x".toList]) = ["made by hand".toList, "x".toList] := by decide +kernel
example : readSel (printStar true exBlocks) (-1) = .ok (exBlocks[1], []) ∧ readSel (printStar true exBlocks) 2 = .error .index := by
  unfold exBlocks
  repeat rw [String.toList_ofList]
  decide +kernel
example : getFrameAndComments (printStar true exBlocks) "data_stopgap_motl".toList = .ok (exBlocks[1], []) ∧
          getFrameAndComments (printStar true exBlocks) "data_x".toList = .error .noEntry := by
  unfold exBlocks
  repeat rw [String.toList_ofList]
  decide +kernel

example : tokenizeLine "a\u2003b\u3000\u00a0c\u200bd".toList = (["a".toList, "b".toList, "c\u200bd".toList], none) := by decide +kernel
example : ["12", "-3", "+7", "0012"].map (fun s => isIntTok s.toList) = [true, true, true, true] ∧
          ["1.0", "1e5", "inf", "", "-", "1_0", "٣"].map (fun s => isIntTok s.toList) = List.replicate 7 false := by decide +kernel
example : (exTyped.map TBlock.texts).map blockInts = [[false, false, true]] := by decide +kernel
example : dropRows [0, 2] ["a", "b", "c", "d"] = ["b", "d"] := by decide +kernel
example : (dropAt exBlocks 0 [0]).map (fun b => b.rows.length) = [0, 0] := by decide +kernel
example : removeLines (printStar true exBlocks) [] (some "data_stopgap_motl".toList) false
    = .ok "\n\ndata_optics\n\nloop_\n_rlnVoltage\n_rlnName\n300.0     \topticsGroup1\n\n\n\ndata_stopgap_motl\n\nloop_\n_x\n\n\n".toList := by
  unfold exBlocks
  repeat rw [String.toList_ofList]
  decide +kernel
example : removeLines (printStar true exBlocks) [] (some "data_x".toList) true = .error .notFound ∧
          removeLines (printStar true exBlocks) [1] none true = .error .rowIndex := by
  unfold exBlocks
  repeat rw [String.toList_ofList]
  decide +kernel
example : (withDefaultNames exBlocks).map Block.name = ["data".toList, "data".toList] := by decide +kernel

example : ["1.5", "-0.000123", "1e-05", "3.3e+2", "12", ".5", "7.", "-12.e2", "+2", "1E3"].map (fun s => decValue s.toList)
    = [some (3 / 2), some (-123 / 1000000), some (1 / 100000), some 330, some 12, some (1 / 2), some 7, some (-1200), some 2, some 1000] := by decide +kernel
example : ["inf", "nan", "1_0", "", "-", "1e", "x"].map (fun s => decValue s.toList) = List.replicate 7 none := by decide +kernel
/-- 1.5 (bit pattern 0x3FF8000000000000) printed as `1.5` meets the clause; printed with a seventh decimal or half a unit off it does not -/
example : bitsValue 0x3FF8000000000000 = some (3 / 2, 1 / 4503599627370496) := by decide +kernel
example : round6Cell 0x3FF8000000000000 "1.5".toList = true ∧ round6Cell 0x3FF8000000000000 "1.5000001".toList = false ∧
          round6Cell 0x3FF8000000000000 "1.500001".toList = false ∧ round6Cell 0x3FF8000000000000 "inf".toList = false := by decide +kernel
/-- the double nearest 0.1234565 (0x3FBF9AD85DFA871A, 3·10⁻¹⁸ below the tie) may be printed as 0.123456 or 0.123457 — both are
within half a unit of the sixth decimal + 3 ulp — but not as 0.123458 -/
example : round6Cell 0x3FBF9AD85DFA871A "0.123456".toList = true ∧ round6Cell 0x3FBF9AD85DFA871A "0.123457".toList = true ∧
          round6Cell 0x3FBF9AD85DFA871A "0.123458".toList = false := by decide +kernel
example : digitsValue true "15".toList 1 = -3 / 2 ∧ digitsValue false "1".toList (-4) = 1 / 100000 := by decide +kernel
/-- the two witness documents are in the statement's class and not separated: `reader_rejects_outside_sepOk` applies to them -/
example : (k3Doc.OkStatement ∧ ¬ SepOk k3Doc.trailing k3Doc.blocks) ∧ (k4Doc.OkStatement ∧ ¬ SepOk k4Doc.trailing k4Doc.blocks) := by decide +kernel
example : removeTarget [(exBlocks[0], []), (exBlocks[1], [])] (some "data_stopgap_motl".toList) = some 1 ∧ removeTarget [(exBlocks[0], [])] none = some 0 := by decide +kernel

end CryoCat.C02
