import CryoCat.Lemmas.C04
import CryoCat.Lemmas.C04_Star
import CryoCat.Lemmas.C04_Round
import Mathlib.Algebra.Group.Basic
/-! C04 — STOPGAP ↔ cryoCAT conversion is a lossless renaming with parity half-sets.
Property theorems, the lemmas that rest on the translator obligations, and non-vacuity examples; lemmas about
the definitions alone live in `Lemmas/C04.lean`. -/
namespace CryoCat.C04
variable {α β : Type}

/-! ### translator obligations: what the source says today is the documented convention -/

theorem anchors_ok : Gen.C04.anchorsOk = true := by decide +kernel

/-- `StopgapMotl.pairs` is the documented renaming, entry by entry (a psi/the swap fails here) -/
theorem pairs_documented : sgPairs = docPairs := by decide +kernel

/-- `StopgapMotl.columns` is the documented 16-column STOPGAP header, in order -/
theorem columns_documented : sgColumns = SgField.all := by decide +kernel

/-- the zero frame is created with as many columns as the header has -/
theorem zeros_width : Gen.C04.zerosWidth = sgColumns.length := by rw [columns_documented]; rfl

/-- export assigns `stopgap_df[star_key] = motl_df[em_key]`, import `self.df[em_key] = stopgap_df[star_key]` -/
theorem loops_direction :
    Gen.C04.exportLoopCopiesMotlToSg = true ∧ Gen.C04.importLoopCopiesSgToMotl = true := by decide +kernel

/-- export copies by row position, not by DataFrame index label -/
theorem export_positional : Gen.C04.exportLoopPositional = true := by decide +kernel

/-- halfset is `np.where(motl_df["subtomo_id"].mod(2).eq(0), "A", "B")` -/
theorem halfset_literals :
    halfsetSrc = .subtomo_id ∧ Gen.C04.halfsetMod = 2 ∧ Gen.C04.halfsetEq = 0 ∧
    Gen.C04.halfsetThen = "A" ∧ Gen.C04.halfsetElse = "B" := by decide +kernel

/-- `motl_idx` is copied from `subtomo_num` -/
theorem motl_idx_source : idxSrc = .subtomo_num := by decide +kernel

/-- the reset sequence is `range(1, N + 1)` -/
theorem reset_range : Gen.C04.resetStart = 1 ∧ Gen.C04.resetStopOffset = 1 := by decide +kernel

/-- writer and reader agree on the data block name; the STAR writer rounds to 6 decimals -/
theorem star_block :
    Gen.C04.writeSpecifier = "data_stopgap_motivelist" ∧ Gen.C04.readSpecifier = Gen.C04.writeSpecifier ∧
    Gen.C04.starFloatPrecision = 6 := ⟨rfl, rfl, rfl⟩

/-- the signature defaults the statement depends on: `motl_idx` is reset only "when a reset is
requested", coordinates are re-centred only when asked, `convert_to_motl` does not renumber by
half-set unless asked — an omitted keyword means `False` in every entry point -/
theorem defaults_documented :
    Gen.C04.convResetDefault = false ∧ Gen.C04.sgResetDefault = false ∧
    Gen.C04.writeUpdateDefault = false ∧ Gen.C04.writeResetDefault = false ∧
    Gen.C04.em2sgUpdateDefault = false ∧ Gen.C04.em2sgResetDefault = false ∧
    Gen.C04.sg2emUpdateDefault = false ∧ Gen.C04.keepHalfsetsDefault = false := by decide +kernel

/-- `convert_to_sg_motl` builds the frame, copies the 14 fields, sets halfset, then motl_idx, then
calls the reset with its `reset_index` parameter and returns the frame — in this order (the half-set
is decided before `motl_idx` can be overwritten by a reset) -/
theorem export_order_documented :
    Gen.C04.exportOrder = ["frame", "loop", "halfset", "motl_idx", "reset", "return"] := rfl

/-- the bodies of the entry points (normalised: local names replaced by position, docstrings
dropped) are the documented ones: an added, removed or reordered statement in a branch the
correspondence run never executes (`keep_halfsets`, the `.em` branch of `write_out`, the
`StopgapMotl(StopgapMotl)` branch of the constructor) changes a digest -/
theorem bodies_documented : Gen.C04.bodyDigests = docBodyDigests := rfl

/-! one obligation per entry point, named after it: when a body changes, the failing declaration says
WHICH function it was (the translator anchor `body:<function>` quotes the first statement that differs) -/

/-- body of `StopgapMotl.__init__` (dispatch on StopgapMotl / DataFrame / path; the two independent
initialisers at its top are compared as a set) -/
theorem digest_StopgapMotl_init_documented : bodyDigest "StopgapMotl.__init__" = "6cd60100075c261e" := by decide +kernel
/-- body of `StopgapMotl.read_in` (incl. the branch that raises when the block is absent) -/
theorem digest_StopgapMotl_read_in_documented : bodyDigest "StopgapMotl.read_in" = "977330a5ab207af8" := by decide +kernel
/-- body of `StopgapMotl.convert_to_motl` (incl. the `keep_halfsets` branch no run executes) -/
theorem digest_StopgapMotl_convert_to_motl_documented : bodyDigest "StopgapMotl.convert_to_motl" = "41bddc0a26f2ac2c" := by decide +kernel
theorem digest_StopgapMotl_convert_to_sg_motl_documented : bodyDigest "StopgapMotl.convert_to_sg_motl" = "bd1b72a459e815c1" := by decide +kernel
theorem digest_StopgapMotl_sg_df_reset_index_documented : bodyDigest "StopgapMotl.sg_df_reset_index" = "a328d3752cd8e76f" := by decide +kernel
/-- body of `StopgapMotl.write_out` (incl. the `.em` branch no run executes) -/
theorem digest_StopgapMotl_write_out_documented : bodyDigest "StopgapMotl.write_out" = "6150d53d35833acb" := by decide +kernel
theorem digest_stopgap2emmotl_documented : bodyDigest "stopgap2emmotl" = "b93283c9d4d67905" := by decide +kernel
theorem digest_emmotl2stopgap_documented : bodyDigest "emmotl2stopgap" = "43955f188247229d" := by decide +kernel

/-- the wrappers other modules call: the "stopgap" branch of `Motl.write_out(path, motl_type)` is
`StopgapMotl(self.df).write_out(path)` (no keyword passed on) and that of `Motl.load(path, motl_type)`
is `return StopgapMotl(path)` -/
theorem wrappers_documented :
    Gen.C04.motlWriteOutStopgap = docMotlWriteOutStopgap ∧ Gen.C04.motlLoadStopgap = docMotlLoadStopgap := ⟨rfl, rfl⟩

/-- the source's table (`StopgapMotl.pairs`) is a bijection between the 14 fields of the statement and every
STOPGAP column except `motl_idx` and `halfset` -/
theorem pairs_bijective :
    sgPairs.length = 14 ∧ (sgPairs.map Prod.fst).Nodup ∧ (sgPairs.map Prod.snd).Nodup ∧
    sgPairs.map Prod.fst =
      [.subtomo_id, .tomo_id, .object_id, .x, .y, .z, .score, .shift_x, .shift_y, .shift_z,
       .phi, .psi, .theta, .cls] ∧
    (∀ s : SgField, s ∈ sgPairs.map Prod.snd ↔ (s ≠ .motl_idx ∧ s ≠ .halfset)) := by
  rw [pairs_documented]
  exact ⟨rfl, docPairs_fst_nodup, docPairs_snd_nodup, rfl, docPairs_targets⟩

theorem exportRow_field (ops : NumOps α) (p : Particle α) (e : Field) (s : SgField)
    (hm : (e, s) ∈ docPairs) : exportRow ops p s = .num (p.get e) := by
  obtain ⟨h1, h2⟩ := (docPairs_targets s).1 (List.mem_map_of_mem (f := Prod.snd) hm)
  simp only [exportRow, pairs_documented]
  rw [SgRow.set_other _ _ _ _ h1, SgRow.set_other _ _ _ _ h2]
  exact copyPairs_get docPairs docPairs_snd_nodup p _ e s hm

theorem exportRow_halfset (ops : NumOps α) (p : Particle α) :
    exportRow ops p .halfset = .str (if ops.modEq p.subtomo_id 2 0 then "A" else "B") := by
  simp only [exportRow]
  rw [SgRow.set_other _ _ _ _ (by decide), SgRow.set_same]
  simp only [halfsetOf, halfset_literals.1]
  rfl

theorem exportRow_motl_idx (ops : NumOps α) (p : Particle α) :
    exportRow ops p .motl_idx = .num p.subtomo_id := by
  simp only [exportRow, motl_idx_source]
  rw [SgRow.set_same, SgRow.set_other _ _ _ _ (by decide)]
  exact exportRow_field ops p .subtomo_id .subtomo_num (by decide)

/-- row `i` of the frame `convert_to_sg_motl` returns: the exported row of particle `i`, its `motl_idx`
overwritten by the 1-based position when a reset is requested -/
def exportRowAt (ops : NumOps α) : Bool → Nat → Particle α → SgRow α
  | true, i, p => (exportRow ops p).set .motl_idx (.num (ops.ofNat (i + 1)))
  | false, _, p => exportRow ops p

/-- the three export clauses, for one output row -/
theorem exportRowAt_spec (ops : NumOps α) (reset : Bool) (i : Nat) (p : Particle α) :
    (∀ es ∈ docPairs, exportRowAt ops reset i p es.2 = .num (p.get es.1)) ∧
    exportRowAt ops reset i p .halfset = .str (if ops.modEq p.subtomo_id 2 0 then "A" else "B") ∧
    exportRowAt ops reset i p .motl_idx = .num (if reset then ops.ofNat (i + 1) else p.subtomo_id) := by
  cases reset
  · exact ⟨fun es hes => exportRow_field ops p es.1 es.2 hes, exportRow_halfset ops p, exportRow_motl_idx ops p⟩
  · refine ⟨fun es hes => ?_, ?_, ?_⟩
    · rw [exportRowAt, SgRow.set_other _ _ _ _ ((docPairs_targets es.2).1 (List.mem_map_of_mem (f := Prod.snd) hes)).1]
      exact exportRow_field ops p es.1 es.2 hes
    · rw [exportRowAt, SgRow.set_other _ _ _ _ (by decide)]
      exact exportRow_halfset ops p
    · rw [exportRowAt, SgRow.set_same]
      rfl

theorem exportRowAt_kinds (ops : NumOps α) (reset : Bool) (i : Nat) (p : Particle α) :
    (∃ s ∈ ["A", "B"], exportRowAt ops reset i p .halfset = .str s) ∧
    ∀ c, (exportRowAt ops reset i p c).isNum = (c != .halfset) := by
  obtain ⟨h1, h2, h3⟩ := exportRowAt_spec ops reset i p
  refine ⟨⟨_, ?_, h2⟩, fun c => ?_⟩
  · cases ops.modEq p.subtomo_id 2 0 <;> simp
  · by_cases hh : c = .halfset
    · rw [hh, h2]
      rfl
    · by_cases hi : c = .motl_idx
      · rw [hi, h3]
        rfl
      · obtain ⟨es, hes, rfl⟩ := List.mem_map.1 ((docPairs_targets c).2 ⟨hi, hh⟩)
        rw [h1 es hes, bne_iff_ne.2 hh]
        rfl

/-- the conversion is positional: row `i` is made from particle `i` and from nothing else, and no list is
refused -/
theorem toSg_eq (ops : NumOps α) (reset : Bool) (motl : List (Particle α)) :
    toSg ops reset motl = some (motl.mapIdx (exportRowAt ops reset)) := by
  cases reset
  · exact congrArg some (List.mapIdx_eq_iff.2 fun i => List.getElem?_map ..).symm
  · simp only [toSg, resetIdx, reset_range.1, reset_range.2, Nat.add_sub_cancel, if_true, resetFrom_eq_mapIdx]
    refine congrArg some (List.mapIdx_eq_iff.2 fun i => ?_).symm
    rw [List.getElem?_mapIdx, List.getElem?_map, Option.map_map, Nat.add_comm]
    rfl

theorem toSg_rows {ops : NumOps α} {reset : Bool} {motl : List (Particle α)} {rows : List (SgRow α)}
    (h : toSg ops reset motl = some rows) : rows = motl.mapIdx (exportRowAt ops reset) :=
  Option.some.inj ((toSg_eq ops reset motl).symm.trans h).symm

theorem toSg_total (ops : NumOps α) (reset : Bool) (motl : List (Particle α)) :
    ∃ rows, toSg ops reset motl = some rows ∧ rows.length = motl.length :=
  ⟨_, toSg_eq ops reset motl, List.length_mapIdx⟩

/-- **Export, clause by clause, for every particle list, any N, both `reset_index` values.**
Row `i` of the result is made from particle `i` (same order, same count): its 14 documented columns
hold the 14 shared fields unchanged, its halfset is `A`/`B` by `subtomo_id mod 2`, its `motl_idx` is
the subtomogram number, or `i+1` (1..N) when a reset is requested. -/
theorem export_rows (ops : NumOps α) (reset : Bool) (motl : List (Particle α)) (rows : List (SgRow α))
    (h : toSg ops reset motl = some rows) :
    rows.length = motl.length ∧
    ∀ i p, motl[i]? = some p → ∃ r : SgRow α, rows[i]? = some r ∧
      (∀ es ∈ docPairs, r es.2 = .num (p.get es.1)) ∧
      r .halfset = .str (if ops.modEq p.subtomo_id 2 0 then "A" else "B") ∧
      r .motl_idx = .num (if reset then ops.ofNat (i + 1) else p.subtomo_id) := by
  obtain rfl := toSg_rows h
  exact ⟨List.length_mapIdx, fun i p hp =>
    ⟨_, by rw [List.getElem?_mapIdx, hp]; rfl, exportRowAt_spec ops reset i p⟩⟩

theorem halfset_of_parity {ops : NumOps α} {reset : Bool} {motl : List (Particle α)} {rows : List (SgRow α)}
    (h : toSg ops reset motl = some rows) {i : Nat} {p : Particle α} (hp : motl[i]? = some p)
    {z : Int} (hz : ops.modEq p.subtomo_id 2 0 = (z % 2 == 0)) :
    ∃ r : SgRow α, rows[i]? = some r ∧ r .halfset = .str (if z % 2 = 0 then "A" else "B") := by
  obtain ⟨r, hr, _, hh, _⟩ := (export_rows ops reset motl rows h).2 i p hp
  refine ⟨r, hr, ?_⟩
  rw [hh, hz]
  simp only [beq_iff_eq]

theorem letter_of_parity {c : Cell α} {z : Int} (h : c = .str (if z % 2 = 0 then "A" else "B")) :
    ((∃ k, z = 2 * k) → c = .str "A") ∧ ((∃ k, z = 2 * k + 1) → c = .str "B") :=
  ⟨fun ⟨k, hk⟩ => by rw [h, if_pos (by omega)], fun ⟨k, hk⟩ => by rw [h, if_neg (by omega)]⟩

def intOps : NumOps Int := { ofNat := Int.ofNat, modEq := fun x m k => x % (m : Int) == (k : Int) }

/-- Over the integers: halfset is `A` for even and `B` for odd subtomogram
numbers (negative numbers included), for every particle of every list. -/
theorem halfset_even_odd (reset : Bool) (motl : List (Particle Int)) (rows : List (SgRow Int))
    (h : toSg intOps reset motl = some rows) (i : Nat) (p : Particle Int) (hp : motl[i]? = some p) :
    ∃ r : SgRow Int, rows[i]? = some r ∧
      ((∃ k, p.subtomo_id = 2 * k) → r .halfset = .str "A") ∧
      ((∃ k, p.subtomo_id = 2 * k + 1) → r .halfset = .str "B") := by
  obtain ⟨r, hr, hh⟩ := halfset_of_parity (z := p.subtomo_id) h hp rfl
  exact ⟨r, hr, letter_of_parity hh⟩

/-- `motl_idx` is the subtomogram number, or the 1-based position when a reset is requested (so it is
exactly 1..N in order): the last conjunct of `export_rows`, under the name the statement uses. -/
theorem motl_idx_spec (ops : NumOps α) (reset : Bool) (motl : List (Particle α)) (rows : List (SgRow α))
    (h : toSg ops reset motl = some rows) (i : Nat) (p : Particle α) (hp : motl[i]? = some p) :
    ∃ r : SgRow α, rows[i]? = some r ∧
      r .motl_idx = .num (if reset then ops.ofNat (i + 1) else p.subtomo_id) := by
  obtain ⟨r, hr, _, _, hi⟩ := (export_rows ops reset motl rows h).2 i p hp
  exact ⟨r, hr, hi⟩

/-- **Omitted keywords.** Calling an entry point without `reset_index` / `update_coord` /
`update_coordinates` is calling it with `False` (the model reads the defaults of the source; the
first three conjuncts hold because of `defaults_documented` and break when a default of the source
changes). The fourth conjunct is no clause of the statement: it only records, by unfolding, that a
given keyword is passed through unchanged (an anchor for the definition of `writeOutOpt`). -/
theorem omitted_keywords [Add α] [Sub α] (ops : NumOps α) (round : α → α) (motl : List (Particle α)) :
    toSgOpt ops none motl = toSg ops false motl ∧
    writeOutOpt ops round none none motl = writeOutTable ops round false false motl ∧
    em2sgOpt ops round none none motl = writeOutTable ops round false false motl ∧
    (∀ u r, writeOutOpt ops round (some u) (some r) motl = writeOutTable ops round u r motl) := by
  refine ⟨rfl, rfl, rfl, fun _ _ => rfl⟩

theorem intBitOps_modEq {b : Nat} {z : Int} (hz : decodeInt b = some z) (m k : Nat) :
    intBitOps.modEq b m k = (z % (m : Int) == (k : Int)) := by
  simp only [intBitOps, hz]

/-- `halfset_even_odd` on IEEE bit patterns. For subtomogram numbers given as binary64 bit
patterns (what the real DataFrame holds) whose exactly decoded value is the integer `z` — any sign,
any magnitude, in particular beyond 2^53: halfset is `A` when `z` is even and `B` when `z` is odd.
(`intBitOps` is what the driver's checker runs on the real output; no floating-point `mod`.) -/
theorem halfset_even_odd_bits (reset : Bool) (motl : List (Particle Nat)) (rows : List (SgRow Nat))
    (h : toSg intBitOps reset motl = some rows) (i : Nat) (p : Particle Nat) (hp : motl[i]? = some p)
    (z : Int) (hz : decodeInt p.subtomo_id = some z) :
    ∃ r : SgRow Nat, rows[i]? = some r ∧
      ((∃ k, z = 2 * k) → r .halfset = .str "A") ∧
      ((∃ k, z = 2 * k + 1) → r .halfset = .str "B") := by
  obtain ⟨r, hr, hh⟩ := halfset_of_parity h hp (intBitOps_modEq hz 2 0)
  exact ⟨r, hr, letter_of_parity hh⟩

/-- **Parity for integer-valued floats `|x| < 2^53`.** A particle whose subtomogram number is the
float `z` (bit pattern `encodeInt z`), `z` any integer of either sign below 2^53 in magnitude, gets
half-set `A` iff `z` is even and `B` iff `z` is odd — at the representation the real DataFrame
holds and the checker runs on, not only over `Int`.

What this and `halfset_even_odd(_bits)` are NOT: they are theorems about the model instantiated with
`intOps` / `intBitOps` (parity of the exactly decoded integer). The run that is compared with the real
code instantiates the same `toSg` with the driver's `floatOps`, whose `modEq` is floating-point floored
modulo (`pyMod`, the model of `Series.mod(2).eq(0)`); no theorem relates `pyMod` on `Float` to integer
parity (Lean's `Float` is opaque). The link is made at run time only: `intBitOps` is what the verified
checker `checkHalf` runs on the REAL output (`check_parity_sound`), and the driver's `decodeAgrees`
compares `floatOps.modEq x 2 0` with `intBitOps.modEq` for every subtomogram number of every case. -/
theorem halfset_parity_float_ids (reset : Bool) (motl : List (Particle Nat)) (rows : List (SgRow Nat))
    (h : toSg intBitOps reset motl = some rows) (i : Nat) (p : Particle Nat) (hp : motl[i]? = some p)
    (z : Int) (hz : z.natAbs < 2 ^ 53) (hid : p.subtomo_id = encodeInt z) :
    ∃ r : SgRow Nat, rows[i]? = some r ∧ r .halfset = .str (if z % 2 = 0 then "A" else "B") := by
  have hdec : decodeInt p.subtomo_id = some z := hid ▸ decodeInt_encodeInt z hz
  exact halfset_of_parity h hp (intBitOps_modEq hdec 2 0)

/-- the property's export clauses for an output table `out` (what `convert_to_sg_motl` must return):
same count and order, and in every row the 14 documented columns, `halfset` and `motl_idx` — looked
up BY NAME — hold what the statement says. The statement does not fix the order of the columns, so
neither does this spec: a lookup that succeeds implies the column is present (the default of the
lookup is a text no clause accepts). That the real header is the documented 16-column one is a
separate fact about the code (`columns_documented`, `model_columns`). -/
def SpecExport (ops : NumOps α) (reset : Bool) (motl : List (Particle α)) (out : SgTable α) : Prop :=
  out.rows.length = motl.length ∧
  ∀ i p cells, motl[i]? = some p → out.rows[i]? = some cells →
    (∀ es ∈ docPairs, rowOfCells (.str "") out.cols cells es.2 = .num (p.get es.1)) ∧
    rowOfCells (.str "") out.cols cells .halfset = .str (if ops.modEq p.subtomo_id 2 0 then "A" else "B") ∧
    rowOfCells (.str "") out.cols cells .motl_idx = .num (if reset then ops.ofNat (i + 1) else p.subtomo_id)

def SgTable.ofRows (rows : List (SgRow α)) : SgTable α :=
  { cols := SgField.all, rows := rows.map (fun r => SgField.all.map r) }

theorem exportTable_eq {ops : NumOps α} {reset : Bool} {motl : List (Particle α)} {t : SgTable α}
    (h : exportTable ops reset motl = some t) : t = .ofRows (motl.mapIdx (exportRowAt ops reset)) := by
  rw [exportTable, toSg_eq, Option.map_some, Option.some.injEq, columns_documented] at h
  exact h.symm

theorem model_columns (ops : NumOps α) (reset : Bool) (motl : List (Particle α)) (t : SgTable α)
    (h : exportTable ops reset motl = some t) : t.cols = SgField.all :=
  exportTable_eq h ▸ rfl

theorem model_spec (ops : NumOps α) (reset : Bool) (motl : List (Particle α)) (t : SgTable α)
    (h : exportTable ops reset motl = some t) : SpecExport ops reset motl t := by
  obtain rfl := exportTable_eq h
  refine ⟨by simp [SgTable.ofRows], fun i p cells hp hc => ?_⟩
  simp only [SgTable.ofRows, List.getElem?_map, List.getElem?_mapIdx, hp, Option.map_some, Option.some.injEq] at hc
  subst hc
  simp only [SgTable.ofRows, rowOfCells_all]
  exact exportRowAt_spec ops reset i p

theorem check_iff [DecidableEq α] (ops : NumOps α) (reset : Bool) (motl : List (Particle α)) (out : SgTable α) :
    (checkFields motl out = true ∧ checkHalf ops motl out = true ∧ checkIdx ops reset motl out = true) ↔
      SpecExport ops reset motl out := by
  simp only [checkFields, checkHalf, checkIdx, checkRows_iff, fieldsOk, halfOk, idxOk, List.all_eq_true,
    beq_iff_eq, Nat.zero_add, SpecExport]
  constructor
  · rintro ⟨⟨hl, hf⟩, ⟨_, hh⟩, ⟨_, hi⟩⟩
    exact ⟨hl.symm, fun i p c hp hc => ⟨hf i p c hp hc, hh i p c hp hc, hi i p c hp hc⟩⟩
  · rintro ⟨hl, hr⟩
    exact ⟨⟨hl.symm, fun i p c hp hc => (hr i p c hp hc).1⟩, ⟨hl.symm, fun i p c hp hc => (hr i p c hp hc).2.1⟩,
      ⟨hl.symm, fun i p c hp hc => (hr i p c hp hc).2.2⟩⟩

/-- If the three checkers the driver runs on the implementation's output accept, the
output satisfies every export clause (for a header in ANY order: the driver's fourth answer,
`cols = SgField.all`, is about the documented header and is reported as a model disagreement only). -/
theorem check_sound [DecidableEq α] (ops : NumOps α) (reset : Bool) (motl : List (Particle α)) (out : SgTable α)
    (hf : checkFields motl out = true) (hh : checkHalf ops motl out = true)
    (hi : checkIdx ops reset motl out = true) : SpecExport ops reset motl out :=
  (check_iff ops reset motl out).1 ⟨hf, hh, hi⟩

theorem check_complete [DecidableEq α] (ops : NumOps α) (reset : Bool) (motl : List (Particle α)) (out : SgTable α)
    (h : SpecExport ops reset motl out) :
    checkFields motl out = true ∧ checkHalf ops motl out = true ∧ checkIdx ops reset motl out = true :=
  (check_iff ops reset motl out).2 h

/-- When the half-set checker the driver runs (`intBitOps`) accepts the real
output, every row whose subtomogram number decodes to an integer `z` carries `A` iff `z` is even and
`B` iff `z` is odd; a number that is no integer (neither even nor odd) must carry `B`, as
`mod(2).eq(0)` is false for it. -/
theorem check_parity_sound (motl : List (Particle Nat)) (out : SgTable Nat)
    (hh : checkHalf intBitOps motl out = true) (i : Nat) (p : Particle Nat) (cells : List (Cell Nat))
    (hp : motl[i]? = some p) (hc : out.rows[i]? = some cells) :
    (∀ z, decodeInt p.subtomo_id = some z →
      rowOfCells (.str "") out.cols cells .halfset = .str (if z % 2 = 0 then "A" else "B")) ∧
    (decodeInt p.subtomo_id = none → rowOfCells (.str "") out.cols cells .halfset = .str "B") := by
  simp only [checkHalf, checkRows_iff] at hh
  have := hh.2 i p cells hp hc
  simp only [halfOk, beq_iff_eq] at this
  rw [this]
  refine ⟨fun z hz => ?_, fun hz => ?_⟩
  · rw [intBitOps_modEq hz]
    simp only [beq_iff_eq]
    rfl
  · simp [intBitOps, hz]

/-- the bit patterns of 1, 2, 3, … the checker compares a reset `motl_idx` with (`encodeNat`) decode
to those integers — checked here on the first values and at run time against the hardware float for
every row count used -/
theorem encodeNat_examples :
    (List.range 64).all (fun n => decodeInt (encodeNat n) == some (n : Int)) = true ∧
    encodeNat 1 = 0x3FF0000000000000 ∧ encodeNat 300 = 0x4072C00000000000 ∧
    decodeInt 0x4340000000000001 = some 9007199254740994 ∧ decodeInt 0xC01C000000000000 = some (-7) ∧
    decodeInt 0x4004000000000000 = none := by decide +kernel

/-- what makes a STOPGAP table importable: the 14 documented columns exist (else pandas raises
`KeyError`), it is a DataFrame (one cell per header entry in every row) and the 14 columns hold
numbers (the property's quantifier; a text cell there is rejected by the model, never read as `d`) -/
def Importable (t : SgTable α) : Prop :=
  (∀ es ∈ docPairs, es.2 ∈ t.cols) ∧ (∀ cells ∈ t.rows, cells.length = t.cols.length) ∧
  ∀ cells ∈ t.rows, ∀ es ∈ docPairs, ∃ v, rowOfCells (.str "") t.cols cells es.2 = .num v

/-- the fill value of the lookups of `importTable` plays no role: a column that is present in a rectangular table
is found -/
theorem importTable_accepts_iff (d : α) (t : SgTable α) :
    (sgPairs.all (fun es => t.cols.contains es.2) && t.rect && t.numericIn d sgPairs) = true ↔ Importable t := by
  simp only [pairs_documented, SgTable.rect, SgTable.numericIn, Bool.and_eq_true, List.all_eq_true,
    List.contains_iff_mem, beq_iff_eq, Cell.isNum_iff, Importable]
  rw [and_assoc]
  refine and_congr_right fun h1 => and_congr_right fun h2 =>
    forall₂_congr fun cells hc => forall₂_congr fun es hes => ?_
  rw [rowOfCells_default (.num d) (.str "") _ _ _ (h1 es hes) (h2 cells hc)]

theorem importTable_eq_some_iff (d : α) (t : SgTable α) (ps : List (Particle α)) :
    importTable d t = some ps ↔
      Importable t ∧ ps = t.rows.map (fun cells => importRow d (rowOfCells (.num d) t.cols cells)) := by
  rw [importTable, ← importTable_accepts_iff d t, ite_eq_iff]
  simp only [Option.some.injEq, reduceCtorEq, and_false, or_false, @eq_comm _ ps]

theorem importTable_isSome_iff (d : α) (t : SgTable α) : (importTable d t).isSome = true ↔ Importable t := by
  rw [Option.isSome_iff_exists]
  exact ⟨fun ⟨_, h⟩ => ((importTable_eq_some_iff d t _).1 h).1, fun h => ⟨_, (importTable_eq_some_iff d t _).2 ⟨h, rfl⟩⟩⟩

theorem importRow_get (d : α) (r : SgRow α) {es : Field × SgField} (hes : es ∈ docPairs) :
    (importRow d r).get es.1 = (r es.2).toNum d := by
  rw [importRow, pairs_documented]
  exact importFold_get d docPairs docPairs_fst_nodup _ _ es.1 es.2 hes

/-- **Import, for every STOPGAP table in ANY column order, any N, arbitrary numeric cells.**
Particle `i` is made from row `i` (same order, same count) and each of its 14 shared fields is the
number found under the documented column *name* (no fill value is involved: the cell *is* `.num` of
the field). -/
theorem import_rows (d : α) (t : SgTable α) (ps : List (Particle α)) (h : importTable d t = some ps) :
    ps.length = t.rows.length ∧
    ∀ (i : Nat) cells, t.rows[i]? = some cells → ∃ p : Particle α, ps[i]? = some p ∧
      (∀ es ∈ docPairs, rowOfCells (.str "") t.cols cells es.2 = .num (p.get es.1)) ∧
      ∀ es ∈ docPairs, p.get es.1 = (rowOfCells (.num d) t.cols cells es.2).toNum d := by
  obtain ⟨himp, rfl⟩ := (importTable_eq_some_iff d t ps).1 h
  refine ⟨by simp, fun i cells hc => ⟨_, by simp [hc], fun es hes => ?_, fun es hes => importRow_get d _ hes⟩⟩
  have hmem : cells ∈ t.rows := List.mem_of_getElem? hc
  obtain ⟨v, hv⟩ := himp.2.2 cells hmem es hes
  rw [importRow_get d _ hes, rowOfCells_default (.num d) (.str "") _ _ _ (himp.1 es hes) (himp.2.1 cells hmem), hv]
  rfl

/-- a text cell in one of the 14 columns is rejected (never read as the fill value) -/
theorem import_rejects_text (d : α) (t : SgTable α) (cells : List (Cell α)) (hc : cells ∈ t.rows)
    (es : Field × SgField) (hes : es ∈ docPairs) (s : String)
    (hs : rowOfCells (.str "") t.cols cells es.2 = .str s) : importTable d t = none := by
  refine Option.eq_none_iff_forall_ne_some.2 fun ps h => ?_
  obtain ⟨v, hv⟩ := ((importTable_eq_some_iff d t ps).1 h).1.2.2 cells hc es hes
  rw [hs] at hv
  cases hv

/-- the property's import clause for a particle list `out` made from the STOPGAP table `t`: same
count and order, and each of the 14 shared fields of particle `i` is the number found under the
documented column NAME in row `i` (whatever the order of the columns) -/
def SpecImport (t : SgTable α) (out : List (Particle α)) : Prop :=
  out.length = t.rows.length ∧
  ∀ (i : Nat) (p : Particle α) (cells : List (Cell α)), out[i]? = some p → t.rows[i]? = some cells →
    ∀ es ∈ docPairs, rowOfCells (.str "") t.cols cells es.2 = .num (p.get es.1)

/-- the import checker the driver runs on the list the real `StopgapMotl(sg_df)` / `stopgap2emmotl(sg_df)`
returned accepts exactly the lists that satisfy the import clause -/
theorem checkImport_iff [DecidableEq α] (t : SgTable α) (out : List (Particle α)) :
    checkImport t out = true ↔ SpecImport t out := by
  simp only [checkImport, checkRows_iff, importOk, List.all_eq_true, beq_iff_eq, SpecImport]

/-- When the driver's import checker accepts, the imported list satisfies the
import clause of the property (this is what stands behind the finding `import-fields-copied(lean-checker)`) -/
theorem checkImport_sound [DecidableEq α] (t : SgTable α) (out : List (Particle α))
    (h : checkImport t out = true) : SpecImport t out := (checkImport_iff t out).1 h

/-- The import checker accepts every list that satisfies the clause: a
rejection is a violated clause, never an artefact of the checker -/
theorem checkImport_complete [DecidableEq α] (t : SgTable α) (out : List (Particle α))
    (h : SpecImport t out) : checkImport t out = true := (checkImport_iff t out).2 h

theorem import_meets_spec (d : α) (t : SgTable α) (ps : List (Particle α)) (h : importTable d t = some ps) :
    SpecImport t ps := by
  obtain ⟨hl, hr⟩ := import_rows d t ps h
  refine ⟨hl, ?_⟩
  intro i p cells hp hc
  obtain ⟨p', hp', h1, _⟩ := hr i cells hc
  rw [hp] at hp'
  cases hp'
  exact h1

/-- the six cryoCAT fields STOPGAP does not have are left at the fill value -/
theorem import_other_fields (d : α) (r : SgRow α) (f : Field) (hf : f ∉ sharedFields) :
    (importRow d r).get f = d := by
  rw [importRow, pairs_documented, importFold_other _ _ _ _ _ hf, Particle.get_ofFn]

def restrict (d : β) (q : α → β) (p : Particle α) : Particle β :=
  Particle.ofFn (fun f => if f ∈ sharedFields then q (p.get f) else d)

theorem importRow_of_fields (d : β) (q : α → β) (p : Particle α) (r : SgRow β)
    (hr : ∀ es ∈ docPairs, r es.2 = .num (q (p.get es.1))) : importRow d r = restrict d q p := by
  apply Particle.ext_get
  intro f
  rw [restrict, Particle.get_ofFn]
  by_cases hf : f ∈ sharedFields
  · obtain ⟨es, hes, rfl⟩ := List.mem_map.1 hf
    rw [if_pos hf, importRow_get d r hes, hr es hes]
    rfl
  · rw [if_neg hf]
    exact import_other_fields d r f hf

def SgTable.mapCells (q : α → β) (t : SgTable α) : SgTable β :=
  { cols := t.cols, rows := t.rows.map (fun r => r.map (Cell.map q)) }

theorem SgTable.mapCells_id (t : SgTable α) : t.mapCells id = t := by
  have hc : Cell.map (id : α → α) = id := funext fun c => by cases c <;> rfl
  simp [SgTable.mapCells, hc]

theorem SgTable.mapCells_ofRows (q : α → β) (rows : List (SgRow α)) :
    (SgTable.ofRows rows).mapCells q = .ofRows (rows.map (fun r s => (r s).map q)) := by
  simp [SgTable.mapCells, SgTable.ofRows, Function.comp_def]

theorem importTable_rows (d : α) (rs : List (SgRow α)) (hnum : ∀ r ∈ rs, ∀ es ∈ docPairs, ∃ v, r es.2 = .num v) :
    importTable d (.ofRows rs) = some (rs.map (importRow d)) := by
  have himp : Importable (SgTable.ofRows rs) := by
    refine ⟨fun es _ => es.2.mem_all, fun cells hc => ?_, fun cells hc es hes => ?_⟩
    · obtain ⟨r, _, rfl⟩ := List.mem_map.1 hc
      exact List.length_map ..
    · obtain ⟨r, hr, rfl⟩ := List.mem_map.1 hc
      simp only [SgTable.ofRows, rowOfCells_all]
      exact hnum r hr es hes
  rw [(importTable_eq_some_iff d _ _).2 ⟨himp, rfl⟩]
  simp only [SgTable.ofRows, List.map_map, Function.comp_def, rowOfCells_all]

/-- **Export, convert every number by `q`, import.** Whatever is done to the numbers of the exported table
cell by cell (nothing: `fromSg_toSg`; print-then-parse by a STAR layer: `via_file_at`), importing it gives
the particles back in order, the 14 shared fields passed through `q`, for both `reset_index` values. -/
theorem importTable_mapCells_exportTable {ops : NumOps α} (q : α → β) (d : β) {reset : Bool}
    {motl : List (Particle α)} {t : SgTable α} (h : exportTable ops reset motl = some t) :
    importTable d (t.mapCells q) = some (motl.map (restrict d q)) := by
  obtain rfl := exportTable_eq h
  have hfields : ∀ i p, ∀ es ∈ docPairs, (exportRowAt ops reset i p es.2).map q = .num (q (p.get es.1)) :=
    fun i p es hes => by rw [(exportRowAt_spec ops reset i p).1 es hes]; rfl
  rw [SgTable.mapCells_ofRows, importTable_rows, List.map_map]
  · refine congrArg some (List.ext_getElem? fun i => ?_)
    rw [List.getElem?_map, List.getElem?_map, List.getElem?_mapIdx, Option.map_map]
    refine Option.map_congr fun p _ => ?_
    simp only [Function.comp_apply]
    exact importRow_of_fields d q p _ (hfields i p)
  · intro r hr es hes
    obtain ⟨r0, hr0, rfl⟩ := List.mem_map.1 hr
    obtain ⟨i, hi, rfl⟩ := List.mem_mapIdx.1 hr0
    exact ⟨_, hfields i _ es hes⟩

/-- In memory: exporting any particle list and importing the result gives the
same particles in the same order with all 14 shared fields unchanged (both `reset_index` values). -/
theorem fromSg_toSg (ops : NumOps α) (d : α) (reset : Bool) (motl : List (Particle α)) (t : SgTable α)
    (h : exportTable ops reset motl = some t) :
    importTable d t = some (motl.map (restrict d id)) := by
  rw [← importTable_mapCells_exportTable id d h, SgTable.mapCells_id]

/-- Importing any STOPGAP row and exporting it again reproduces its 14 numeric
columns (the conversion loses nothing in either direction). -/
theorem toSg_fromSg (ops : NumOps α) (d : α) (r : SgRow α) (es : Field × SgField) (hes : es ∈ docPairs)
    (v : α) (hv : r es.2 = .num v) : exportRow ops (importRow d r) es.2 = .num v := by
  rw [exportRow_field ops _ es.1 es.2 hes, importRow_get d r hes, hv]
  rfl

/-! `update_coord=True`: the list is re-centred first, then converted -/

/-- `update_coordinates` keeps the complete position `x + shift_x` (same for y, z) — in EXACT
arithmetic (`AddCommGroup`: ℤ, ℚ, ℝ). `Float` is no such group: for binary64 the sum is preserved up
to the one rounding of `x + shift_x` (the subtraction of the integer is exact), which the harness
checks on every case with a slack of one ulp of the sum (validated, not proved). -/
theorem updateCoord_position [AddCommGroup α] (round : α → α) (p : Particle α) :
    (updateCoord round p).x + (updateCoord round p).shift_x = p.x + p.shift_x ∧
    (updateCoord round p).y + (updateCoord round p).shift_y = p.y + p.shift_y ∧
    (updateCoord round p).z + (updateCoord round p).shift_z = p.z + p.shift_z :=
  ⟨add_sub_cancel _ _, add_sub_cancel _ _, add_sub_cancel _ _⟩

/-- `update_coordinates` leaves the other 8 shared fields (and every non-position field) alone -/
theorem updateCoord_other [Add α] [Sub α] (round : α → α) (p : Particle α) (f : Field)
    (hf : f ∉ [Field.x, .y, .z, .shift_x, .shift_y, .shift_z]) :
    (updateCoord round p).get f = p.get f := by
  cases f <;> first | rfl | (exfalso; revert hf; decide)

/-- **Export with `update_coord=True`.** The written row holds the re-centred particle: `round` of the
complete position in `orig_x`, the remainder in `x_shift` (for ANY `round`; that the first is an
integer and the second within 1/2 needs `round` to be a rounding to nearest: `updateCoord_recentred`),
and the fields that are no position or shift are those of the input. -/
theorem export_update_coord [Add α] [Sub α] (ops : NumOps α) (round : α → α) (p : Particle α) :
    exportRow ops (updateCoord round p) .orig_x = .num (round (p.x + p.shift_x)) ∧
    exportRow ops (updateCoord round p) .x_shift = .num (p.x + p.shift_x - round (p.x + p.shift_x)) ∧
    (∀ es ∈ docPairs, es.1 ∉ [Field.x, .y, .z, .shift_x, .shift_y, .shift_z] →
      exportRow ops (updateCoord round p) es.2 = .num (p.get es.1)) := by
  refine ⟨exportRow_field ops _ .x .orig_x (by decide), exportRow_field ops _ .shift_x .x_shift (by decide), ?_⟩
  intro es hes hf
  rw [exportRow_field ops _ es.1 es.2 hes, updateCoord_other round p es.1 hf]

/-- **`update_coord=True` with a rounding to a nearest integer** (any ordered field; the hypothesis is
the specification of the rounding, proved for the exact rule in `updateCoord_rat`): on each axis the
new coordinate is an integer and the new shift lies in `[-1/2, 1/2]`. The rounding RULE is the
subject of C05; C04 needs only this much of it. -/
theorem updateCoord_recentred {α : Type} [_root_.Field α] [LinearOrder α] [IsStrictOrderedRing α]
    {r : α → α} (hr : RoundsToNearest r) (p : Particle α) :
    ((∃ z : ℤ, (updateCoord r p).x = (z : α)) ∧ |(updateCoord r p).shift_x| ≤ 1 / 2) ∧
    ((∃ z : ℤ, (updateCoord r p).y = (z : α)) ∧ |(updateCoord r p).shift_y| ≤ 1 / 2) ∧
    ((∃ z : ℤ, (updateCoord r p).z = (z : α)) ∧ |(updateCoord r p).shift_z| ≤ 1 / 2) :=
  ⟨⟨(hr _).1, (hr _).2⟩, ⟨(hr _).1, (hr _).2⟩, ⟨(hr _).1, (hr _).2⟩⟩

/-- **`update_coord=True` over the rationals with the exact ROUND_HALF_UP rule** (`ratRoundAway`:
what `Decimal(v).to_integral_value(ROUND_HALF_UP)` computes on the exact value of a float): integer
coordinates, shifts within 1/2, complete positions preserved — no hypothesis left. -/
theorem updateCoord_rat (p : Particle ℚ) :
    (((∃ z : ℤ, (updateCoord ratRoundAway p).x = (z : ℚ)) ∧ |(updateCoord ratRoundAway p).shift_x| ≤ 1 / 2) ∧
     ((∃ z : ℤ, (updateCoord ratRoundAway p).y = (z : ℚ)) ∧ |(updateCoord ratRoundAway p).shift_y| ≤ 1 / 2) ∧
     ((∃ z : ℤ, (updateCoord ratRoundAway p).z = (z : ℚ)) ∧ |(updateCoord ratRoundAway p).shift_z| ≤ 1 / 2)) ∧
    ((updateCoord ratRoundAway p).x + (updateCoord ratRoundAway p).shift_x = p.x + p.shift_x ∧
     (updateCoord ratRoundAway p).y + (updateCoord ratRoundAway p).shift_y = p.y + p.shift_y ∧
     (updateCoord ratRoundAway p).z + (updateCoord ratRoundAway p).shift_z = p.z + p.shift_z) :=
  ⟨updateCoord_recentred ratRoundAway_nearest p, updateCoord_position ratRoundAway p⟩

/-- an exact NEGATIVE half goes away from zero: a position `x + shift_x = -(k + 1/2)` becomes the
coordinate `-(k + 1)` with the shift `+1/2` (and `k + 1/2` becomes `k + 1` with the shift `-1/2`) -/
theorem updateCoord_rat_ties (p : Particle ℚ) (k : ℕ) :
    (p.x + p.shift_x = -((k : ℚ) + 1 / 2) →
      (updateCoord ratRoundAway p).x = -((k : ℚ) + 1) ∧ (updateCoord ratRoundAway p).shift_x = 1 / 2) ∧
    (p.x + p.shift_x = (k : ℚ) + 1 / 2 →
      (updateCoord ratRoundAway p).x = (k : ℚ) + 1 ∧ (updateCoord ratRoundAway p).shift_x = -(1 / 2)) := by
  -- the new coordinate is the rounded position, the new shift what the rounding took away
  have key : ∀ c : ℚ, ratRoundAway (p.x + p.shift_x) = c →
      (updateCoord ratRoundAway p).x = c ∧ (updateCoord ratRoundAway p).shift_x = p.x + p.shift_x - c :=
    fun c hc => ⟨hc, hc ▸ rfl⟩
  constructor
  · intro h
    obtain ⟨hx, hs⟩ := key _ (h ▸ (ratRoundAway_ties k).2)
    exact ⟨hx, by rw [hs, h]; ring⟩
  · intro h
    obtain ⟨hx, hs⟩ := key _ (h ▸ (ratRoundAway_ties k).1)
    exact ⟨hx, by rw [hs, h]; ring⟩

/-- What `write_out(path, update_coord, reset_index)` hands to the STAR writer satisfies
every export clause with respect to the list the object holds afterwards (re-centred iff asked).
(`model_spec` at that list, under the name of the entry point: `writeOutTable` IS `exportTable` of the
possibly re-centred list; no separate proof.) -/
theorem write_out_spec [Add α] [Sub α] (ops : NumOps α) (round : α → α) (update reset : Bool)
    (motl : List (Particle α)) (t : SgTable α) (h : writeOutTable ops round update reset motl = some t) :
    SpecExport ops reset (if update then motl.map (updateCoord round) else motl) t :=
  model_spec ops reset _ t h

/-- **The wrapper `Motl.write_out(path, "stopgap")`** (what `sta.py` / `tmana.py` call; tied to the
source by `wrappers_documented`): no keyword reaches `StopgapMotl.write_out`, so the table handed to
the STAR writer satisfies every export clause for the list AS GIVEN (no re-centring) with
`motl_idx` = subtomogram number (no reset), under the documented header. -/
theorem motlWriteOut_spec [Add α] [Sub α] (ops : NumOps α) (round : α → α) (motl : List (Particle α))
    (t : SgTable α) (h : motlWriteOut ops round motl = some t) :
    SpecExport ops false motl t ∧ t.cols = SgField.all := by
  rw [motlWriteOut, (omitted_keywords ops round motl).2.1] at h
  exact ⟨by simpa using write_out_spec ops round false false motl t h, model_columns ops false motl t h⟩

/-! ### via file: the STAR layer (C02) under `write_out` / `read_in`

`via_file` is stated for an abstract STAR layer that round-trips well-formed tables under the one
block name cryoCAT uses (`StarRoundTripAt`); `star_layer_roundtrip` *proves* that hypothesis for the
concrete layer `starWrite` / `starRead` of `Model/C04_Star.lean` — C02's model of `Starfile.write` /
`Starfile.read` (tokenizer, parser, per-column numeric typing, STOPGAP header variant) — from
`C02.typed_roundtrip`, and `via_file_c02` is `via_file` with the hypothesis discharged.

What these theorems DO say: the same particles come back, in the same order, and each of the 14
shared fields is `q` of the field that was written, where `q v = parse (C02.cellText (ren v))` is
print-then-parse of ONE value — no field is moved, mixed with another, dropped or taken from another
particle. What they do NOT say: anything about `q` itself. `ren` (value ↦ printed digits: pandas
`round(6)` + Python `repr`) and `parse` (digits ↦ value: `pandas.to_numeric`) are arbitrary parameters,
so the clause "reproduces all 14 fields TO STAR PRECISION" of the statement has no theorem: that `q` is
the identity up to 5e-7 is the harness tolerance (5e-7 + 16 ulp on every written file and reload),
validated on every run, not proved.

Hypothesis on the printer: the numbers that occur IN THE TABLE WRITTEN must be printed as well-formed
number cells (`via_file_c02_cells`; `via_file_c02` asks it of every value of the type, which is
convenient for `Int` / `Dec` but cannot hold for a faithful printer of floats: `repr(nan) = "nan"` is
not a number token for the reader). So the theorems speak about tables without NaN. The real
`write_out` calls `fillna(0)` on the table before writing — that line is inside the body whose digest is checked
(`digest_StopgapMotl_write_out_documented`) and executed by every run, but it is NOT in the model
`writeOutTable` (for the finite values of the quantifier it is the identity). -/

/-- tables the STAR layer is asked to carry here: a duplicate-free, non-empty header, at least one
row, every row as long as the header, text cells taken from `words`, and homogeneous columns: in
every row exactly the `halfset` cell is a text, all other cells are numbers. (The reader types a
column as numeric iff *all* its cells are number tokens; a column mixing numbers and texts would come
back as text, so without homogeneity no reader of this kind could return the table.) -/
def StarWF (words : List String) (t : SgTable α) : Prop :=
  t.cols.Nodup ∧ t.rows ≠ [] ∧ (∀ r ∈ t.rows, r.length = t.cols.length) ∧
  (∀ r ∈ t.rows, ∀ s, Cell.str s ∈ r → s ∈ words) ∧
  t.cols ≠ [] ∧ ∀ r ∈ t.rows, r.map Cell.isNum = t.cols.map (fun f => f != SgField.halfset)

/-- the property of a STAR layer `via_file` needs, for ONE block name `spec`: writing a well-formed
table under that name and reading it back under that name gives the same header and rows, each
number passed through `q`, text cells unchanged. `q` is ANY function here; for the concrete layer it is
print-then-parse (`star_layer_roundtrip`). That `q` is "rounding to the writer's 6 decimals" is not
part of this definition or of any theorem: the value clause is the harness tolerance 5e-7 + 16 ulp. -/
def StarRoundTripAt {F : Type} (words : List String) (q : α → β) (spec : String)
    (write : String → SgTable α → F) (read : String → F → Option (SgTable β)) : Prop :=
  ∀ t : SgTable α, StarWF words t → read spec (write spec t) = some (t.mapCells q)

/-- the same for every block name (stronger than what `via_file` needs; the concrete layer does not
have it: a block name must be a STAR word) -/
def StarRoundTrip {F : Type} (words : List String) (q : α → β)
    (write : String → SgTable α → F) (read : String → F → Option (SgTable β)) : Prop :=
  ∀ spec : String, StarRoundTripAt words q spec write read

theorem starWF_ofRows (words : List String) (rows : List (SgRow α)) (hne : rows ≠ [])
    (hk : ∀ r ∈ rows, (∃ s ∈ words, r .halfset = .str s) ∧ ∀ c, (r c).isNum = (c != .halfset)) :
    StarWF words (.ofRows rows) := by
  refine ⟨(by decide : SgField.all.Nodup), by simpa [SgTable.ofRows] using hne, fun cells hcells => ?_, fun cells hcells s hmem => ?_,
    (by decide : SgField.all ≠ []), fun cells hcells => ?_⟩
  · obtain ⟨r, _, rfl⟩ := List.mem_map.1 hcells
    exact List.length_map ..
  · -- a text cell can only be the `halfset` cell
    obtain ⟨r, hr, rfl⟩ := List.mem_map.1 hcells
    obtain ⟨c, _, hcs⟩ := List.mem_map.1 hmem
    obtain ⟨⟨s', hs', he⟩, hnum⟩ := hk r hr
    have hc : c = .halfset := by simpa [hcs, Cell.isNum] using (hnum c).symm
    rw [hc, he, Cell.str.injEq] at hcs
    exact hcs ▸ hs'
  · obtain ⟨r, hr, rfl⟩ := List.mem_map.1 hcells
    rw [List.map_map]
    exact List.map_congr_left fun c _ => (hk r hr).2 c

/-- what `convert_to_sg_motl` returns is a table the STAR layer accepts (N ≥ 1) -/
theorem exportTable_starWF (ops : NumOps α) (reset : Bool) (motl : List (Particle α)) (t : SgTable α)
    (h : exportTable ops reset motl = some t) (hN : motl ≠ []) : StarWF ["A", "B"] t := by
  obtain rfl := exportTable_eq h
  refine starWF_ofRows _ _ (mt List.mapIdx_eq_nil_iff.1 hN) fun r hr => ?_
  obtain ⟨i, hi, rfl⟩ := List.mem_mapIdx.1 hr
  exact exportRowAt_kinds ops reset i _

/-- `via_file` with the round trip of the STAR layer asked only for THE table that is
written (`t`), not for every well-formed table. -/
theorem via_file_at {F : Type} [Add α] [Sub α] (q : α → β) (write : String → SgTable α → F)
    (read : String → F → Option (SgTable β))
    (ops : NumOps α) (round : α → α) (update reset : Bool) (d : β) (motl : List (Particle α)) (hN : motl ≠ [])
    (t : SgTable α) (h : writeOutTable ops round update reset motl = some t)
    (hstar : StarWF ["A", "B"] t →
      read Gen.C04.writeSpecifier (write Gen.C04.writeSpecifier t) = some (t.mapCells q)) :
    (read Gen.C04.readSpecifier (write Gen.C04.writeSpecifier t)).bind (importTable d)
      = some ((if update then motl.map (updateCoord round) else motl).map (restrict d q)) := by
  have hmN : (if update then motl.map (updateCoord round) else motl) ≠ [] := by
    cases update <;> simpa using hN
  rw [star_block.2.1, hstar (exportTable_starWF ops reset _ t h hmN)]
  exact importTable_mapCells_exportTable q d h

/-- For every STAR layer that round-trips well-formed tables under the block name
cryoCAT writes with a cell conversion `q` (ANY function: nothing here says `q` is close to the
identity — "to STAR precision" is the harness tolerance), every particle list with N ≥ 1, both
`reset_index` values and both `update_coord` values: `write_out` followed by `StopgapMotl(path)`
yields the same particles in the same order, each of the 14 shared fields equal to `q` of the field
of the (re-centred, when asked) input. -/
theorem via_file {F : Type} [Add α] [Sub α] (q : α → β) (write : String → SgTable α → F)
    (read : String → F → Option (SgTable β))
    (hstar : StarRoundTripAt ["A", "B"] q Gen.C04.writeSpecifier write read)
    (ops : NumOps α) (round : α → α) (update reset : Bool) (d : β) (motl : List (Particle α)) (hN : motl ≠ [])
    (t : SgTable α) (h : writeOutTable ops round update reset motl = some t) :
    (read Gen.C04.readSpecifier (write Gen.C04.writeSpecifier t)).bind (importTable d)
      = some ((if update then motl.map (updateCoord round) else motl).map (restrict d q)) :=
  via_file_at q write read ops round update reset d motl hN t h (hstar t)

/-- what the printer `ren` must do for ONE table: print the numbers that occur in it as well-formed
integer/float cells the reader types as numbers (a faithful float printer does so for every table
without NaN) -/
def PrintsNumbersOf (ren : α → C02.Cell) (t : SgTable α) : Prop :=
  ∀ r ∈ t.rows, ∀ v, Cell.num v ∈ r → C02.CellWF (ren v) ∧ (ren v).isNumber = true

/-- the block name cryoCAT writes is a word the STAR writer can print -/
theorem writeSpecifier_ok : C02.CellOk Gen.C04.writeSpecifier.toList := by
  unfold Gen.C04.writeSpecifier
  -- the kernel decodes `"…".toList` through UTF-8, at a cost quadratic in the length; a literal IS `String.ofList` of its characters
  rw [String.toList_ofList]
  decide +kernel

/-- The concrete STAR layer returns the well-formed table `t`, numbers
passed through print-then-parse, as soon as `ren` prints the numbers OF `t` as number cells. -/
theorem star_layer_roundtrip_cells (ren : α → C02.Cell) (parse : C02.Word → β)
    (spec : String) (hspec : C02.CellOk spec.toList) (t : SgTable α) (hren : PrintsNumbersOf ren t)
    (hwf : StarWF ["A", "B"] t) :
    starRead parse spec (starWrite ren spec t) = some (t.mapCells (fun v => parse (C02.cellText (ren v)))) := by
  obtain ⟨_, hrows, hlen, htxt, hcols, hkind⟩ := hwf
  refine starRead_starWrite ren spec t hren hspec hcols hrows hlen ?_ hkind parse
  intro r hr s hs
  have hw := htxt r hr s hs
  simp only [List.mem_cons, List.not_mem_nil, or_false] at hw
  rcases hw with rfl | rfl <;> decide

/-- For any block name that is a STAR word: the concrete STAR layer — C02's
writer on the rendered table, C02's reader, first block of that name, columns by name, per-column
numeric typing — returns every well-formed table, numbers passed through print-then-parse. `ren`
must print every number as a well-formed integer/float cell that the reader types as a number (so no
NaN); `parse` is arbitrary. Consequence of `C02.typed_roundtrip`. -/
theorem star_layer_roundtrip_spec (ren : α → C02.Cell) (parse : C02.Word → β)
    (hren : ∀ v, C02.CellWF (ren v) ∧ (ren v).isNumber = true)
    (spec : String) (hspec : C02.CellOk spec.toList) :
    StarRoundTripAt ["A", "B"] (fun v => parse (C02.cellText (ren v))) spec
      (starWrite ren) (starRead parse) := by
  intro t hwf
  exact star_layer_roundtrip_cells ren parse spec hspec t (fun _ _ v _ => hren v) hwf

/-- The hypothesis of `via_file` holds for the concrete STAR layer under the
block name `data_stopgap_motivelist`, with words `A`/`B` and cell conversion
`q v = parse (C02.cellText (ren v))`. -/
theorem star_layer_roundtrip (ren : α → C02.Cell) (parse : C02.Word → β)
    (hren : ∀ v, C02.CellWF (ren v) ∧ (ren v).isNumber = true) :
    StarRoundTripAt ["A", "B"] (fun v => parse (C02.cellText (ren v))) Gen.C04.writeSpecifier
      (starWrite ren) (starRead parse) :=
  star_layer_roundtrip_spec ren parse hren _ writeSpecifier_ok

/-- `via_file` through the C02 model of the STAR file: for every particle list with
N ≥ 1, both `reset_index` and both `update_coord` values, writing the exported table with
`Starfile.write` under `data_stopgap_motivelist`, reading the text with `Starfile.read`, taking the
first block of that name, typing its columns and importing the result yields the same particles in
the same order, each of the 14 shared fields equal to print-then-parse of the (re-centred, when
asked) input field. The remaining hypothesis is on the printer: here that `ren` prints EVERY value of
the type as a number cell — satisfiable for `Int` and `Dec` (examples below), NOT for a faithful
printer of floats (NaN); `via_file_c02_cells` asks it only of the numbers in the table written.
Print-then-parse itself is an arbitrary function here: "to STAR precision" is the harness tolerance. -/
theorem via_file_c02 [Add α] [Sub α] (ren : α → C02.Cell) (parse : C02.Word → β)
    (hren : ∀ v, C02.CellWF (ren v) ∧ (ren v).isNumber = true)
    (ops : NumOps α) (round : α → α) (update reset : Bool) (d : β) (motl : List (Particle α)) (hN : motl ≠ [])
    (t : SgTable α) (h : writeOutTable ops round update reset motl = some t) :
    (starRead parse Gen.C04.readSpecifier (starWrite ren Gen.C04.writeSpecifier t)).bind (importTable d)
      = some ((if update then motl.map (updateCoord round) else motl).map
          (restrict d (fun v => parse (C02.cellText (ren v))))) :=
  via_file _ (starWrite ren) (starRead parse) (star_layer_roundtrip ren parse hren)
    ops round update reset d motl hN t h

/-- `via_file_c02` with the hypothesis on the printer restricted to the numbers
that occur in the table written (`PrintsNumbersOf ren t`): what a faithful printer of floats satisfies
for every list whose exported table holds no NaN (finite field values; the real code also replaces NaN
by 0 before writing, a step the model does not have). -/
theorem via_file_c02_cells [Add α] [Sub α] (ren : α → C02.Cell) (parse : C02.Word → β)
    (ops : NumOps α) (round : α → α) (update reset : Bool) (d : β) (motl : List (Particle α)) (hN : motl ≠ [])
    (t : SgTable α) (h : writeOutTable ops round update reset motl = some t) (hren : PrintsNumbersOf ren t) :
    (starRead parse Gen.C04.readSpecifier (starWrite ren Gen.C04.writeSpecifier t)).bind (importTable d)
      = some ((if update then motl.map (updateCoord round) else motl).map
          (restrict d (fun v => parse (C02.cellText (ren v))))) :=
  via_file_at _ (starWrite ren) (starRead parse) ops round update reset d motl hN t h
    (star_layer_roundtrip_cells ren parse _ writeSpecifier_ok t hren)

/-- **The wrappers via file**: `Motl(df).write_out(path, "stopgap")` followed by
`Motl.load(path, "stopgap")` (= `StopgapMotl(path)`, `wrappers_documented`) through the C02 model of
the STAR file returns the particles as given, in the same order, each of the 14 shared fields
printed and parsed once (by an arbitrary print-then-parse: the value clause is the harness tolerance).
The printer is asked to print only the numbers of the table written as number cells. -/
theorem via_file_wrappers [Add α] [Sub α] (ren : α → C02.Cell) (parse : C02.Word → β)
    (ops : NumOps α) (round : α → α) (d : β) (motl : List (Particle α)) (hN : motl ≠ [])
    (t : SgTable α) (h : motlWriteOut ops round motl = some t) (hren : PrintsNumbersOf ren t) :
    (starRead parse Gen.C04.readSpecifier (starWrite ren Gen.C04.writeSpecifier t)).bind (importTable d)
      = some (motl.map (restrict d (fun v => parse (C02.cellText (ren v))))) := by
  rw [motlWriteOut, (omitted_keywords ops round motl).2.1] at h
  simpa using via_file_c02_cells ren parse ops round false false d motl hN t h hren

/-! The file round trip for DECIMAL field values.

`via_file_c02` is polymorphic in the value type; besides the integer instance of the examples below it
is instantiated here at finite decimal numbers — what a float64 field is once `DataFrame.round(6)` and
`repr` have turned it into digits. The theorem then says WHICH text comes back for every field: the
`repr` layout (fixed / exponent form) of its digits, particle by particle, in order. That the digits
are those of the float to within the STAR precision, and that `pandas.to_numeric` maps them back to the
nearest float, stays the harness tolerance (5e-7 + 16 ulp), as stated above. -/

/-- a finite decimal number as Python's `repr` sees a float: sign, digit string, position of the
decimal point (value = ±0.d₁d₂… × 10^decpt); the digit string is non-empty and made of digits -/
structure Dec where
  neg : Bool
  ds : C02.Word
  decpt : Int
  wf : ds ≠ [] ∧ C02.AllDigits ds

/-- the cell `Starfile.write` is handed for a decimal value -/
def Dec.cell (v : Dec) : C02.Cell := .flt (.fin v.neg v.ds v.decpt)
/-- the text `str(value)` prints for it (C02's model of `repr`) -/
def Dec.text (v : Dec) : C02.Word := C02.floatRepr v.neg v.ds v.decpt

/-- every decimal value is printed as a well-formed number cell: the hypothesis of `via_file_c02` holds -/
theorem Dec.cell_ok (v : Dec) : C02.CellWF v.cell ∧ v.cell.isNumber = true := ⟨v.wf, rfl⟩

/-- `via_file_c02` at decimal values (no hypothesis on the printer left): after `write_out` and
`StopgapMotl(path)` every one of the 14 shared fields of every particle is `parse` of the `repr` text
of its decimal value, same particles, same order, for both `reset_index` and `update_coord` values
(whatever arithmetic `update_coord` uses on the decimals). -/
theorem via_file_c02_decimal [Add Dec] [Sub Dec] (parse : C02.Word → β)
    (ops : NumOps Dec) (round : Dec → Dec) (update reset : Bool) (d : β) (motl : List (Particle Dec)) (hN : motl ≠ [])
    (t : SgTable Dec) (h : writeOutTable ops round update reset motl = some t) :
    (starRead parse Gen.C04.readSpecifier (starWrite Dec.cell Gen.C04.writeSpecifier t)).bind (importTable d)
      = some ((if update then motl.map (updateCoord round) else motl).map (restrict d (fun v => parse v.text))) :=
  via_file_c02 Dec.cell parse Dec.cell_ok ops round update reset d motl hN t h

/-- a table with `psi` and `theta` swapped (both angles, both numeric)
is not the documented renaming, and exporting with it puts theta into the `psi` column -/
theorem swapped_angles_detected :
    let bad : List (Field × SgField) := docPairs.map (fun es =>
      if es.1 = .psi then (Field.theta, es.2) else if es.1 = .theta then (Field.psi, es.2) else es)
    let p : Particle Nat := Particle.ofList 0 (List.range 20)
    bad ≠ docPairs ∧ copyPairs bad p (fun _ => .num 0) .psi ≠ .num p.psi := by decide +kernel

/-! non-vacuity -/

/-- a 3-particle list with non-sequential subtomogram numbers 7, 2, 11 -/
def demo : List (Particle Int) :=
  [Particle.ofList 0 [1, 0, 0, 7, 3, 5, 0, 10, 20, 30, 1, 2, 3, 0, 0, 0, 40, 50, 60, 2],
   Particle.ofList 0 [2, 0, 0, 2, 3, 5, 0, 11, 21, 31, 1, 2, 3, 0, 0, 0, 41, 51, 61, 1],
   Particle.ofList 0 [3, 0, 0, 11, 4, 6, 0, 12, 22, 32, 1, 2, 3, 0, 0, 0, 42, 52, 62, 1]]

example : (toSg intOps true demo).isSome = true := by decide +kernel
/-- ids -7 (odd) and 9007199254740990 (even, just below 2^53) meet the hypotheses of `halfset_parity_float_ids` -/
example : ((-7 : Int).natAbs < 2 ^ 53 ∧ encodeInt (-7) = 0xC01C000000000000) ∧
    ((9007199254740990 : Int).natAbs < 2 ^ 53 ∧ decodeInt (encodeInt 9007199254740990) = some 9007199254740990) := by decide +kernel
example : (exportTable intOps false demo).map (fun t => t.rows.map (fun r => r.take 5)) =
    some [[.num 7, .num 3, .num 5, .num 7, .str "B"], [.num 2, .num 3, .num 5, .num 2, .str "A"],
          [.num 11, .num 4, .num 6, .num 11, .str "B"]] := by decide +kernel
example : (exportTable intOps true demo).map (fun t => t.rows.map (fun r => r.head?)) =
    some [some (.num 1), some (.num 2), some (.num 3)] := by decide +kernel
example : ((exportTable intOps true demo).bind (importTable 0)).isSome = true := by decide +kernel
example : ∃ t, exportTable intOps true demo = some t ∧ checkFields demo t = true ∧
    checkHalf intOps demo t = true ∧ checkIdx intOps true demo t = true := ⟨_, rfl, by decide +kernel, by decide +kernel, by decide +kernel⟩
/-- the import checker accepts the model's import of the exported demo list and rejects it once two
particles are swapped -/
example : ∃ t ps, exportTable intOps false demo = some t ∧ importTable 0 t = some ps ∧
    checkImport t ps = true ∧ checkImport t ps.reverse = false := ⟨_, _, rfl, fromSg_toSg intOps 0 false demo _ rfl, by decide +kernel, by decide +kernel⟩
/-- the hypotheses of `updateCoord_rat_ties` are met: -2.5 ↦ (-3, +0.5) and 2.5 ↦ (3, -0.5) -/
example : ratRoundAway (-(5 / 2)) = -3 ∧ ratRoundAway (5 / 2) = 3 ∧ ratRoundAway (-(1 / 2)) = -1 ∧
    ratRoundAway (49 / 100) = 0 ∧ ratRoundAway (-7) = -7 := by decide +kernel
/-- exact decoding of floats to rationals (what the driver feeds `ratRoundAway` with): -2.5, 0.1 (not
1/10), the smallest subnormal, 2^53 + 2 -/
example : decodeRat 0xC004000000000000 = some (-(5 / 2)) ∧
    decodeRat 0x3FB999999999999A = some (3602879701896397 / 36028797018963968) ∧
    decodeRat 1 = some (1 / 2 ^ 1074) ∧ decodeRat 0x4340000000000001 = some 9007199254740994 ∧
    decodeRat 0x7FF0000000000000 = none := by decide +kernel
/-- the wrapper on the demo list: `motl_idx` is the subtomogram number (7, 2, 11), never 1..N -/
example : (motlWriteOut intOps id demo).map (fun t => t.rows.map (fun r => r.head?)) =
    some [some (.num 7), some (.num 2), some (.num 11)] := by decide +kernel
def dec (neg : Bool) (ds : String) (decpt : Int) (h : ds.toList ≠ [] ∧ C02.AllDigits ds.toList := by decide) : Dec :=
  ⟨neg, ds.toList, decpt, h⟩
example : (dec false "123457" 0).text = "0.123457".toList ∧ (dec true "125" 2).text = "-12.5".toList ∧
    (dec false "1" (-4)).text = "1e-05".toList ∧ (dec false "2048" 4).text = "2048.0".toList := by decide +kernel
/-- executed, not deduced: a 2 × 3 table of decimals is written and read back as the `repr` texts -/
example : starRead id Gen.C04.readSpecifier (starWrite Dec.cell Gen.C04.writeSpecifier
      { cols := [.orig_x, .halfset, .score], rows := [[.num (dec false "2048" 4), .str "A", .num (dec false "123457" 0)],
                                                       [.num (dec true "125" 2), .str "B", .num (dec false "1" (-4))]] })
    = some { cols := [.orig_x, .halfset, .score], rows := [[.num "2048.0".toList, .str "A", .num "0.123457".toList],
                                                            [.num "-12.5".toList, .str "B", .num "1e-05".toList]] } := by decide +kernel
/-- a printer in the manner of a faithful float printer: `none` stands for NaN and is printed as `nan` -/
def renOpt : Option Dec → C02.Cell
  | some v => v.cell
  | none => .flt .nan
/-- for it the hypothesis of `via_file_c02` (every value printed as a number cell) is FALSE, while the
hypothesis of `via_file_c02_cells` holds for a table without NaN -/
example : (¬ ∀ v, C02.CellWF (renOpt v) ∧ (renOpt v).isNumber = true) ∧
    PrintsNumbersOf renOpt { cols := [.orig_x, .halfset], rows := [[.num (some (dec true "125" 2)), .str "B"]] } := by
  refine ⟨fun h => by have := (h none).2; simp [renOpt, C02.Cell.isNumber] at this, ?_⟩
  intro r hr v hv
  simp only [List.mem_singleton] at hr
  subst hr
  simp only [List.mem_cons, Cell.num.injEq, List.not_mem_nil, or_false, reduceCtorEq] at hv
  subst hv
  exact (dec true "125" 2).cell_ok
/-- the STAR-layer assumption is satisfiable: the identity "file" round-trips with `q = id` -/
example : StarRoundTrip (α := Int) ["A", "B"] id (fun _ t => t) (fun _ f => some f) := by
  intro spec t _
  rw [SgTable.mapCells_id]

/-! non-vacuity of the C02 bridge (`star_layer_roundtrip`, `via_file_c02`): α = β = `Int`, numbers
printed as `str(int)`, a concrete decimal parser -/

/-- a concrete `parse` for the examples: decimal integers with an optional `-` -/
def demoParse : C02.Word → Int
  | '-' :: r => -((r.foldl (fun n c => 10 * n + (c.toNat - 48)) 0 : Nat) : Int)
  | r => ((r.foldl (fun n c => 10 * n + (c.toNat - 48)) 0 : Nat) : Int)

/-- the hypothesis on `ren` is satisfiable: every integer cell is well-formed and a number -/
example : ∀ z : Int, C02.CellWF (C02.Cell.int z) ∧ (C02.Cell.int z).isNumber = true := fun _ => ⟨trivial, rfl⟩
/-- the hypotheses of `via_file_c02` are met by the 3-particle list (re-numbered), its exported table
is `StarWF`, and the conclusion holds for it -/
example : ∃ t, writeOutTable intOps id false true demo = some t ∧ StarWF ["A", "B"] t ∧
    (starRead demoParse Gen.C04.readSpecifier (starWrite C02.Cell.int Gen.C04.writeSpecifier t)).bind (importTable 0)
      = some (demo.map (restrict 0 (fun v => demoParse (C02.cellText (C02.Cell.int v))))) :=
  ⟨_, rfl, exportTable_starWF intOps true demo _ rfl (by decide +kernel),
    via_file_c02 C02.Cell.int demoParse (fun _ => ⟨trivial, rfl⟩) intOps id false true 0 demo (by decide +kernel) _ rfl⟩
/-- executed, not deduced: the text written for the exported 3 × 16 table reads back as that table -/
example : (exportTable intOps true demo).bind (fun t =>
      starRead demoParse Gen.C04.readSpecifier (starWrite C02.Cell.int Gen.C04.writeSpecifier t))
    = exportTable intOps true demo := by decide +kernel
/-- the text of a tiny table: STOPGAP block name, hence un-numbered labels and the extra blank line -/
example : starWrite C02.Cell.int Gen.C04.writeSpecifier { cols := [.motl_idx, .halfset], rows := [[.num (-7), .str "B"]] }
    = "\ndata_stopgap_motivelist\n\nloop_\n_motl_idx\n_halfset\n\n-7        \tB         \n\n".toList := by
  rw [String.toList_ofList]
  decide +kernel
example : starRead demoParse Gen.C04.readSpecifier "\ndata_stopgap_motivelist\n\nloop_\n_motl_idx\n_halfset\n\n-7        \tB         \n\n".toList
    = some { cols := [.motl_idx, .halfset], rows := [[.num (-7), .str "B"]] } := by
  rw [String.toList_ofList]
  decide +kernel
/-- no block of the requested name: the `ValueError` of `read_in` -/
example : starRead demoParse "data_other" "\ndata_stopgap_motivelist\n\nloop_\n_motl_idx\n_halfset\n\n-7        \tB         \n\n".toList
    = none := by
  rw [String.toList_ofList]
  decide +kernel
/-- the homogeneity conjunct of `StarWF` is needed: a column mixing a number and a text comes back
as a text column -/
example : starRead demoParse Gen.C04.readSpecifier (starWrite C02.Cell.int Gen.C04.writeSpecifier
      { cols := [.motl_idx], rows := [[.num 1], [.str "B"]] })
    = some { cols := [.motl_idx], rows := [[.str "1"], [.str "B"]] } := by decide +kernel

end CryoCat.C04
