import CryoCat.Model.C01
import CryoCat.Lemmas.C01
/-! C01 — property theorems (only theorems and non-vacuity examples; lookup lemmas are local, words, header and payload comparison in `Lemmas/C01`,
blocks of cells in `Lemmas/Layout`). -/
namespace CryoCat.C01
variable {α β : Type}

/-! The facts the translator regenerates from the source on every run (`Gen/C01`), at today's values. -/

theorem anchors_ok : Gen.C01.anchorsOk = true := rfl

/-- the source's `Motl.motl_columns` is the documented TOM/AV3 order score, geom1, …, class -/
theorem em_field_order : genColumns = Field.all := by
  -- the regenerated names are the names of the documented fields, in order, and `ofName?` inverts `name`
  have hnames : Gen.C01.motlColumnNames = Field.all.map Field.name := rfl
  rw [genColumns, hnames, List.filterMap_map]
  simp only [Function.comp_def, Field.ofName_name, List.filterMap_some]

theorem read_expects_20 : Gen.C01.readExpectedColumns = 20 := rfl

/-- the array the source hands to `emfile.write` is indexed with `[…motl_columns]` (read off the data-flow
expression of `EmMotl.write_out` by the translator); the model's writer `writeGen` branches on this flag -/
theorem writer_selects_by_name : Gen.C01.writeSelectsCanonical = true := rfl

/-- the literal of the `.fillna(·)` on what is written is 0 (`writeGen` fills with whatever literal the source has) -/
theorem writer_fills_missing : Gen.C01.writeFill = some 0 := rfl

/-- the array is cast to single precision (`writeGen` stores float64 / data-type 9 otherwise) -/
theorem writer_casts_single : Gen.C01.writeCastsSingle = true := rfl

/-- `Motl.write_out`: `motl_type` defaults to `"emmotl"`, is compared case-insensitively, and the EM branch is
`EmMotl(self.df).write_out(output_path)`; `Motl.load`: default `"emmotl"`, compared as given, EM branch
`return EmMotl(input_motl)` (regenerated from the two dispatchers on every run) -/
theorem dispatch_documented :
    Gen.C01.motlWriteOutDefault = "emmotl" ∧ Gen.C01.motlWriteOutLowers = true ∧ Gen.C01.motlWriteOutEmBranch = true ∧
    Gen.C01.motlLoadDefault = "emmotl" ∧ Gen.C01.motlLoadLowers = false ∧ Gen.C01.motlLoadEmBranch = true :=
  ⟨rfl, rfl, rfl, rfl, rfl, rfl⟩

private theorem lookup_eq_some_iff_mem [BEq γ] [LawfulBEq γ] (l : List (γ × β)) (k : γ) (v : β)
    (hn : (l.map Prod.fst).Nodup) : l.lookup k = some v ↔ (k, v) ∈ l := by
  induction l with
  | nil => simp
  | cons a l ih =>
    obtain ⟨a1, a2⟩ := a
    rw [List.map_cons, List.nodup_cons] at hn
    rw [List.lookup_cons, List.mem_cons, Prod.mk.injEq]
    by_cases hk : k = a1
    · subst hk
      have : ∀ w, (k, w) ∉ l := fun w hw => hn.1 (List.mem_map.2 ⟨(k, w), hw, rfl⟩)
      simp [this, eq_comm]
    · have hb : (k == a1) = false := beq_false_of_ne hk
      simp [hb, hk, ih hn.2]

private theorem lookup_zip_eq_some_iff [BEq γ] [LawfulBEq γ] (cols : List γ) (r : List β) (k : γ) (v : β)
    (hn : cols.Nodup) (hl : cols.length ≤ r.length) : (cols.zip r).lookup k = some v ↔ (k, v) ∈ cols.zip r :=
  lookup_eq_some_iff_mem _ k v (by rwa [List.map_fst_zip hl])

theorem writeEm_eq (conv : α → β) (d : α) (t : Table α) :
    writeEm conv d t
      = { dtype := 5, dimX := 20, dimY := t.rows.length, dimZ := 1,
          data := t.rows.flatMap (fun r => Field.all.map (fun f => conv (cell d t.cols r f))) } := by
  rw [writeEm, em_field_order]; rfl

theorem readEm_blocks (g : α → List β) (hg : ∀ r, (g r).length = 20) (rows : List α) (hN : rows ≠ []) (dt z : Nat) :
    readEm { dtype := dt, dimX := 20, dimY := rows.length, dimZ := z, data := rows.flatMap g }
      = some { cols := Field.all, rows := rows.map g } := by
  have hlen : rows.length ≠ 0 := fun h => hN (List.eq_nil_of_length_eq_zero h)
  simp only [readEm, hlen, if_false, read_expects_20, ne_eq, not_true_eq_false, em_field_order,
    Layout.chunks_flatMap (rowsOf 20) (fun _ => rfl) (fun _ _ => rfl) fun r _ => hg r]

/-- **Round trip, any column order.** For every header `cols` (in particular every permutation of
the 20 names — `cols` is not constrained at all here), every N ≥ 1 and every cell values, reading
the written file gives the canonical header and, per particle and in the same order, the 20 named
values converted by `conv` (= NaN→0 then single-precision rounding). -/
theorem em_roundtrip (conv : α → β) (d : α) (t : Table α) (hN : t.rows ≠ []) :
    readEm (writeEm conv d t)
      = some { cols := Field.all,
               rows := t.rows.map (fun r => Field.all.map (fun f => conv (cell d t.cols r f))) } := by
  rw [writeEm_eq]
  exact readEm_blocks _ (fun _ => List.length_map _) t.rows hN 5 1

/-- the model's constructor check (`sorted(cols) == sorted(motl_columns)`) accepts every permutation of the 20 names
and nothing else; the real constructor is compared with it on well-formed and malformed headers in the correspondence run -/
theorem accepted_iff (cols : List Field) : accepted cols = true ↔ cols.Perm Field.all := by
  simp [accepted, em_field_order, List.isPerm_iff]

/-- on an accepted header `cell` returns the cell stored under the name and never the default (the real code raises
`KeyError` only for headers the constructor has already refused) -/
theorem cell_of_accepted (d : α) (cols : List Field) (r : List α) (f : Field)
    (hc : accepted cols = true) (hr : r.length = cols.length) :
    ∃ i, ∃ (h : i < r.length), cols[i]? = some f ∧ cell d cols r f = r[i] := by
  have hp : cols.Perm Field.all := (accepted_iff cols).1 hc
  have hmem : f ∈ cols := hp.mem_iff.2 (Field.mem_all f)
  have hnd : cols.Nodup := hp.nodup_iff.2 Field.all_nodup
  obtain ⟨i, hi, hfi⟩ := List.getElem_of_mem hmem
  refine ⟨i, by omega, by simp [hfi, List.getElem?_eq_getElem hi], ?_⟩
  have hm : (f, r[i]'(by omega)) ∈ cols.zip r := by
    rw [List.mem_iff_getElem]
    refine ⟨i, by simp; omega, by simp [hfi]⟩
  simp [cell, (lookup_zip_eq_some_iff cols r f _ hnd (by omega)).2 hm]

theorem cell_canonical (d : β) (g : Field → β) (f : Field) : cell d Field.all (Field.all.map g) f = g f := by
  obtain ⟨i, hi, hf, hc⟩ :=
    cell_of_accepted d Field.all (Field.all.map g) f ((accepted_iff _).2 (.refl _)) (List.length_map _)
  rw [List.getElem?_eq_some_iff] at hf
  obtain ⟨hi', rfl⟩ := hf
  rw [hc, List.getElem_map]

/-- after loading, the field *named* `f` of particle `i` is the conversion of the field named `f`
of particle `i` of the original table -/
theorem em_roundtrip_named (conv : α → β) (d : α) (d' : β) (t : Table α) (hN : t.rows ≠ []) :
    (readEm (writeEm conv d t)).map (particles d')
      = some (t.rows.map (fun r => Particle.ofFn (fun f => conv (cell d t.cols r f)))) := by
  have hcell : ∀ g : Field → β, cell d' Field.all (Field.all.map g) = g := fun g => funext (cell_canonical d' g)
  rw [em_roundtrip conv d t hN]
  simp only [Option.map_some, particles, List.map_map, Function.comp_def, hcell]

/-- `conv_missing`, `conv_present` unfold `conv`; they are not clauses of the property -/
theorem conv_missing (isNaN : α → Bool) (r32 : α → β) (zero v : α) (h : isNaN v = true) :
    conv isNaN r32 zero v = r32 zero := by simp [conv, h]

theorem conv_present (isNaN : α → Bool) (r32 : α → β) (zero v : α) (h : isNaN v = false) :
    conv isNaN r32 zero v = r32 v := by simp [conv, h]

/-- **Missing values read back as 0, everything else as its single-precision rounding** — `em_roundtrip_named`
with the writer's conversion `conv isNaN r32 zero` spelled out:
the named field of the loaded particle is `r32 zero` where the table had a hole and `r32 v` otherwise, whatever
`r32` is (the driver instantiates it with IEEE `Float.toFloat32`; that numpy's cast is the same function is an
assumption compared bit for bit on every run, not a theorem). -/
theorem em_roundtrip_values (isNaN : α → Bool) (r32 : α → β) (zero : α) (d' : β) (t : Table α) (hN : t.rows ≠ []) :
    (readEm (writeEm (conv isNaN r32 zero) zero t)).map (particles d')
      = some (t.rows.map (fun r => Particle.ofFn (fun f =>
          if isNaN (cell zero t.cols r f) then r32 zero else r32 (cell zero t.cols r f)))) := by
  rw [em_roundtrip_named _ _ d' t hN]; rfl

/-- **Column order is irrelevant (cell level).** Two rows that hold the same named values under their headers
(e.g. one is a column permutation of the other; the first header without repeated names) give the same by-name
cell for every field. The file-level consequence is `em_write_same_named`. -/
theorem em_write_perm_invariant (d : α) (cols cols' : List Field) (r r' : List α)
    (hn : cols.Nodup) (hl : cols.length = r.length) (hl' : cols'.length = r'.length)
    (hp : (cols'.zip r').Perm (cols.zip r)) (f : Field) :
    cell d cols' r' f = cell d cols r f := by
  have hn' : cols'.Nodup := by
    have := (hp.map Prod.fst).nodup_iff
    rw [List.map_fst_zip (Nat.le_of_eq hl), List.map_fst_zip (Nat.le_of_eq hl')] at this
    exact this.2 hn
  -- both lookups find exactly the pairs of their row, and the two rows have the same pairs
  unfold cell
  congr 1
  ext v
  rw [lookup_zip_eq_some_iff _ _ _ _ hn' (Nat.le_of_eq hl'), lookup_zip_eq_some_iff _ _ _ _ hn (Nat.le_of_eq hl)]
  exact hp.mem_iff

/-- file-level form: two tables with the same number of rows whose i-th rows hold the same named values
(e.g. one is a column permutation of the other) give the **same file** (same extents and cells, hence the same bytes
under `encodeEm`) -/
theorem em_write_same_named (cv : α → β) (d : α) (t t' : Table α) (hl : t'.rows.length = t.rows.length)
    (h : ∀ i (h1 : i < t.rows.length) (h2 : i < t'.rows.length) f,
      cell d t'.cols t'.rows[i] f = cell d t.cols t.rows[i] f) :
    writeEm cv d t' = writeEm cv d t := by
  simp only [writeEm, hl, List.flatMap_def]
  congr 2
  -- the two lists of written rows agree row by row
  apply List.ext_getElem (by rw [List.length_map, List.length_map, hl])
  intro i h1 h2
  rw [List.getElem_map, List.getElem_map]
  exact List.map_congr_left fun f _ => congrArg cv (h i (by simpa using h2) (by simpa using h1) f)

/-- **Layout of the array**: extents 20 × N × 1 (x fastest) and 20·N cells; that the 20 fields of particle `i` sit
contiguously at `20·i + field index` in the documented order is `em_offset`, the bytes are `writeGen_bytes_decode`. -/
theorem em_layout (conv : α → β) (d : α) (t : Table α) :
    (writeEm conv d t).dimX = 20 ∧ (writeEm conv d t).dimY = t.rows.length ∧
    (writeEm conv d t).dimZ = 1 ∧ (writeEm conv d t).data.length = 20 * t.rows.length := by
  rw [writeEm_eq]
  exact ⟨rfl, rfl, rfl, (Layout.length_flatMap_blocks fun _ _ => List.length_map _).trans (Nat.mul_comm _ _)⟩

theorem em_offset (conv : α → β) (d : α) (t : Table α) (i : Nat) (hi : i < t.rows.length) (f : Field) :
    (writeEm conv d t).data[20 * i + f.idx]? = some (conv (cell d t.cols (t.rows[i]) f)) := by
  rw [writeEm_eq]
  show (t.rows.flatMap (fun r => Field.all.map (fun f => conv (cell d t.cols r f))))[20 * i + f.idx]? = _
  rw [Nat.mul_comm 20 i, Layout.getElem?_flatMap_blocks (m := 20) (fun _ _ => List.length_map _) i (idx_lt f), List.getElem?_eq_getElem hi,
    Option.bind_some, List.getElem?_map, getElem?_all_idx]
  rfl

/-- **Regression witness (defect D01).** The writer that emits cells in *table* order (the code
before the repair) does not satisfy the round trip once two columns are swapped. -/
theorem em_scrambles_without_reindex :
    let cols := [Field.geom1, Field.score] ++ Field.all.drop 2
    let t : Table Nat := { cols := cols, rows := [List.range 20] }
    writeEmAsIs id t ≠ writeEm id 0 t := by
  dsimp only
  rw [writeEm_eq]
  decide

theorem writeSrc_selected (fill : Option Int) (casts : Bool) (o : NumOps α) (t : Table α) :
    writeSrc true fill casts o t
      = { dtype := if casts then 5 else 9, dimX := 20, dimY := t.rows.length, dimZ := 1,
          data := t.rows.flatMap (fun r => (Field.all.map (fun f => cell (o.ofInt 0) t.cols r f)).map
            (fun v => o.store casts (fillCell o fill v))) } := by
  rw [writeSrc, em_field_order]; rfl

/-- **The source's writer is the documented writer.** `writeGen` is `writeSrc` at the three facts the translator
regenerates from `EmMotl.write_out` on every run; with today's facts it computes exactly `writeEm` with the
property's cell conversion. Editing the source (`.fillna(1.0)`, dropping `[Motl.motl_columns]` or the cast) changes
what `writeGen` computes and this proof no longer goes through. -/
theorem writeGen_eq_writeEm (o : NumOps α) (t : Table α) :
    writeGen o t = writeEm (specCell o) (o.ofInt 0) t := by
  -- the regenerated values are unfolded here (not taken from the three flag theorems above), so this proof
  -- itself stops checking when the source's facts change
  rw [show writeGen o t = writeSrc true (some 0) true o t from rfl, writeSrc_selected, writeEm_eq]
  simp only [List.map_map, Function.comp_def, store_fillCell_zero, if_true]

/-- **Round trip of the source's writer, any column order, N ≥ 1**: float32 of 0 where the table had a hole, float32 of
the value otherwise -/
theorem em_roundtrip_gen (o : NumOps α) (t : Table α) (hN : t.rows ≠ []) :
    readEm (writeGen o t)
      = some { cols := Field.all,
               rows := t.rows.map (fun r => Field.all.map (fun f =>
                 if o.isNaN (cell (o.ofInt 0) t.cols r f) then Stored.f32 (o.bits32 (o.ofInt 0))
                 else Stored.f32 (o.bits32 (cell (o.ofInt 0) t.cols r f)))) } := by
  rw [writeGen_eq_writeEm, em_roundtrip _ _ t hN]; rfl

/-- the file `writeGen` describes: float32 (data-type 5), 20 × N × 1 -/
theorem em_layout_gen (o : NumOps α) (t : Table α) :
    (writeGen o t).dtype = 5 ∧ (writeGen o t).dimX = 20 ∧ (writeGen o t).dimY = t.rows.length ∧
    (writeGen o t).dimZ = 1 ∧ (writeGen o t).data.length = 20 * t.rows.length := by
  rw [writeGen_eq_writeEm]
  exact ⟨rfl, em_layout _ _ t⟩

/-- the model's writer really depends on each translated fact (witnesses on a toy number type, `none` = missing):
another fill literal, … -/
theorem writer_fill_matters :
    let t : Table (Option Nat) := { cols := Field.all, rows := [(List.range 19).map some ++ [none]] }
    writeSrc true (some 1) true toyOps t ≠ writeSrc true (some 0) true toyOps t
    ∧ writeSrc true none true toyOps t ≠ writeSrc true (some 0) true toyOps t := by
  simp only [writeSrc_selected]; decide +kernel

/-- … no cast (float64 cells, data-type 9), … -/
theorem writer_cast_matters :
    let t : Table (Option Nat) := { cols := Field.all, rows := [(List.range 20).map some] }
    writeSrc true (some 0) false toyOps t ≠ writeSrc true (some 0) true toyOps t := by
  simp only [writeSrc_selected]; decide +kernel

/-- … or table order instead of selection by name (defect D01 again, now in the writer the driver runs) -/
theorem writer_selection_matters :
    let t : Table (Option Nat) := { cols := [Field.geom1, Field.score] ++ Field.all.drop 2, rows := [(List.range 20).map some] }
    writeSrc false (some 0) true toyOps t ≠ writeSrc true (some 0) true toyOps t := by
  simp only [writeSrc_selected]; decide +kernel

/-- **Both paths of the quantifier write with the same writer**: `Motl.write_out(p)` (type omitted),
`Motl.write_out(p, 'emmotl')` and the case variants the `.lower()` admits all are `EmMotl(self.df).write_out(p)`,
i.e. `writeGen` — computed from the regenerated dispatch facts -/
theorem motl_write_out_em (o : NumOps α) (t : Table α) (ty : Option String)
    (h : ty = none ∨ ty = some "emmotl" ∨ ty = some "EMMOTL" ∨ ty = some "EmMotl") :
    motlWriteOut ty o t = some (writeGen o t) := by
  rcases h with rfl | rfl | rfl | rfl <;> exact if_pos (by decide +kernel)

/-- `Motl.load(p)` and `Motl.load(p, 'emmotl')` read with the model of `EmMotl.read_in`; another type does not -/
theorem motl_load_em (f : EmFile β) (ty : Option String) (h : ty = none ∨ ty = some "emmotl") :
    motlLoad ty f = readEm f := by
  rcases h with rfl | rfl <;> exact if_pos (by decide +kernel)

/-- the type string matters: `'relion'` does not reach the EM writer in this model -/
theorem motl_write_out_other (o : NumOps α) (t : Table α) : motlWriteOut (some "relion") o t = none :=
  if_neg (by decide +kernel)

/-- **What the decoder accepts is a valid float32 EM volume**: full header with machine code 6 and data-type code 5,
and exactly 4·x·y·z payload bytes, which are the decoded cells -/
theorem decodeEm_sound (bs : List UInt8) (f : EmFile UInt32) (h : decodeEm bs = some f) :
    f.dtype = 5 ∧ bs.getD 0 0 = 6 ∧ bs.getD 3 0 = 5 ∧ bs.length = 512 + 4 * (f.dimX * f.dimY * f.dimZ) ∧
    f.dimX = u32At bs 4 ∧ f.dimY = u32At bs 8 ∧ f.dimZ = u32At bs 12 ∧ f.data = words (bs.drop 512) ∧
    f.dimX < 2147483648 ∧ f.dimY < 2147483648 ∧ f.dimZ < 2147483648 := by
  -- `if c then none else x = some f` says `¬ c` and `x = some f`: the five refusals are excluded and `f` is what is left
  simp only [decodeEm, Option.ite_none_left_eq_some, Option.some.injEq] at h
  obtain ⟨-, h0, h3, hext, hlen, rfl⟩ := h
  have hext' : u32At bs 4 < 2147483648 ∧ u32At bs 8 < 2147483648 ∧ u32At bs 12 < 2147483648 := by omega
  exact ⟨rfl, Decidable.of_not_not h0, Decidable.of_not_not h3, Decidable.of_not_not hlen, rfl, rfl, rfl, rfl, hext'⟩

/-- **The decoder accepts everything that is a valid float32 EM volume** (the converse of `decodeEm_sound`): machine
code 6, data-type code 5, non-negative int32 extents and exactly 4·x·y·z payload bytes suffice. Together:
`decodeEm bs = some f` ⇔ these conditions hold and `f` is the volume they describe — "accepts exactly". -/
theorem decodeEm_complete (bs : List UInt8) (h0 : bs.getD 0 0 = 6) (h3 : bs.getD 3 0 = 5)
    (hx : u32At bs 4 < 2147483648) (hy : u32At bs 8 < 2147483648) (hz : u32At bs 12 < 2147483648)
    (hlen : bs.length = 512 + 4 * (u32At bs 4 * u32At bs 8 * u32At bs 12)) :
    decodeEm bs = some { dtype := 5, dimX := u32At bs 4, dimY := u32At bs 8, dimZ := u32At bs 12,
                         data := words (bs.drop 512) } := by
  simp only [decodeEm, Option.ite_none_left_eq_some]
  exact ⟨by omega, fun h => h h0, fun h => h h3, by omega, fun h => h hlen, trivial⟩

/-- **Decoding inverts encoding.** For every float32 volume with non-negative int32 extents whose payload has
x·y·z cells, the decoder returns the volume from the bytes `emfile.write` lays down (512-byte header, little-endian
float32 cells, x fastest). -/
theorem decodeEm_encodeEm (f : EmFile UInt32) (hd : f.dtype = 5)
    (hx : f.dimX < 2147483648) (hy : f.dimY < 2147483648) (hz : f.dimZ < 2147483648)
    (hlen : f.data.length = f.dimX * f.dimY * f.dimZ) :
    decodeEm (encodeEm (f.map Stored.f32)) = some f := by
  obtain ⟨dt, x, y, z, data⟩ := f
  subst hd
  simp only at hx hy hz hlen
  have henc : encodeEm (EmFile.map Stored.f32 ⟨5, x, y, z, data⟩) = emHeader 5 x y z ++ data.flatMap le32 := by
    rw [encodeEm, EmFile.map, List.flatMap_map]; rfl
  -- the bytes meet the decoder's conditions, and what it reads in them are `x y z` and the cells
  have hdec := decodeEm_complete (emHeader 5 x y z ++ data.flatMap le32) (header_machine ..) (header_dtype ..)
  rw [header_x 5 x y z _ (by omega), header_y 5 x y z _ (by omega), header_z 5 x y z _ (by omega), drop_header,
    words_flatMap] at hdec
  rw [henc]
  exact hdec hx hy hz (by rw [List.length_append, emHeader_length, Layout.length_flatMap_blocks fun w _ => le32_length w, hlen, Nat.mul_comm])

/-- **The checker decides the last clause of the property on bytes**: it answers `ok` exactly when the bytes are a
valid float32 EM volume of extents 20 × N × 1 (numpy shape 1 × N × 20) whose cells equal, as numbers, the demanded ones -/
theorem checkFile_ok_iff (spec : List UInt32) (n : Nat) (bs : List UInt8) :
    checkFile spec n bs = Verdict.ok ↔
      ∃ f, decodeEm bs = some f ∧ f.dimX = 20 ∧ f.dimY = n ∧ f.dimZ = 1 ∧ f.data.length = spec.length ∧
        ∀ k (h1 : k < f.data.length) (h2 : k < spec.length), sameNum f.data[k] spec[k] = true := by
  unfold checkFile
  cases hdec : decodeEm bs with
  | none => simp
  | some f =>
    -- the last two clauses say that `firstDiff` finds nothing
    simp only [Option.some.injEq, exists_eq_left', ← firstDiff_eq_none_iff f.data spec 0]
    by_cases hshape : f.dimX ≠ 20 ∨ f.dimY ≠ n ∨ f.dimZ ≠ 1
    · rw [if_pos hshape]
      exact ⟨fun h => (nomatch h), fun ⟨h1, h2, h3, _⟩ => by omega⟩
    · rw [if_neg hshape]
      have hs : f.dimX = 20 ∧ f.dimY = n ∧ f.dimZ = 1 := by omega
      cases firstDiff f.data spec 0 <;> simp [hs]

/-- **Decoding the bytes of the source's writer gives the property's cells** — for every table, every column order
and every N < 2³¹ the decoder accepts `encodeEm (writeGen o t)` as a float32 volume of extents 20 × N × 1 whose
cells are `specWords o t`: particle by particle, the 20 fields in the documented order, each looked up by name,
missing → 0, rounded to single precision. -/
theorem writeGen_bytes_decode (o : NumOps α) (t : Table α) (hN : t.rows.length < 2147483648) :
    decodeEm (encodeEm (writeGen o t))
      = some { dtype := 5, dimX := 20, dimY := t.rows.length, dimZ := 1, data := specWords o t } := by
  have hfile : writeGen o t = (EmFile.map Stored.f32
      { dtype := 5, dimX := 20, dimY := t.rows.length, dimZ := 1, data := specWords o t } : EmFile Stored) := by
    rw [writeGen_eq_writeEm, writeEm_eq]
    simp only [EmFile.map, specWords, List.map_flatMap, List.map_map, Function.comp_def, specCell_eq]
  have hlen : (specWords o t).length = 20 * t.rows.length * 1 := by
    rw [Nat.mul_one, Nat.mul_comm]; exact Layout.length_flatMap_blocks fun _ _ => List.length_map _
  rw [hfile]
  exact decodeEm_encodeEm ⟨5, 20, t.rows.length, 1, specWords o t⟩ rfl (by decide : 20 < 2147483648) hN (by decide : 1 < 2147483648) hlen

/-- **The bytes the source's writer produces satisfy the property's last clause**: the checker that judges the real
files answers `ok` on the model's own bytes, for every table, column order and N < 2³¹ (so a `file-vs-model`
agreement of the real bytes with the model's bytes implies the real file satisfies the clause). -/
theorem em_file_bytes_valid (o : NumOps α) (t : Table α) (hN : t.rows.length < 2147483648) :
    checkFile (specWords o t) t.rows.length (encodeEm (writeGen o t)) = Verdict.ok := by
  rw [checkFile_ok_iff]
  refine ⟨_, writeGen_bytes_decode o t hN, rfl, rfl, rfl, rfl, ?_⟩
  intro k h1 h2
  simp [sameNum]

/-- **Round trip through the bytes on disk**, 1 ≤ N < 2³¹, any column order: write with the source's writer, encode,
decode, read with the model of `EmMotl.read_in` — the canonical header and, per particle in order, the float32 bit
patterns of the 20 named values (missing → 0). -/
theorem em_roundtrip_bytes (o : NumOps α) (t : Table α) (hN : t.rows ≠ []) (hN' : t.rows.length < 2147483648) :
    (decodeEm (encodeEm (writeGen o t))).bind readEm
      = some { cols := Field.all,
               rows := t.rows.map (fun r => Field.all.map (fun f =>
                 if o.isNaN (cell (o.ofInt 0) t.cols r f) then o.bits32 (o.ofInt 0)
                 else o.bits32 (cell (o.ofInt 0) t.cols r f))) } := by
  rw [writeGen_bytes_decode o t hN']
  exact readEm_blocks _ (fun _ => List.length_map _) t.rows hN 5 1

example : accepted ([Field.geom1, Field.score] ++ Field.all.drop 2) = true :=
  (accepted_iff _).2 (List.Perm.swap Field.score Field.geom1 (Field.all.drop 2))
example : checkFile (specWords toyOps { cols := Field.all, rows := [(List.range 20).map some] }) 1
    (encodeEm (writeSrc true (some 0) true toyOps { cols := Field.all, rows := [(List.range 20).map some] })) = Verdict.ok :=
  em_file_bytes_valid toyOps _ (by decide)
example : checkFile (specWords toyOps { cols := Field.all, rows := [(List.range 19).map some ++ [none]] }) 1
    (encodeEm (writeSrc true (some 1) true toyOps { cols := Field.all, rows := [(List.range 19).map some ++ [none]] })) = Verdict.value 19 := by
  rw [writeSrc_selected]; decide +kernel
example : (readEm (writeEm (fun (v : Nat) => v + 1) 0
    ({ cols := [Field.geom1, Field.score] ++ Field.all.drop 2, rows := [List.range 20, List.range 20] } : Table Nat))).isSome = true := by
  rw [em_roundtrip _ _ _ (List.cons_ne_nil _ _)]; rfl

end CryoCat.C01
