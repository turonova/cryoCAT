import CryoCat.Lemmas.C08
import CryoCat.Lemmas.C08_Objects
import CryoCat.Lemmas.C08_Merge
import CryoCat.Lemmas.C08_History
import CryoCat.Lemmas.C08_CheckHistory
import CryoCat.Lemmas.C08_MergeAccepts
import CryoCat.Lemmas.C08_Cell
/-! C08 — particle-list set algebra and identifier discipline: property theorems about the
executable model `Model/C08.lean` (the definitions the driver runs). Only theorems and
non-vacuity examples; helper lemmas live in `Lemmas/C08*.lean`. -/
namespace CryoCat.C08
open CryoCat Gen.C08
set_option linter.unusedSectionVars false

/-! ### translator obligations: what the source says today is the documented behaviour -/

theorem anchors_ok : Gen.C08.anchorsOk = true := rfl

/-- the 20 fields, in the documented order -/
theorem columns_documented : motlColumnNames = Field.all.map Field.name := rfl

/-- `check_df_correct_format` accepts exactly the permutations of the 20 names -/
theorem format_check_is_permutation : formatIsPermCheck = true := rfl

/-- `get_motl_subset`: `self.df[feature_id] == i` for `i` in the requested values made 1-d by
`np.atleast_1d(np.asarray(·))`; the parts are APPENDED to an initially empty table
(`concat([acc, part])`), mask and selection use the same frame, `reset_index(drop=True)`.
Structural (ast shapes; local variable names are free): a renamed variable keeps this theorem, a
reordered `concat` (`.prepend`) or a different normalisation (`.wrapInList`, the D20 defect) breaks it. -/
theorem subset_operator : subsetCmp = Cmp.eq
    ∧ subsetLoop = { iter := .requested, norm := .atleast1d, acc := .append, reset := .dropTrue, sameFrame := true } := ⟨rfl, rfl⟩

/-- `remove_feature`: `self.df[feature_id] != value` -/
theorem remove_operator : removeCmp = Cmp.ne := rfl

/-- `remove_feature`: the values are made 1-d by `np.atleast_1d(np.asarray(·))` like in `get_motl_subset` (every
array-like — list, tuple, ndarray, Series, scalar — is a list of values; `if not isinstance(v, (list,
np.ndarray)): v = [v]`, `.listOrArrayElseWrap`, compares a tuple with the whole column: defect D57), then `self.df` is NARROWED
value after value (`self.df = self.df.loc[self.df[f] != value]`, mask / selection / target are the same frame) -/
theorem remove_loop_documented :
    removeLoop = { iter := .requested, norm := .atleast1d, acc := .narrow, reset := .absent, sameFrame := true } := rfl

/-- `split_by_feature`: `== value` for value in the column's `Series.unique()` (resolved through the
helper method's return: order of first appearance), each part appended to an initially empty list
which is returned -/
theorem split_operator : splitCmp = Cmp.eq
    ∧ splitLoop = { iter := .uniqueFirst, norm := .none, acc := .append, reset := .absent, sameFrame := true } := ⟨rfl, rfl⟩

/-- `get_motl_intersection`: rows of the first list selected by `isin` of the second's ids; both operands
are re-loaded from their frames (`cls.load(<operand>.df)`, which fills missing values); the selection
is returned re-indexed.  Locals are alpha-normalised (`v0`, `v1` = the two loaded operands, `v2` = the
selection): renaming them keeps this theorem. -/
theorem intersection_operator : intersectKeepsFirstByIsin = true
    ∧ intersectSelection = "v0.df.loc[v0.df[feature_id].isin(v1.df[feature_id])]"
    ∧ intersectOperands = "v0=cls.load(motl1.df);v1=cls.load(motl2.df)" ∧ loadFillValue = 0
    ∧ intersectReturn = "cls(v2.reset_index(drop=True))" := ⟨rfl, rfl, rfl, rfl, rfl⟩

/-- `drop_duplicates`: id ascending, keep the first, defaults subtomo_id / score / descending -/
theorem dropdup_documented : ddFirstKeyAscending = true ∧ ddKeep = "first" ∧ ddDefaultDuplicates = "subtomo_id"
    ∧ ddDefaultDecision = "score" ∧ ddDefaultAscending = false := ⟨rfl, rfl, rfl, rfl, rfl⟩

/-- both merging loops: shift iff `feature_min <= feature_add`, by `feature_add - feature_min + 1`
(alpha-normalised locals: `v3` the loaded list, `v4` its smallest object number, `v1` the running
largest one); every input is first LOADED (`cls.load(v2)`: a copy of a `Motl`, a re-load of a frame), so
the shift never touches the caller's own object -/
theorem merge_documented :
    mergeRenumberShiftCmp = Cmp.le ∧ mergeDropDupShiftCmp = Cmp.le
    ∧ mergeRenumberShift = "v3.df.loc[:,'object_id']=v3.df.loc[:,'object_id']+(v1-v4+1)"
    ∧ mergeDropDupShift = mergeRenumberShift
    ∧ mergeRenumberMinMax = "v4=min(v3.df.loc[:,'object_id']);v1=0|max(v3.df.loc[:,'object_id'])"
    ∧ mergeDropDupMinMax = mergeRenumberMinMax
    ∧ mergeRenumberTail = "renumber_particles()" ∧ mergeDropDupTail = "drop_duplicates()"
    ∧ mergeRenumberLoad = "cls.load(v2)" ∧ mergeDropDupLoad = "cls.load(v2)" := ⟨rfl, rfl, rfl, rfl, rfl, rfl, rfl, rfl, rfl, rfl⟩

/-- the signature defaults the statement and the adapter rely on (the adapter omits these keywords in a
share of the calls): subset by `tomo_id`, returning a re-indexed `Motl`; intersection on `subtomo_id`;
`drop_duplicates` on `subtomo_id` / `score` / descending; objects renumbered from 1 -/
theorem signatures_documented : signatures =
    ["load(cls,input_motl,motl_type='emmotl')", "get_unique_values(self,feature_id)",
     "get_motl_subset(self,feature_values,feature_id='tomo_id',return_df=False,reset_index=True)",
     "remove_feature(self,feature_id,feature_values)",
     "split_by_feature(self,feature_id,write_out=False,output_prefix='')",
     "get_motl_intersection(cls,motl1,motl2,feature_id='subtomo_id')",
     "drop_duplicates(self,duplicates_column='subtomo_id',decision_column='score',decision_sort_ascending=False)",
     "merge_and_renumber(cls,motl_list)", "merge_and_drop_duplicates(cls,motl_list)", "renumber_particles(self)",
     "renumber_objects_sequentially(self,starting_number=1)"] := rfl

/-- digests of the WHOLE bodies (canonical form: names of locals, comments, docstrings, layout, type annotations,
the text of messages, the condition of an `if` that guards nothing but a message, and the position of independent
constant initialisations are free; every other statement,
expression, keyword and constant counts) of the functions the property is about,
including the branches no generated call executes (`write_out`, the `raise` guards): an added,
removed or changed statement anywhere in them breaks this theorem -/
theorem bodies_documented : bodyDigests =
    ["Motl.__init__:0dac581f53f53068",
     "Motl.create_empty_motl_df:c3586e54117f4b10",
     "Motl.check_df_correct_format:1c05710067fcabf5",
     "Motl.check_df_type:0173ab6026235504",
     "Motl.load:edb38fc7d294ed1f",
     "Motl.get_unique_values:28140647e59a70cb",
     "Motl.get_motl_subset:fe7033c7a5d40c5f",
     "Motl.remove_feature:14b1dd8afbed2e2e",
     "Motl.split_by_feature:e3f12653a2a5cd8d",
     "Motl.get_motl_intersection:6d3f6dce0f2dc40f",
     "Motl.drop_duplicates:1c51d98b933eb2d2",
     "Motl.merge_and_renumber:100e0b30c2873281",
     "Motl.merge_and_drop_duplicates:d401c65488f39abd",
     "Motl.renumber_particles:a0c49ba6c4653385",
     "Motl.renumber_objects_sequentially:3278d3640571aeee",
     "EmMotl.__init__:b84c41fc81e00816"] := rfl

/-! the same digests one function at a time, so that a broken one is NAMED in the list of failing declarations -/
theorem body_Motl_init_documented : "Motl.__init__:0dac581f53f53068" ∈ bodyDigests := List.mem_of_getElem? (i := 0) rfl
theorem body_Motl_create_empty_motl_df_documented : "Motl.create_empty_motl_df:c3586e54117f4b10" ∈ bodyDigests := List.mem_of_getElem? (i := 1) rfl
theorem body_Motl_check_df_correct_format_documented : "Motl.check_df_correct_format:1c05710067fcabf5" ∈ bodyDigests := List.mem_of_getElem? (i := 2) rfl
theorem body_Motl_check_df_type_documented : "Motl.check_df_type:0173ab6026235504" ∈ bodyDigests := List.mem_of_getElem? (i := 3) rfl
theorem body_Motl_load_documented : "Motl.load:edb38fc7d294ed1f" ∈ bodyDigests := List.mem_of_getElem? (i := 4) rfl
theorem body_Motl_get_unique_values_documented : "Motl.get_unique_values:28140647e59a70cb" ∈ bodyDigests := List.mem_of_getElem? (i := 5) rfl
theorem body_Motl_get_motl_subset_documented : "Motl.get_motl_subset:fe7033c7a5d40c5f" ∈ bodyDigests := List.mem_of_getElem? (i := 6) rfl
theorem body_Motl_remove_feature_documented : "Motl.remove_feature:14b1dd8afbed2e2e" ∈ bodyDigests := List.mem_of_getElem? (i := 7) rfl
theorem body_Motl_split_by_feature_documented : "Motl.split_by_feature:e3f12653a2a5cd8d" ∈ bodyDigests := List.mem_of_getElem? (i := 8) rfl
theorem body_Motl_get_motl_intersection_documented : "Motl.get_motl_intersection:6d3f6dce0f2dc40f" ∈ bodyDigests := List.mem_of_getElem? (i := 9) rfl
theorem body_Motl_drop_duplicates_documented : "Motl.drop_duplicates:1c51d98b933eb2d2" ∈ bodyDigests := List.mem_of_getElem? (i := 10) rfl
theorem body_Motl_merge_and_renumber_documented : "Motl.merge_and_renumber:100e0b30c2873281" ∈ bodyDigests := List.mem_of_getElem? (i := 11) rfl
theorem body_Motl_merge_and_drop_duplicates_documented : "Motl.merge_and_drop_duplicates:d401c65488f39abd" ∈ bodyDigests := List.mem_of_getElem? (i := 12) rfl
theorem body_Motl_renumber_particles_documented : "Motl.renumber_particles:a0c49ba6c4653385" ∈ bodyDigests := List.mem_of_getElem? (i := 13) rfl
theorem body_Motl_renumber_objects_sequentially_documented : "Motl.renumber_objects_sequentially:3278d3640571aeee" ∈ bodyDigests := List.mem_of_getElem? (i := 14) rfl
theorem body_EmMotl_init_documented : "EmMotl.__init__:b84c41fc81e00816" ∈ bodyDigests := List.mem_of_getElem? (i := 15) rfl

/-- no class of `cryomotl.py` other than `Motl` (re)defines one of the anchored methods: the lists users hold are
`EmMotl` / `RelionMotl` / `StopgapMotl` / `DynamoMotl` instances and run the anchored `Motl.<method>` bodies -/
theorem no_subclass_overrides : subclassOverrides = [] := rfl

/-- the class methods return `cls(<frame>)`: every subclass constructor hands a DataFrame to `check_df_type` (a frame
with the 20 columns is taken as it is, row labels reset, missing values filled) -/
theorem subclass_constructors_documented : subclassConstructors =
    ["EmMotl:self.check_df_type(<frame>)", "RelionMotl:self.check_df_type(<frame>)",
     "StopgapMotl:self.check_df_type(<frame>)", "DynamoMotl:self.check_df_type(<frame>)",
     "ModMotl:self.check_df_type(<frame>)"] := rfl

/-- the classes of `cryomotl.py` whose base chain reaches `Motl`, DERIVED from the source: exactly the five the generator
uses as receivers of the class methods and as classes of the starting list (`SUBCLASSES` in `harness/props/c08.py`) and
`subclass_constructors_documented` anchors.  A new list class breaks this theorem until it has a stream. -/
theorem subclasses_documented : motlSubclasses = ["EmMotl", "RelionMotl", "StopgapMotl", "DynamoMotl", "ModMotl"] := rfl

/-- `renumber_particles`: `subtomo_id := 1 .. len` -/
theorem renumber_particles_documented : renumberParticlesFirst = 1
    ∧ renumberParticlesAssign = "self.df.loc[:,'subtomo_id']=list(range(1,len(self.df)+1))" := ⟨rfl, rfl⟩

/-- `renumber_objects_sequentially`: default start 1; the frame is re-indexed (`reset_index(drop=True)`),
grouped by `tomo_id` in ascending key order, every group gets `factorize()[0] + start` (first
appearance), the running start becomes `max + 1`, groups are written back and the frame is stored -/
theorem renumber_objects_documented : renumberObjectsDefaultStart = 1
    ∧ objLoop = { groupKey := "tomo_id", groupOrder := .uniqueSorted, codes := .factorizeFirst, startUpdate := some 1,
                  reset := .dropTrue, writesBack := true } := ⟨rfl, rfl⟩

theorem objKeysCfg_eq {α : Type} [BEq α] [LT α] [DecidableLT α] (l : Motl α) : objKeysCfg l = objKeys l := by
  unfold objKeysCfg
  rw [renumber_objects_documented.2]

theorem dd_default_fields : ddDefaultDup = Field.subtomo_id ∧ ddDefaultDec = Field.score := ⟨rfl, rfl⟩

/-! ### missing key values: which statements need `==` to be reflexive on the keys -/
section missing_keys
set_option linter.unusedSectionVars false
variable {α : Type} [BEq α] [LT α] [DecidableLT α]

/-- **Subset needs no reflexivity**: for ANY `==` on the cells (IEEE `==` of doubles included, where a
missing value is not `==` to itself) the subset is the rows `==` to the requested values, grouped by
requested value in the order requested. A missing key matches nothing, a requested NaN selects nothing. -/
theorem subset_spec_beq (f : Field) (vs : List α) (l : Motl α) :
    subset f vs l = vs.flatMap (fun v => l.filter (fun p => p.get f == v)) := by
  unfold subset runLoop
  rw [subset_operator.1, subset_operator.2]
  exact foldl_append_flatMap _ vs []

/-- **Removal needs no reflexivity**: what is left are the rows `==` to none of the values (a row with a
missing key is never removed) -/
theorem remove_spec_beq (f : Field) (vs : List α) (l : Motl α) :
    remove f vs l = l.filter (fun p => vs.all (fun v => !(p.get f == v))) := by
  unfold remove runLoop
  rw [remove_loop_documented, remove_operator]
  exact Lists.foldl_filter_all (fun (v : α) (p : Particle α) => !(p.get f == v)) vs l

/-- **`split_partition` NEEDS reflexivity** (`[DecidableEq α]` there): a row whose feature is `==` to
nothing — a missing value under IEEE `==` — is in NO part of the split, so the parts do not partition
the list. This is the model's rendering of the open known finding C08-K1 for `split_by_feature`. -/
theorem split_drops_irreflexive_rows (f : Field) (l : Motl α) (p : Particle α)
    (hp : ∀ v, (p.get f == v) = false) : p ∉ (split f l).flatten := by
  intro h
  obtain ⟨part, hpart, hpp⟩ := List.mem_flatten.1 h
  unfold split at hpart
  rw [split_operator.1, split_operator.2] at hpart
  simp only [List.mem_map] at hpart
  obtain ⟨v, _, rfl⟩ := hpart
  have := (List.mem_filter.1 hpp).2
  simp only [Cmp.test] at this
  rw [hp v] at this
  cases this

/-- **`renumberObjects_spec` NEEDS reflexivity** — a fact about the MODEL, not a description of the code: a row
whose (tomogram, object) pair is `==` to no pair is not found among the classes and the model gives it `start + K`
(`K` = number of classes listed), one number shared by all such rows, outside the consecutive range.  The CODE
(pandas `factorize` / `groupby`) does something else with such a row — `start - 1` for a missing object number, the
row left un-renumbered for a missing tomogram number; that behaviour is rendered by the harness's
`k1_renumber_objects`, which `classify()` compares the real output with (open known finding C08-K1).  Model and
code agree only in that the clause "consecutive numbers, grouping kept" fails. -/
theorem renumberObjects_irreflexive_rows [Add α] (nat : Nat → α) (start : α) (l : Motl α) (p : Particle α)
    (hp : ∀ k : α × α, (k.1 == p.tomo_id && k.2 == p.object_id) = false) :
    newObjId nat start l p = start + nat (objKeysCfg l).length := by
  unfold newObjId keyIdx
  congr 2
  exact List.findIdx_eq_length.2 (fun k _ => hp k)

end missing_keys

section setops
set_option linter.unusedSectionVars false
variable {α : Type} [DecidableEq α] [LT α] [DecidableLT α]

/-- **Subset.** The subset holds exactly the matching rows, grouped by requested value (in the
order requested, a value requested twice gives its rows twice), original order inside a group.
(Does NOT need reflexivity of `=`: `subset_spec_beq` is the same statement for any `==`.) -/
theorem subset_spec (f : Field) (vs : List α) (l : Motl α) :
    subset f vs l = vs.flatMap (fun v => l.filter (fun p => decide (p.get f = v))) :=
  subset_spec_beq f vs l

theorem mem_subset (f : Field) (vs : List α) (l : Motl α) (p : Particle α) :
    p ∈ subset f vs l ↔ p ∈ l ∧ p.get f ∈ vs := by
  rw [subset_spec]
  simp only [List.mem_flatMap, List.mem_filter, decide_eq_true_eq]
  constructor
  · rintro ⟨v, hv, hp, rfl⟩; exact ⟨hp, hv⟩
  · rintro ⟨hp, hv⟩; exact ⟨_, hv, hp, rfl⟩

/-- **Subset, order.** For pairwise different requested values the subset IS the stable sort of the
matching rows by the position of their value in the request. -/
theorem subset_eq_stable_sort (f : Field) (vs : List α) (l : Motl α) (hvs : vs.Nodup) :
    subset f vs l
      = (l.filter (fun p => decide (p.get f ∈ vs))).mergeSort (rankLe (fun p => p.get f) (fun v => vs.idxOf v)) := by
  rw [subset_spec, ← flatMap_filter_restrict (fun p : Particle α => p.get f)]
  exact Lists.groups_eq_mergeSort _ vs hvs _ (by intro p hp; simpa using (List.mem_filter.1 hp).2)

theorem subset_perm (f : Field) (vs : List α) (l : Motl α) (hvs : vs.Nodup) :
    (subset f vs l).Perm (l.filter (fun p => decide (p.get f ∈ vs))) :=
  subset_eq_stable_sort f vs l hvs ▸ List.mergeSort_perm _ _

/-- **Removal** keeps exactly the rows whose value is none of the given ones, in order. -/
theorem remove_spec (f : Field) (vs : List α) (l : Motl α) :
    remove f vs l = l.filter (fun p => decide (p.get f ∉ vs)) := by
  rw [remove_spec_beq]
  exact List.filter_congr (fun p _ => by
    simp only [List.all_eq_not_any_not, Bool.not_not, List.any_beq, List.contains_eq_mem, decide_not])

/-- **Removal and selection are complementary**: together they hold every row exactly once, and no
row is in both. -/
theorem remove_subset_complement (f : Field) (vs : List α) (l : Motl α) (hvs : vs.Nodup) :
    (subset f vs l ++ remove f vs l).Perm l := by
  rw [remove_spec]
  exact (List.Perm.append_right _ (subset_perm f vs l hvs)).trans (filter_mem_append_not_mem _ vs l)

theorem remove_subset_disjoint (f : Field) (vs : List α) (l : Motl α) (p : Particle α)
    (h : p ∈ subset f vs l) : p ∉ remove f vs l := by
  rw [remove_spec]
  have := ((mem_subset f vs l p).1 h).2
  simp [this]

/-- **Split.** One part per distinct value, in order of first appearance; each part is the rows
with that value in original order. -/
theorem split_spec (f : Field) (l : Motl α) :
    split f l = (uniq (l.map (·.get f))).map (fun v => l.filter (fun p => decide (p.get f = v))) := by
  unfold split iterValues
  rw [split_operator.1, split_operator.2]
  rfl

/-- **Split, order.** The parts of a split, concatenated in the order they are returned, ARE the
stable sort of the list by first-appearance rank of the field value: parts come in order of first
appearance and inside a part the rows keep their original order. -/
theorem split_flatten_eq_stable_sort (f : Field) (l : Motl α) :
    (split f l).flatten = l.mergeSort (rankLe (fun p => p.get f) (firstRank f l)) := by
  rw [split_spec, ← List.flatMap_def]
  exact Lists.groups_eq_mergeSort _ _ (uniq_nodup _) l fun p hp => (uniq_mem _ _).2 (List.mem_map.2 ⟨p, hp, rfl⟩)

/-- **Splitting partitions the list**: the parts together are a rearrangement of the list …
NEEDS `=` to be reflexive on the feature values (`[DecidableEq α]`): see `split_drops_irreflexive_rows`
for what happens to a row whose feature is a missing value under IEEE `==` (open known finding C08-K1). -/
theorem split_partition (f : Field) (l : Motl α) : (split f l).flatten.Perm l := by
  rw [split_flatten_eq_stable_sort]
  exact List.mergeSort_perm _ _

/-- … and rows of different parts differ in the field (the parts are pairwise disjoint) … -/
theorem split_disjoint (f : Field) (l : Motl α) :
    (split f l).Pairwise (fun a b => ∀ p ∈ a, ∀ q ∈ b, p.get f ≠ q.get f) := by
  rw [split_spec, List.pairwise_map]
  refine (uniq_nodup (l.map (·.get f))).imp ?_
  intro v w hvw p hp q hq
  have h1 : p.get f = v := by simpa using (List.mem_filter.1 hp).2
  have h2 : q.get f = w := by simpa using (List.mem_filter.1 hq).2
  rw [h1, h2]; exact hvw

/-- … and no part is empty. -/
theorem split_parts_nonempty (f : Field) (l : Motl α) : ∀ part ∈ split f l, part ≠ [] := by
  rw [split_spec]
  intro part hpart
  obtain ⟨v, hv, rfl⟩ := List.mem_map.1 hpart
  obtain ⟨p, hp, hpv⟩ := List.mem_map.1 ((uniq_mem _ _).1 hv)
  intro h
  have : p ∈ l.filter (fun p => decide (p.get f = v)) := List.mem_filter.2 ⟨hp, by simpa using hpv⟩
  rw [h] at this
  cases this

/-- a part of a split (an index beyond the parts gives the empty table) is a sublist of the list -/
theorem split_part_sublist (f : Field) (i : Nat) (l : Motl α) : ((split f l).getD i []).Sublist l := by
  have key : ∀ part ∈ split f l, part.Sublist l := by
    rw [split_spec]
    intro part h
    obtain ⟨v, _, rfl⟩ := List.mem_map.1 h
    exact List.filter_sublist
  rcases getD_eq_or_mem (split f l) i [] with e | hm
  · rw [e]; exact List.nil_sublist l
  · exact key _ hm

/-- **Intersection.** Exactly the rows of the first list whose id occurs in the second, in the
order and multiplicity of the FIRST list (a repeated id in the second list changes nothing); both
operands pass through `Motl.load`, so ids are compared, and rows returned, after `fill`. -/
theorem intersect_spec (fill : α → α) (f : Field) (l o : Motl α) :
    intersect fill f l o
      = (l.filter (fun p => decide (∃ q ∈ o, fill (q.get f) = fill (p.get f)))).map (fillRow fill) := by
  unfold intersect
  rw [intersection_operator.1]
  simp only [if_true, List.filter_map]
  congr 1
  apply List.filter_congr
  intro p _
  rw [Bool.eq_iff_iff, decide_eq_true_iff]
  simp only [Function.comp, List.any_eq_true, List.mem_map, beq_iff_eq, get_fillRow]
  constructor
  · rintro ⟨q', ⟨q, hq, rfl⟩, e⟩
    exact ⟨q, hq, by rw [get_fillRow] at e; exact e⟩
  · rintro ⟨q, hq, e⟩
    exact ⟨fillRow fill q, ⟨q, hq, rfl⟩, by rw [get_fillRow]; exact e⟩

/-- when no id is missing (`fill` leaves the ids alone) this is membership of the id among the
second list's ids -/
theorem intersect_spec_ids (fill : α → α) (f : Field) (l o : Motl α)
    (hl : ∀ p ∈ l, fill (p.get f) = p.get f) (ho : ∀ q ∈ o, fill (q.get f) = q.get f) :
    intersect fill f l o = (l.filter (fun p => decide (p.get f ∈ o.map (·.get f)))).map (fillRow fill) := by
  rw [intersect_spec]
  congr 1
  apply List.filter_congr
  intro p hp
  rw [hl p hp]
  apply decide_eq_decide.2
  constructor
  · rintro ⟨q, hq, e⟩; exact List.mem_map.2 ⟨q, hq, by rw [← e, ho q hq]⟩
  · intro h; obtain ⟨q, hq, e⟩ := List.mem_map.1 h; exact ⟨q, hq, by rw [ho q hq]; exact e⟩

/-- and when the first list has no missing value at all, its surviving rows come back unchanged -/
theorem intersect_spec_no_missing (fill : α → α) (f : Field) (l o : Motl α)
    (hl : ∀ p ∈ l, ∀ g, fill (p.get g) = p.get g) (ho : ∀ q ∈ o, fill (q.get f) = q.get f) :
    intersect fill f l o = l.filter (fun p => decide (p.get f ∈ o.map (·.get f))) := by
  rw [intersect_spec_ids fill f l o (fun p hp => hl p hp f) ho]
  conv => rhs; rw [← List.map_id (l.filter _)]
  apply List.map_congr_left
  intro p hp
  apply Particle.ext_get
  intro g
  rw [get_fillRow, hl p (List.mem_filter.1 hp).1 g]; rfl

end setops

section dropdup
variable {α : Type} [LinearOrder α]

/-- (NEEDS a linear order with reflexive `=` on ids and decision values: "every id survives" is stated
with `=`; a missing id is outside this theorem — the real code collapses all missing ids into one row,
open known finding C08-K2.)
**Duplicate dropping keeps exactly one best-scoring row per id**: the surviving ids are
pairwise different; every survivor is a row of the list; every id of the list survives; and the
survivor of an id has the best decision value among all rows of that id (largest when sorting
descending, smallest when ascending). -/
theorem dropDup_spec (dup dec : Field) (asc : Bool) (l : Motl α) :
    ((dropDup dup dec asc l).map (·.get dup)).Nodup
    ∧ (∀ q ∈ dropDup dup dec asc l, q ∈ l)
    ∧ (∀ p ∈ l, ∃ q ∈ dropDup dup dec asc l, q.get dup = p.get dup)
    ∧ (∀ q ∈ dropDup dup dec asc l, ∀ p ∈ l, p.get dup = q.get dup →
        if asc then q.get dec ≤ p.get dec else p.get dec ≤ q.get dec) := by
  have hperm := List.mergeSort_perm l (ddLe dup dec asc)
  refine ⟨firstPer_ids_nodup _ _, ?_, ?_, ?_⟩
  · intro q hq
    exact hperm.mem_iff.1 ((firstPer_sublist dup _).subset hq)
  · intro p hp
    exact firstPer_covers dup _ p (hperm.mem_iff.2 hp)
  · intro q hq p hp hpq
    have hb := firstPer_first dup (Before dup dec asc) _ (sorted_before dropdup_documented.1 dup dec asc l)
      (before_refl dup dec asc) q hq p (hperm.mem_iff.2 hp) hpq
    rcases hb with hlt | ⟨_, hd⟩
    · exact absurd hpq.symm (ne_of_lt hlt)
    · exact hd

theorem dropDup_sorted (dup dec : Field) (asc : Bool) (l : Motl α) :
    (dropDup dup dec asc l).Pairwise (fun a b => a.get dup < b.get dup) := by
  have hs := (sorted_before dropdup_documented.1 dup dec asc l).sublist (firstPer_sublist dup _)
  have hn := firstPer_ids_nodup dup (l.mergeSort (ddLe dup dec asc))
  rw [List.Nodup, List.pairwise_map] at hn
  have := hs.and hn
  refine this.imp ?_
  rintro a b ⟨hb, hne⟩
  rcases hb with h | ⟨e, _⟩
  · exact h
  · exact absurd e hne

end dropdup

section numbering
set_option linter.unusedSectionVars false
variable {α : Type}

/-- **Renumbering particles** gives subtomogram numbers 1..N in row order and touches nothing else. -/
theorem renumberParticles_spec (nat : Nat → α) (l : Motl α) :
    (renumberParticles nat l).map (·.subtomo_id) = (List.range l.length).map (fun i => nat (i + 1))
    ∧ List.Forall₂ (fun p q => ∀ f : Field, f ≠ Field.subtomo_id → q.get f = p.get f) l (renumberParticles nat l) := by
  unfold renumberParticles
  rw [renumber_particles_documented.1]
  refine ⟨?_, numberFrom_others nat 1 l⟩
  rw [numberFrom_ids]
  apply List.map_congr_left
  intro i _
  rw [Nat.add_comm]

end numbering

section merge
variable {α : Type} [CommRing α] [LinearOrder α] [IsStrictOrderedRing α]

/-- **Merging with renumbering yields subtomogram numbers 1..N** (N = total number of rows of all
inputs, empty inputs contribute nothing). -/
theorem mergeRenumber_ids (nat : Nat → α) (ls : List (Motl α)) :
    (mergeRenumber nat ls).map (·.subtomo_id) = (List.range ls.flatten.length).map (fun i => nat (i + 1)) := by
  unfold mergeRenumber
  rw [(renumberParticles_spec nat _).1, mergeBlocks_length]

/-- (NEEDS a linear order on object numbers — `min` / `max` of a column holding a missing value are
order-dependent in the real code: open known finding C08-K3.)
**Object numbers never collide across inputs and each input keeps its grouping**: the merged
table is the non-empty inputs in order (`blocks`), every object number of a later input is strictly
larger than every object number of an earlier one, and inside one input all object numbers are
moved by ONE offset (so equal stays equal and different stays different). -/
theorem mergeRenumber_objects (nat : Nat → α) (ls : List (Motl α)) :
    (mergeRenumber nat ls).map (·.object_id) = ((mergeBlocks Cmp.le 0 ls).flatten).map (·.object_id)
    ∧ (mergeBlocks Cmp.le 0 ls).Pairwise (fun b c => ∀ p ∈ b, ∀ q ∈ c, p.object_id < q.object_id)
    ∧ List.Forall₂ (fun m b => ∃ c : α, b = shiftObj c m) (ls.filter (fun m => !m.isEmpty)) (mergeBlocks Cmp.le 0 ls) := by
  refine ⟨?_, mergeBlocks_increasing 0 ls, mergeBlocks_offsets 0 ls⟩
  unfold mergeRenumber renumberParticles
  rw [merge_documented.1, numberFrom_objs]

/-- a uniform offset keeps the grouping by object number -/
theorem shiftObj_grouping (c : α) (p q : Particle α) :
    (p.set .object_id (p.object_id + c)).object_id = (q.set .object_id (q.object_id + c)).object_id
      ↔ p.object_id = q.object_id := by
  show p.object_id + c = q.object_id + c ↔ _
  exact add_left_inj c

/-- **Merging and dropping duplicates** is the same shifting of object numbers followed by
`dropDup` (to which `dropDup_spec` applies). -/
theorem mergeDropDup_spec (ls : List (Motl α)) :
    mergeDropDup ddDefaultDup ddDefaultDec ddDefaultAscending ls
      = dropDup Field.subtomo_id Field.score false ((mergeBlocks Cmp.le 0 ls).flatten) := by
  unfold mergeDropDup
  rw [merge_documented.2.1, dd_default_fields.1, dd_default_fields.2, dropdup_documented.2.2.2.2]

end merge

section objects
variable {α : Type} [LinearOrder α] [Add α]

/-- (NEEDS `=` to be reflexive on `tomo_id` / `object_id` (`[LinearOrder α]`): see
`renumberObjects_irreflexive_rows` for a missing key, open known finding C08-K1.)
**Sequential object renumbering keeps the (tomogram, object) grouping under consecutive
numbers.** Rows keep their place and all other fields; two rows get the same new number exactly
when they had the same (tomogram, object) pair; the numbers handed out are exactly
`start + 0, …, start + (K-1)` where `K` is the number of distinct pairs (`objKeys l` lists each
pair once). `hinj` says that `start + i` are different numbers for different `i`. -/
theorem renumberObjects_spec (nat : Nat → α) (start : α) (l : Motl α)
    (hinj : ∀ i j : Nat, start + nat i = start + nat j → i = j) :
    renumberObjects nat start l = l.map (fun p => p.set .object_id (newObjId nat start l p))
    ∧ (∀ p ∈ l, ∀ q ∈ l, newObjId nat start l p = newObjId nat start l q
          ↔ (p.tomo_id = q.tomo_id ∧ p.object_id = q.object_id))
    ∧ (∀ p ∈ l, ∃ i, i < (objKeys l).length ∧ newObjId nat start l p = start + nat i)
    ∧ (∀ i, i < (objKeys l).length → ∃ p ∈ l, newObjId nat start l p = start + nat i)
    ∧ (objKeys l).Nodup
    ∧ (∀ t o, (t, o) ∈ objKeys l ↔ ∃ p ∈ l, p.tomo_id = t ∧ p.object_id = o) := by
  refine ⟨rfl, ?_, ?_, ?_, objKeys_nodup l, mem_objKeys l⟩
  · intro p hp q hq
    unfold newObjId
    rw [objKeysCfg_eq]
    constructor
    · intro h; exact (keyIdx_eq_iff l p q hp hq).1 (hinj _ _ h)
    · intro h; rw [(keyIdx_eq_iff l p q hp hq).2 h]
  · intro p hp; exact ⟨_, keyIdx_lt l p hp, by unfold newObjId; rw [objKeysCfg_eq]⟩
  · intro i hi
    obtain ⟨p, hp, e⟩ := keyIdx_surj l i hi
    exact ⟨p, hp, by unfold newObjId; rw [objKeysCfg_eq, e]⟩

/-- `renumberObjects` computes the class list once (`renumberObjectsWith … (objKeysCfg l) l`); row by row it is the
map every theorem of this section is about — the two readings are the same term up to unfolding (`rfl`), so
computing the list once matters for the running time of the driver only -/
theorem renumberObjects_eq_map_newObjId (nat : Nat → α) (start : α) (l : Motl α) :
    renumberObjects nat start l = l.map (fun p => p.set .object_id (newObjId nat start l p)) := rfl

/-- numbers are handed out tomogram by tomogram in ascending order, so the objects of one tomogram
receive one block of consecutive numbers -/
theorem renumberObjects_tomo_blocks (l : Motl α) (p q : Particle α) (hp : p ∈ l) (hq : q ∈ l)
    (h : p.tomo_id < q.tomo_id) : keyIdx (objKeys l) p < keyIdx (objKeys l) q := by
  rcases Nat.lt_trichotomy (keyIdx (objKeys l) p) (keyIdx (objKeys l) q) with hlt | heq | hgt
  · exact hlt
  · exact absurd ((keyIdx_eq_iff l p q hp hq).1 heq).1 (ne_of_lt h)
  · exfalso
    have hpl := keyIdx_lt l p hp
    have hql := keyIdx_lt l q hq
    have hs := (List.pairwise_iff_getElem.1 (objKeys_tomo_sorted l)) _ _ hql hpl hgt
    have h1 := keyIdx_get l p hp
    have h2 := keyIdx_get l q hq
    rw [List.getElem?_eq_getElem hpl] at h1
    rw [List.getElem?_eq_getElem hql] at h2
    rw [Option.some.inj h1, Option.some.inj h2] at hs
    exact absurd hs (not_le_of_gt h)

theorem renumberObjects_others (nat : Nat → α) (start : α) (l : Motl α) :
    List.Forall₂ (fun p q => ∀ f : Field, f ≠ Field.object_id → q.get f = p.get f) l (renumberObjects nat start l) :=
  forall2_map_self _ l fun _ _ _ hf => Particle.get_set_other _ _ _ _ hf

end objects

/-! ### the model meets the clauses the checkers decide (`Lemmas/C08_CheckOps.lean`), operation by operation -/
section model_ok
variable {α : Type} [CommRing α] [LinearOrder α] [IsStrictOrderedRing α]

theorem subset_ok (f : Field) (vs : List α) (l : Motl α) : SubsetOK f vs l (subset f vs l) :=
  (subsetOK_iff f vs l _).2 (subset_spec f vs l)

theorem remove_ok (f : Field) (vs : List α) (l : Motl α) : RemoveOK f vs l (remove f vs l) := by
  rw [remove_spec]
  exact ⟨List.perm_append_comm.trans (filter_mem_append_not_mem _ vs l),
    fun p hp => by simpa using (List.mem_filter.1 hp).2⟩

theorem split_ok (f : Field) (l : Motl α) : SplitOK f l (split f l) := by
  refine ⟨split_partition f l, ?_, split_disjoint f l⟩
  intro part hpart
  refine ⟨split_parts_nonempty f l part hpart, ?_⟩
  rw [split_spec] at hpart
  obtain ⟨v, _, rfl⟩ := List.mem_map.1 hpart
  exact ⟨v, fun p hp => by simpa using (List.mem_filter.1 hp).2⟩

theorem intersect_ok (fill : α → α) (hfill : ∀ v, fill (fill v) = fill v) (f : Field) (l o : Motl α) :
    IntersectOK fill f l o (intersect fill f l o) := by
  rw [intersect_spec]
  constructor
  · rw [List.map_map]
    apply List.Perm.of_eq
    apply List.map_congr_left
    intro p _
    apply Particle.ext_get
    intro g
    simp only [Function.comp, get_fillRow, hfill]
  · intro q hq
    obtain ⟨p, hp, rfl⟩ := List.mem_map.1 hq
    exact ⟨p, (List.mem_filter.1 hp).1, fun g => Or.inr (get_fillRow fill p g)⟩

theorem dropDup_ok (dup dec : Field) (asc : Bool) (l : Motl α) :
    DropDupOK (fun v => v) dup dec asc l (dropDup dup dec asc l) := by
  obtain ⟨h1, h2, h3, h4⟩ := dropDup_spec dup dec asc l
  exact ⟨h1, fun q hq => ⟨q, h2 q hq, fun g => Or.inl rfl⟩, h3, h4⟩

/-- the clauses of `merge_and_renumber` hold for the model's output — for EVERY list of tagged inputs (empty inputs,
inputs handed over as bare DataFrames which `Motl.load` fills, any object numbers): the output cuts into one block per
input, each a faithful copy of its input with ONE object-number offset, no two blocks share an object number,
subtomogram numbers are 1..N -/
theorem mergeRenumber_model_ok (fill : α → α) (nat : Nat → α) (ins : List (Bool × Motl α)) :
    MergeRenumberOK fill nat ins (mergeRenumber nat (ins.map (loaded fill))) := by
  obtain ⟨bs, e, hb, hd⟩ := mergeRenumber_blocks fill nat 1 ins
  refine ⟨bs, ?_, hb, hd, ?_⟩
  · unfold mergeRenumber renumberParticles
    rw [merge_documented.1, renumber_particles_documented.1]
    exact e
  · rw [mergeRenumber_ids, loaded_flatten_length]

/-- one offset per block keeps the grouping inside the block (equal stays equal, different stays
different); `g` = what loading did to the input's object numbers (identity for a `Motl` input) -/
theorem blockOK_grouping (g : α → α) (m b : Motl α) (h : BlockOK g m b) :
    ∀ x ∈ m.zip b, ∀ y ∈ m.zip b, x.2.object_id = y.2.object_id ↔ g x.1.object_id = g y.1.object_id := by
  obtain ⟨-, c, hc⟩ := h
  intro x hx y hy
  rw [(List.forall₂_iff_zip.1 hc).2 hx, (List.forall₂_iff_zip.1 hc).2 hy]
  exact add_left_inj c

/-- the clause Prop the merge checker decides (`MergeRenumberOK`: one additive offset per input, a fact about the
documented loop) implies what the statement says (`MergeRenumberStatement`: numbers 1..N, no collision across inputs,
grouping kept inside each input); the converse does not hold — an output that regroups nothing but moves the object
numbers of one input non-uniformly meets the statement and is rejected by the checker (then reported as a spec finding
although only the documented offset rule is broken: a known over-approximation, see DESIGN.md, Appendix C) -/
theorem mergeRenumberOK_statement (fill : α → α) (nat : Nat → α) (ins : List (Bool × Motl α)) (out : Motl α)
    (h : MergeRenumberOK fill nat ins out) : MergeRenumberStatement fill nat ins out := by
  obtain ⟨bs, e, hb, hd, hi⟩ := h
  exact ⟨bs, e, hb.imp (fun x b hxb => ⟨hxb.1, blockOK_grouping _ _ _ hxb⟩), hd, hi⟩

/-- the clauses of `merge_and_drop_duplicates` hold for the model's output, whatever the inputs, with the offsets
the model's own loop used (`mergeOffsets`, 0 for an empty or unshifted input) as the certificate -/
theorem mergeDropDup_cert_ok (fill : α → α) (ins : List (Bool × Motl α)) :
    MergeDropDupCertOK fill (mergeOffsets Cmp.le 0 (ins.map (loaded fill))) ins
      (mergeDropDup ddDefaultDup ddDefaultDec ddDefaultAscending (ins.map (loaded fill))) := by
  rw [mergeDropDup_spec]
  exact mergeDropDup_clauses fill ins _ (dropDup_ok _ _ _ _)

theorem mergeDropDup_model_ok (fill : α → α) (ins : List (Bool × Motl α)) :
    MergeDropDupOK fill ins (mergeDropDup ddDefaultDup ddDefaultDec ddDefaultAscending (ins.map (loaded fill))) :=
  ⟨_, mergeDropDup_cert_ok fill ins⟩

theorem renumberObjects_ok (nat : Nat → α) (start : α) (l : Motl α)
    (hinj : ∀ i j : Nat, start + nat i = start + nat j → i = j) :
    RenumberObjectsOK nat start l (renumberObjects nat start l) := by
  obtain ⟨_, h2, h3, h4, h5, h6⟩ := renumberObjects_spec nat start l hinj
  have hz : ∀ a ∈ l.zip (renumberObjects nat start l), a.1 ∈ l ∧ a.2.object_id = newObjId nat start l a.1 := by
    intro a ha
    obtain ⟨h1, e⟩ := mem_zip_map_self _ l a ha
    exact ⟨h1, by rw [e]; rfl⟩
  refine ⟨renumberObjects_others nat start l, ?_, objKeys l, h5, ?_, ?_, ?_⟩
  · intro a ha b hb
    rw [(hz a ha).2, (hz b hb).2]
    exact h2 _ (hz a ha).1 _ (hz b hb).1
  · rintro ⟨t, o⟩
    simp only [h6, Prod.mk.injEq]
  · intro q hq
    obtain ⟨p, hp, rfl⟩ := List.mem_map.1 hq
    exact h3 p hp
  · intro i hi
    obtain ⟨p, hp, e⟩ := h4 i hi
    exact ⟨_, List.mem_map.2 ⟨p, hp, rfl⟩, e⟩

theorem modelObs_out (fill : α → α) (nat : Nat → α) (op : Op α) (l : Motl α) :
    (modelObs fill nat op l).out = step fill nat op l := by cases op <;> rfl

/-- a selection of the model is an accepted step, whatever `fill` and `nat` -/
theorem selection_stepOK (fill : α → α) (nat : Nat → α) (op : Op α) (hop : op.isSelection = true) (l : Motl α) :
    StepOK fill nat op l (modelObs fill nat op l) := by
  cases op with
  | subset f vs => exact subset_ok f vs l
  | remove f vs => exact remove_ok f vs l
  | splitPick f i => exact ⟨split_ok f l, rfl⟩
  | dropDup dup dec asc => exact dropDup_ok dup dec asc l
  | _ => cases hop

/-- **whatever the operation, its arguments and the current table, what the model shows (`modelObs`: its table, for
a split its parts, for `merge_and_drop_duplicates` its own offsets as the certificate) meets the clauses of the
operation.**  `hfill`: filling is idempotent; `hnat`: different naturals are different numbers. -/
theorem model_stepOK (fill : α → α) (nat : Nat → α) (hfill : ∀ v, fill (fill v) = fill v)
    (hnat : ∀ i j, nat i = nat j → i = j) (op : Op α) (l : Motl α) :
    StepOK fill nat op l (modelObs fill nat op l) ∧ HintCertOK fill op l (modelObs fill nat op l) := by
  cases op with
  | subset f vs => exact ⟨subset_ok f vs l, trivial⟩
  | remove f vs => exact ⟨remove_ok f vs l, trivial⟩
  | splitPick f i => exact ⟨⟨split_ok f l, rfl⟩, trivial⟩
  | intersect f o => exact ⟨intersect_ok fill hfill f l o, trivial⟩
  | dropDup dup dec asc => exact ⟨dropDup_ok dup dec asc l, trivial⟩
  | mergeRenumber b a s =>
    refine ⟨?_, trivial⟩
    show MergeRenumberOK fill nat (rawInputs b a s l) (mergeRenumber nat (mergeInputs fill b a s l))
    rw [mergeInputs_eq_map]
    exact mergeRenumber_model_ok fill nat _
  | mergeDropDup b a s =>
    have hc : MergeDropDupCertOK fill (mergeOffsets mergeDropDupShiftCmp 0 (mergeInputs fill b a s l))
        (rawInputs b a s l)
        (mergeDropDup ddDefaultDup ddDefaultDec ddDefaultAscending (mergeInputs fill b a s l)) := by
      rw [merge_documented.2.1, mergeInputs_eq_map]
      exact mergeDropDup_cert_ok fill _
    exact ⟨⟨_, hc⟩, _, List.mem_singleton.2 rfl, hc⟩
  | renumberParticles => exact ⟨renumberParticles_spec nat l, trivial⟩
  | renumberObjects start =>
    exact ⟨renumberObjects_ok nat start l (fun i j h => hnat i j (add_left_cancel h)), trivial⟩

end model_ok

section history
variable {α : Type} [CommRing α] [LinearOrder α] [IsStrictOrderedRing α]

theorem selection_step_mem (fill : α → α) (nat : Nat → α) (op : Op α) (hop : op.isSelection = true) (l : Motl α) :
    ∀ q ∈ step fill nat op l, q ∈ l :=
  modelObs_out fill nat op l ▸ stepOK_selection_mem fill nat op hop l _ (selection_stepOK fill nat op hop l)

/-- **One operation**: every row of the result is a row of the current list or of a list the
operation brings in, with only id fields rewritten.  A missing value may have been filled ONLY by an
operation that re-loads a frame through `Motl.load` (`Op.mayFill`: intersection; a merge with a bare
DataFrame among its inputs) — for every other operation `opFill fill op` is the identity and the
statement is the literal one (see `step_rows_literal`). -/
theorem step_rows (fill : α → α) (nat : Nat → α) (op : Op α) (l : Motl α) : StepRows fill op l (step fill nat op l) := by
  intro q hq
  by_cases hsel : op.isSelection = true
  · exact ⟨q, List.mem_append_left _ (selection_step_mem fill nat op hsel l q hq), unchanged_refl _ q⟩
  cases op with
  | intersect f o =>
    simp only [step] at hq
    rw [intersect_spec] at hq
    obtain ⟨p, hp, rfl⟩ := List.mem_map.1 hq
    exact ⟨p, List.mem_append_left _ (List.mem_filter.1 hp).1, fun g _ _ => Or.inr (get_fillRow fill p g)⟩
  | mergeRenumber b a s =>
    simp only [step, mergeRenumber, renumberParticles] at hq
    obtain ⟨p1, hp1, h1⟩ := numberFrom_rows nat _ _ q hq
    obtain ⟨p0, hp0, hu⟩ := merged_rows _ fill b a s l p1 hp1
    exact ⟨p0, hp0, fun f hf1 hf2 => by rw [h1 f hf1]; exact hu f hf1 hf2⟩
  | mergeDropDup b a s =>
    simp only [step, mergeDropDup] at hq
    exact merged_rows _ fill b a s l q ((dropDup_spec _ _ _ _).2.1 q hq)
  | renumberParticles =>
    simp only [step, renumberParticles] at hq
    obtain ⟨p, hp, h⟩ := numberFrom_rows nat _ _ q hq
    exact ⟨p, List.mem_append_left _ hp, fun f hf1 _ => Or.inl (h f hf1)⟩
  | renumberObjects start =>
    simp only [step, renumberObjects] at hq
    obtain ⟨p, hp, rfl⟩ := List.mem_map.1 hq
    exact ⟨p, List.mem_append_left _ hp, unchanged_set_object_id _ p _⟩
  | _ => exact absurd rfl hsel

/-- **One operation that does not re-load a frame** (subset / remove / split / drop-duplicates /
renumber particles / renumber objects / a merge of `Motl` objects only): literally no field other
than the two id fields has changed — a subset that zeroes a missing value does NOT satisfy this. -/
theorem step_rows_literal (fill : α → α) (nat : Nat → α) (op : Op α) (hop : op.mayFill = false) (l : Motl α) :
    ∀ q ∈ step fill nat op l, ∃ p ∈ l ++ op.sources, Literal p q := by
  intro q hq
  obtain ⟨p, hp, hu⟩ := step_rows fill nat op l q hq
  refine ⟨p, hp, (literal_iff_unchanged_id p q).2 ?_⟩
  unfold opFill at hu
  rw [hop] at hu
  exact hu

theorem run_rows (fill : α → α) (nat : Nat → α) (hfill : ∀ v, fill (fill v) = fill v) (ops : List (Op α)) (l : Motl α) :
    RowsFrom fill ops l (run fill nat ops l) :=
  List.foldlRecOn ops _ (.init _ _ _) fun l' h op hop => h.step hfill hop (step_rows fill nat op l')

/-- **After any sequence of operations** (any length, any arguments) every surviving row is one of
the rows that entered the history — of the initial list or of a list merged / intersected in —
and none of its fields other than `subtomo_id` / `object_id` has changed; a missing value may have
been replaced by `fill` (= what `Motl.load` does; idempotent) ONLY if the history contains an
operation that re-loads a frame (`histFill fill ops` is the identity otherwise).
The schema — exactly the 20 fields — is the type `Particle`. -/
theorem history_rows (fill : α → α) (nat : Nat → α) (hfill : ∀ v, fill (fill v) = fill v)
    (ops : List (Op α)) (l : Motl α) :
    ∀ q ∈ run fill nat ops l, ∃ p ∈ l ++ ops.flatMap Op.sources, Unchanged (histFill fill ops) p q :=
  run_rows fill nat hfill ops l

/-- the weaker reading (a fill permitted everywhere) follows -/
theorem history_rows_modulo_fill (fill : α → α) (nat : Nat → α) (hfill : ∀ v, fill (fill v) = fill v)
    (ops : List (Op α)) (l : Motl α) :
    ∀ q ∈ run fill nat ops l, ∃ p ∈ l ++ ops.flatMap Op.sources, Unchanged fill p q := by
  intro q hq
  obtain ⟨p, hp, hu⟩ := history_rows fill nat hfill ops l q hq
  refine ⟨p, hp, ?_⟩
  unfold histFill at hu
  split at hu
  · exact hu
  · exact unchanged_of_literal fill p q ((literal_iff_unchanged_id p q).2 hu)

/-- **a history without re-loading operations changes literally nothing** but the two id fields -/
theorem history_rows_literal (fill : α → α) (nat : Nat → α) (hfill : ∀ v, fill (fill v) = fill v)
    (ops : List (Op α)) (hops : ops.any Op.mayFill = false) (l : Motl α) :
    ∀ q ∈ run fill nat ops l, ∃ p ∈ l ++ ops.flatMap Op.sources, Literal p q :=
  (run_rows fill nat hfill ops l).literal hops

/-- a history of pure selections (subset / remove / split / drop-duplicates) returns rows of the
initial list, every field untouched -/
theorem selection_history_rows (fill : α → α) (nat : Nat → α) (ops : List (Op α))
    (hsel : ∀ op ∈ ops, op.isSelection = true) (l : Motl α) :
    ∀ q ∈ run fill nat ops l, q ∈ l :=
  List.foldlRecOn (motive := fun l' => ∀ q ∈ l', q ∈ l) ops _ (fun _ h => h)
    fun l' hl' op hop q hq => hl' q (selection_step_mem fill nat op (hsel op hop) l' q hq)

end history

/-! ### the verified checkers (`Model/C08_Check.lean`): the harness sends the REAL output of every
operation; a `spec` finding is reported exactly when the checker rejects. Soundness = an accepted
output satisfies the clauses of the statement (stated as Props over input and output, not as
"equals the model's output"); completeness = every output satisfying them is accepted.
`eqv` is the cell comparison (`heqv`: it is equality). -/
section checkers
set_option linter.unusedSectionVars false
variable {α : Type} [CommRing α] [LinearOrder α] [IsStrictOrderedRing α]
  (eqv : α → α → Bool) (heqv : ∀ a b, eqv a b = true ↔ a = b)
include heqv

omit heqv in
/-- "the table still has exactly the 20 fields": accepted iff the column names are a rearrangement
of the 20 names the source declares today -/
theorem check_schema_iff (cols : List String) : checkSchema cols = true ↔ cols.Perm motlColumnNames := by
  unfold checkSchema
  rw [columns_documented]
  exact List.isPerm_iff

theorem check_subset_sound (f : Field) (vs : List α) (l out : Motl α) (h : checkSubset eqv f vs l out = true) :
    SubsetOK f vs l out ∧ (∀ p, p ∈ out ↔ p ∈ l ∧ p.get f ∈ vs) := by
  have h1 := (checkSubset_iff eqv heqv f vs l out).1 h
  refine ⟨h1, fun p => ?_⟩
  rw [(subsetOK_iff f vs l out).1 h1, ← subset_spec]
  exact mem_subset f vs l p

theorem check_subset_complete (f : Field) (vs : List α) (l out : Motl α) (h : SubsetOK f vs l out) :
    checkSubset eqv f vs l out = true := (checkSubset_iff eqv heqv f vs l out).2 h

/-- the model's output is accepted (so the clause is satisfiable and agrees with `subset_spec`) -/
theorem check_subset_accepts_model (f : Field) (vs : List α) (l : Motl α) :
    checkSubset eqv f vs l (subset f vs l) = true :=
  (checkSubset_iff eqv heqv f vs l _).2 (subset_ok f vs l)

/-- for the subset the clause pins the table down: accepted exactly when it IS the model's output -/
theorem check_subset_iff_model (f : Field) (vs : List α) (l out : Motl α) :
    checkSubset eqv f vs l out = true ↔ out = subset f vs l := by
  rw [checkSubset_iff eqv heqv, subsetOK_iff, subset_spec]

theorem check_remove_sound (f : Field) (vs : List α) (l out : Motl α) (h : checkRemove eqv f vs l out = true) :
    RemoveOK f vs l out := (checkRemove_iff eqv heqv f vs l out).1 h

theorem check_remove_complete (f : Field) (vs : List α) (l out : Motl α) (h : RemoveOK f vs l out) :
    checkRemove eqv f vs l out = true := (checkRemove_iff eqv heqv f vs l out).2 h

theorem check_remove_accepts_model (f : Field) (vs : List α) (l : Motl α) :
    checkRemove eqv f vs l (remove f vs l) = true :=
  (checkRemove_iff eqv heqv f vs l _).2 (remove_ok f vs l)

theorem check_split_sound (f : Field) (l : Motl α) (parts : List (Motl α)) (h : checkSplit eqv f l parts = true) :
    SplitOK f l parts := (checkSplit_iff eqv heqv f l parts).1 h

theorem check_split_complete (f : Field) (l : Motl α) (parts : List (Motl α)) (h : SplitOK f l parts) :
    checkSplit eqv f l parts = true := (checkSplit_iff eqv heqv f l parts).2 h

theorem check_split_accepts_model (f : Field) (l : Motl α) : checkSplit eqv f l (split f l) = true :=
  (checkSplit_iff eqv heqv f l _).2 (split_ok f l)

theorem check_intersect_sound (fill : α → α) (f : Field) (l o out : Motl α)
    (h : checkIntersect eqv fill f l o out = true) : IntersectOK fill f l o out :=
  (checkIntersect_iff eqv heqv fill f l o out).1 h

theorem check_intersect_complete (fill : α → α) (f : Field) (l o out : Motl α)
    (h : IntersectOK fill f l o out) : checkIntersect eqv fill f l o out = true :=
  (checkIntersect_iff eqv heqv fill f l o out).2 h

theorem check_intersect_accepts_model (fill : α → α) (hfill : ∀ v, fill (fill v) = fill v) (f : Field) (l o : Motl α) :
    checkIntersect eqv fill f l o (intersect fill f l o) = true :=
  (checkIntersect_iff eqv heqv fill f l o _).2 (intersect_ok fill hfill f l o)

/-- **drop_duplicates, checked**: accepted ⇒ ids pairwise different, every output row is an input
row, every id survives, the survivor is a best-scoring row of its id -/
theorem check_dropdup_sound (dup dec : Field) (asc : Bool) (l out : Motl α)
    (h : checkDropDup eqv (fun v => v) dup dec asc l out = true) :
    (out.map (·.get dup)).Nodup ∧ (∀ q ∈ out, q ∈ l) ∧ (∀ p ∈ l, ∃ q ∈ out, q.get dup = p.get dup)
    ∧ (∀ q ∈ out, ∀ p ∈ l, p.get dup = q.get dup → if asc then q.get dec ≤ p.get dec else p.get dec ≤ q.get dec) := by
  have hd := (checkDropDup_iff eqv heqv _ dup dec asc l out).1 h
  exact ⟨hd.1, hd.mem, hd.2.2⟩

theorem check_dropdup_complete (fill : α → α) (dup dec : Field) (asc : Bool) (l out : Motl α)
    (h : DropDupOK fill dup dec asc l out) : checkDropDup eqv fill dup dec asc l out = true :=
  (checkDropDup_iff eqv heqv fill dup dec asc l out).2 h

theorem check_dropdup_accepts_model (dup dec : Field) (asc : Bool) (l : Motl α) :
    checkDropDup eqv (fun v => v) dup dec asc l (dropDup dup dec asc l) = true :=
  (checkDropDup_iff eqv heqv _ dup dec asc l _).2 (dropDup_ok dup dec asc l)

theorem check_merge_renumber_sound (fill : α → α) (nat : Nat → α) (ins : List (Bool × Motl α)) (out : Motl α)
    (h : checkMergeRenumber eqv fill nat ins out = true) : MergeRenumberOK fill nat ins out :=
  (checkMergeRenumber_iff eqv heqv fill nat ins out).1 h

theorem check_merge_renumber_complete (fill : α → α) (nat : Nat → α) (ins : List (Bool × Motl α)) (out : Motl α)
    (h : MergeRenumberOK fill nat ins out) : checkMergeRenumber eqv fill nat ins out = true :=
  (checkMergeRenumber_iff eqv heqv fill nat ins out).2 h

/-- **merge_and_renumber: the model's own output is accepted — for EVERY list of tagged inputs**
(empty inputs, inputs handed over as bare DataFrames which `Motl.load` fills, any object numbers):
the clauses the checker decides are satisfiable by the documented loop, whatever the inputs (`mergeRenumber_model_ok`). -/
theorem check_merge_renumber_accepts_model (fill : α → α) (nat : Nat → α) (ins : List (Bool × Motl α)) :
    checkMergeRenumber eqv fill nat ins (mergeRenumber nat (ins.map (loaded fill))) = true :=
  (checkMergeRenumber_iff eqv heqv fill nat ins _).2 (mergeRenumber_model_ok fill nat ins)

/-- an accepted `merge_and_renumber` step meets the statement's clause -/
theorem check_merge_renumber_statement (fill : α → α) (nat : Nat → α) (ins : List (Bool × Motl α)) (out : Motl α)
    (h : checkMergeRenumber eqv fill nat ins out = true) : MergeRenumberStatement fill nat ins out :=
  mergeRenumberOK_statement fill nat ins out ((checkMergeRenumber_iff eqv heqv fill nat ins out).1 h)

/-- with an offset certificate `cs` (one object-number offset per input) -/
theorem check_merge_dropdup_sound (fill : α → α) (cs : List α) (ins : List (Bool × Motl α)) (out : Motl α)
    (h : checkMergeDropDup eqv fill cs ins out = true) : MergeDropDupOK fill ins out :=
  (checkMergeDropDup_iff eqv heqv fill ins out).1 ⟨cs, h⟩

theorem check_merge_dropdup_complete (fill : α → α) (ins : List (Bool × Motl α)) (out : Motl α)
    (h : MergeDropDupOK fill ins out) : ∃ cs, checkMergeDropDup eqv fill cs ins out = true :=
  (checkMergeDropDup_iff eqv heqv fill ins out).2 h

/-- **merge_and_drop_duplicates: the model's own output is accepted — for EVERY list of tagged inputs**
(empty inputs, bare DataFrames, any object numbers), with the offsets the model's own loop used
(`mergeOffsets`, 0 for an empty or unshifted input) as the certificate. -/
theorem check_merge_dropdup_accepts_model (fill : α → α) (ins : List (Bool × Motl α)) :
    checkMergeDropDup eqv fill (mergeOffsets Cmp.le 0 (ins.map (loaded fill))) ins
      (mergeDropDup ddDefaultDup ddDefaultDec ddDefaultAscending (ins.map (loaded fill))) = true :=
  (checkMergeDropDup_cs_iff eqv heqv fill _ ins _).2 (mergeDropDup_cert_ok fill ins)

theorem check_renumber_particles_sound (nat : Nat → α) (l out : Motl α)
    (h : checkRenumberParticles eqv nat l out = true) : RenumberParticlesOK nat l out :=
  (checkRenumberParticles_iff eqv heqv nat l out).1 h

theorem check_renumber_particles_complete (nat : Nat → α) (l out : Motl α)
    (h : RenumberParticlesOK nat l out) : checkRenumberParticles eqv nat l out = true :=
  (checkRenumberParticles_iff eqv heqv nat l out).2 h

theorem check_renumber_particles_accepts_model (nat : Nat → α) (l : Motl α) :
    checkRenumberParticles eqv nat l (renumberParticles nat l) = true :=
  (checkRenumberParticles_iff eqv heqv nat l _).2 (renumberParticles_spec nat l)

/-- the clauses of `renumber_particles` pin the table down: accepted exactly when it IS the model's output -/
theorem check_renumber_particles_iff_model (nat : Nat → α) (l out : Motl α) :
    checkRenumberParticles eqv nat l out = true ↔ out = renumberParticles nat l := by
  rw [checkRenumberParticles_iff eqv heqv]
  obtain ⟨m1, m2⟩ := renumberParticles_spec nat l
  exact ⟨fun ⟨h1, h2⟩ => renumbered_unique l out _ h2 m2 (h1.trans m1.symm), fun e => e ▸ ⟨m1, m2⟩⟩

theorem check_renumber_objects_sound (nat : Nat → α) (start : α) (l out : Motl α)
    (h : checkRenumberObjects eqv nat start l out = true) : RenumberObjectsOK nat start l out :=
  (checkRenumberObjects_iff eqv heqv nat start l out).1 h

theorem check_renumber_objects_complete (nat : Nat → α) (start : α) (l out : Motl α)
    (h : RenumberObjectsOK nat start l out) : checkRenumberObjects eqv nat start l out = true :=
  (checkRenumberObjects_iff eqv heqv nat start l out).2 h

/-- the model's renumbering is accepted (`hinj`: `start + i` are different numbers for different `i`) -/
theorem check_renumber_objects_accepts_model (nat : Nat → α) (start : α) (l : Motl α)
    (hinj : ∀ i j : Nat, start + nat i = start + nat j → i = j) :
    checkRenumberObjects eqv nat start l (renumberObjects nat start l) = true :=
  (checkRenumberObjects_iff eqv heqv nat start l _).2 (renumberObjects_ok nat start l hinj)

theorem check_step_accepts_model (fill : α → α) (nat : Nat → α) (hfill : ∀ v, fill (fill v) = fill v)
    (hnat : ∀ i j, nat i = nat j → i = j) (op : Op α) (l : Motl α) :
    checkStep eqv fill nat op l (modelObs fill nat op l) = true :=
  (checkStep_iff eqv heqv fill nat op l _).2 (model_stepOK fill nat hfill hnat op l)

/-- **`checkRun` accepts the model's whole run**: for every history (any length, any operations and
arguments) and every initial table, the checkers accept the model's own observation chain, every step
judged against the model's previous table. -/
theorem check_run_accepts_model (fill : α → α) (nat : Nat → α) (hfill : ∀ v, fill (fill v) = fill v)
    (hnat : ∀ i j, nat i = nat j → i = j) (ops : List (Op α)) (l : Motl α) :
    checkRun eqv fill nat (modelChain fill nat ops l) l = true := by
  induction ops generalizing l with
  | nil => rfl
  | cons op ops ih =>
    simp only [modelChain, checkRun, Bool.and_eq_true]
    refine ⟨check_step_accepts_model eqv heqv fill nat hfill hnat op l, ?_⟩
    rw [modelObs_out]
    exact ih _

omit heqv in
theorem modelChain_last (fill : α → α) (nat : Nat → α) (ops : List (Op α)) (l : Motl α) :
    lastOut (modelChain fill nat ops l) l = run fill nat ops l
    ∧ (modelChain fill nat ops l).map (·.1) = ops := by
  induction ops generalizing l with
  | nil => exact ⟨rfl, rfl⟩
  | cons op ops ih =>
    obtain ⟨h1, h2⟩ := ih (step fill nat op l)
    refine ⟨?_, ?_⟩
    · simp only [modelChain, lastOut, modelObs_out]
      rw [h1]; rfl
    · simp only [modelChain, List.map_cons, h2]

/-- **one accepted step** establishes the clauses of its operation for the REAL tables … -/
theorem check_step_sound (fill : α → α) (nat : Nat → α) (op : Op α) (l : Motl α) (o : Obs α)
    (h : checkStep eqv fill nat op l o = true) : StepOK fill nat op l o :=
  ((checkStep_iff eqv heqv fill nat op l o).1 h).1

/-- **`checkStep` decides exactly the clauses of its operation** — sound AND complete for every operation.  The
right-hand side is made of clause Props only (no checker): `StepOK`, and for `merge_and_drop_duplicates`
`HintCertOK`: one of the OFFERED offset certificates meets the clauses (`MergeDropDupCertOK`, the body of
`MergeDropDupOK`, which only says that some certificate exists). -/
theorem check_step_iff (fill : α → α) (nat : Nat → α) (op : Op α) (l : Motl α) (o : Obs α) :
    checkStep eqv fill nat op l o = true ↔ StepOK fill nat op l o ∧ HintCertOK fill op l o :=
  checkStep_iff eqv heqv fill nat op l o

/-- **`checkRun` decides exactly that every step of the observed history meets its clauses**, each
judged against the REAL previous table (`RunCertOK`: clause Props only) — nothing less (soundness), nothing more
(completeness) -/
theorem check_run_iff (fill : α → α) (nat : Nat → α) (steps : List (Op α × Obs α)) (l : Motl α) :
    checkRun eqv fill nat steps l = true ↔ RunCertOK fill nat steps l := by
  induction steps generalizing l with
  | nil => simp [checkRun, RunCertOK]
  | cons s steps ih =>
    obtain ⟨op, o⟩ := s
    simp only [checkRun, RunCertOK, Bool.and_eq_true, checkStep_iff eqv heqv, ih]

/-- … and **an accepted observed history** (every step judged against the REAL previous table)
establishes the history clause for the REAL last table: each of its rows is a row that entered the
history — of the initial list or of a list merged / intersected in — and no field other than
`subtomo_id` / `object_id` has changed; a missing value may have been filled by `Motl.load` only if
the history contains an intersection or a merge with a bare-DataFrame input (`histFill`). -/
theorem check_history_rows (fill : α → α) (nat : Nat → α) (hfill : ∀ v, fill (fill v) = fill v)
    (steps : List (Op α × Obs α)) (l : Motl α) (h : checkRun eqv fill nat steps l = true) :
    ∀ q ∈ lastOut steps l, ∃ p ∈ l ++ steps.flatMap (fun s => s.1.sources),
      Unchanged (histFill fill (steps.map (·.1))) p q := by
  have := checkRun_rows eqv heqv fill nat hfill steps l h
  rwa [RowsFrom, List.flatMap_map] at this

/-- an accepted observed history of operations that do not re-load a frame: the REAL last table holds
literal rows (a selection that zeroes a missing value is REJECTED by the checkers) -/
theorem check_history_rows_literal (fill : α → α) (nat : Nat → α) (hfill : ∀ v, fill (fill v) = fill v)
    (steps : List (Op α × Obs α)) (hops : (steps.map (·.1)).any Op.mayFill = false) (l : Motl α)
    (h : checkRun eqv fill nat steps l = true) :
    ∀ q ∈ lastOut steps l, ∃ p ∈ l ++ steps.flatMap (fun s => s.1.sources), Literal p q := by
  have := (checkRun_rows eqv heqv fill nat hfill steps l h).literal hops
  rwa [List.flatMap_map] at this

end checkers

section viacheckers
variable {α : Type} [CommRing α] [LinearOrder α] [IsStrictOrderedRing α]

/-- `history_rows` obtained WITHOUT the model-level induction `step_rows`: the checkers accept the
model's own observation chain (`check_run_accepts_model`, which rests on the per-operation spec
theorems), and an accepted chain has the history property (`checkRun_history`, the content of `check_history_rows`).  So the clause
Props the checkers decide are at least as strong as the model-level invariant. -/
theorem history_rows_via_checkers (fill : α → α) (nat : Nat → α) (hfill : ∀ v, fill (fill v) = fill v)
    (hnat : ∀ i j, nat i = nat j → i = j) (ops : List (Op α)) (l : Motl α) :
    ∀ q ∈ run fill nat ops l, ∃ p ∈ l ++ ops.flatMap Op.sources, Unchanged (histFill fill ops) p q := by
  have heqv : ∀ a b : α, (fun a b => decide (a = b)) a b = true ↔ a = b := fun a b => by simp
  have h := checkRun_rows _ heqv fill nat hfill (modelChain fill nat ops l) l
    (check_run_accepts_model _ heqv fill nat hfill hnat ops l)
  have hm := modelChain_last fill nat ops l
  rwa [hm.1, hm.2] at h

end viacheckers

section nodup
set_option linter.unusedSectionVars false
variable {α : Type} [CommRing α] [LinearOrder α] [IsStrictOrderedRing α]

theorem stepOK_selection_keeps_nodup (fill : α → α) (nat : Nat → α) (g : Field) (op : Op α)
    (hop : op.isNodupSelection) (l : Motl α) (o : Obs α) (hs : StepOK fill nat op l o)
    (hl : (l.map (·.get g)).Nodup) : (o.out.map (·.get g)).Nodup := by
  cases op with
  | subset f vs =>
    rw [((subsetOK_iff f vs l o.out).1 hs).trans (subset_spec f vs l).symm]
    exact nodup_map_of_subperm _ ⟨_, (subset_perm f vs l hop).symm, List.filter_sublist⟩ hl
  | remove f vs =>
    exact nodup_map_of_subperm _ (List.exists_perm_sublist (List.sublist_append_left _ _) hs.1) hl
  | splitPick f i =>
    rw [hs.2]
    exact nodup_map_of_subperm _ (List.exists_perm_sublist (getD_sublist_flatten o.parts i) hs.1.1) hl
  | dropDup dup dec asc =>
    exact nodup_map_of_subset _ _ o.out l hs.1 (DropDupOK.mem hs) hl
  | _ => cases hop

theorem selection_step_keeps_nodup (fill : α → α) (nat : Nat → α) (g : Field) (op : Op α)
    (hop : op.isNodupSelection) (l : Motl α) (hl : (l.map (·.get g)).Nodup) :
    ((step fill nat op l).map (·.get g)).Nodup :=
  modelObs_out fill nat op l ▸
    stepOK_selection_keeps_nodup fill nat g op hop l _ (selection_stepOK fill nat op hop.isSelection l) hl

theorem selection_history_keeps_nodup (fill : α → α) (nat : Nat → α) (g : Field) (ops : List (Op α))
    (hsel : ∀ op ∈ ops, op.isNodupSelection) (l : Motl α) (hl : (l.map (·.get g)).Nodup) :
    ((run fill nat ops l).map (·.get g)).Nodup :=
  List.foldlRecOn (motive := fun l' => (l'.map (·.get g)).Nodup) ops _ hl
    fun l' hl' op hop => selection_step_keeps_nodup fill nat g op (hsel op hop) l' hl'

/-- **Subtomogram numbers after `merge_and_renumber` followed by ANY sequence of selections stay
pairwise different** (`hnat`: different naturals are different numbers). -/
theorem mergeRenumber_then_selections_nodup (fill : α → α) (nat : Nat → α) (hnat : ∀ i j, nat i = nat j → i = j)
    (ls : List (Motl α)) (ops : List (Op α)) (hsel : ∀ op ∈ ops, op.isNodupSelection) :
    ((run fill nat ops (mergeRenumber nat ls)).map (·.subtomo_id)).Nodup := by
  apply selection_history_keeps_nodup fill nat Field.subtomo_id ops hsel
  show ((mergeRenumber nat ls).map (·.subtomo_id)).Nodup
  rw [mergeRenumber_ids]
  exact numbers_nodup nat hnat _

/-- NOT the "exactly 20 fields" clause of the statement, only the reason the MODEL cannot violate it: a model row is
a `Particle`, a record type with 20 named cells, so this holds for every row of every type-correct term (the
hypothesis `q ∈ run …` is not used).  For the CODE the clause is decided by `checkSchema` on the real column names
(`check_schema_iff`); a dropped column shows up there. -/
theorem history_schema (fill : α → α) (nat : Nat → α) (ops : List (Op α)) (l : Motl α) :
    ∀ q ∈ run fill nat ops l, q.toList.length = 20 ∧ (Field.all.map (fun f => (f.name, q.get f))).map Prod.fst = motlColumnNames := by
  intro q _
  refine ⟨by simp [Particle.toList, Field.all_length], ?_⟩
  rw [List.map_map, columns_documented]
  rfl

section checked_nodup
variable (eqv : α → α → Bool) (heqv : ∀ a b, eqv a b = true ↔ a = b)
include heqv

theorem check_selection_history_keeps_nodup (fill : α → α) (nat : Nat → α) (g : Field) (steps : List (Op α × Obs α))
    (hsel : ∀ s ∈ steps, s.1.isNodupSelection) (l : Motl α) (h : checkRun eqv fill nat steps l = true)
    (hl : (l.map (·.get g)).Nodup) : ((lastOut steps l).map (·.get g)).Nodup :=
  lastOut_preserves eqv fill nat (fun l' => (l'.map (·.get g)).Nodup) steps
    (fun s hs l' hc => stepOK_selection_keeps_nodup fill nat g s.1 (hsel s hs) l' s.2
      (check_step_sound eqv heqv fill nat s.1 l' s.2 hc)) l h hl

/-- **For the REAL tables: subtomogram numbers after an accepted `merge_and_renumber` followed by ANY
accepted sequence of selections are pairwise different** — whatever the code did inside, if the
checkers accepted every step then no two surviving rows share a subtomogram number. -/
theorem check_merge_renumber_then_selections_nodup (fill : α → α) (nat : Nat → α) (hnat : ∀ i j, nat i = nat j → i = j)
    (b a : List (Bool × Motl α)) (s : Bool) (o : Obs α) (steps : List (Op α × Obs α))
    (hsel : ∀ s ∈ steps, s.1.isNodupSelection) (l : Motl α)
    (h : checkRun eqv fill nat ((Op.mergeRenumber b a s, o) :: steps) l = true) :
    ((lastOut ((Op.mergeRenumber b a s, o) :: steps) l).map (·.subtomo_id)).Nodup := by
  simp only [checkRun, Bool.and_eq_true] at h
  have hm : MergeRenumberOK fill nat (rawInputs b a s l) o.out := check_step_sound eqv heqv fill nat _ l o h.1
  obtain ⟨_, _, _, _, hids⟩ := hm
  refine check_selection_history_keeps_nodup eqv heqv fill nat Field.subtomo_id steps hsel o.out h.2 ?_
  show (o.out.map (·.subtomo_id)).Nodup
  rw [hids]
  exact numbers_nodup nat hnat _

end checked_nodup

end nodup

section trace
variable {α : Type} [BEq α] [LT α] [DecidableLT α] [Add α] [Sub α] [OfNat α 0] [OfNat α 1]

/-- what the driver reports (`trace`: every intermediate table) is the run of the theorems: as many tables as
operations, the k-th one is the run of the first k+1 operations, the last one is `run` -/
theorem trace_eq_run (fill : α → α) (nat : Nat → α) (ops : List (Op α)) (l : Motl α) :
    (trace fill nat ops l).length = ops.length
    ∧ (∀ k, k < ops.length → (trace fill nat ops l)[k]? = some (run fill nat (ops.take (k + 1)) l))
    ∧ (trace fill nat ops l).getLastD l = run fill nat ops l := by
  induction ops generalizing l with
  | nil => exact ⟨rfl, fun k hk => absurd hk (Nat.not_lt_zero k), rfl⟩
  | cons op ops ih =>
    obtain ⟨h1, h2, h3⟩ := ih (step fill nat op l)
    refine ⟨congrArg Nat.succ h1, ?_, ?_⟩
    · intro k hk
      cases k with
      | zero => rfl
      | succ k => exact h2 k (Nat.lt_of_succ_lt_succ hk)
    · show ((step fill nat op l) :: trace fill nat ops (step fill nat op l)).getLastD l = _
      rw [List.getLastD_cons, h3]
      rfl

end trace

/-! ### the EXECUTED instance of the checkers (`Model/C08_Cell.lean`)

The driver decodes every cell into a `Cell` (an exact rational; a missing value is the constant `missingQ`) and runs
`stepClausesQ` / `checkStepQ` / `checkRunQ` = the checkers at `Rat` with `eqvQ` (`==` on `Rat`), `fillQ`, `natQ`.
`Rat` is an ordered commutative ring and `eqvQ` is lawful, so every checker theorem above applies to the very terms
the driver executes — no hypothesis left. -/
section executed

theorem executed_instance_lawful :
    (∀ a b : Cell, eqvQ a b = true ↔ a = b) ∧ (∀ v : Cell, fillQ (fillQ v) = fillQ v) ∧ (∀ i j : Nat, natQ i = natQ j → i = j) :=
  ⟨eqvQ_lawful, fillQ_idem, natQ_inj⟩

/-- the verdict the driver reports for a step (`checkStepQ`, when no key cell is missing) decides exactly the clauses -/
theorem check_step_iff_executed (op : Op Cell) (l : Motl Cell) (o : Obs Cell) :
    checkStepQ op l o = true ↔ StepOK fillQ natQ op l o ∧ HintCertOK fillQ op l o :=
  check_step_iff eqvQ eqvQ_lawful fillQ natQ op l o

/-- every clause the driver lists as failed is a member of the list `checkStepQ` is the conjunction of -/
theorem check_step_executed_eq (op : Op Cell) (l : Motl Cell) (o : Obs Cell) :
    checkStepQ op l o = (stepClausesQ op l o).all (·.2) := rfl

theorem check_run_iff_executed (steps : List (Op Cell × Obs Cell)) (l : Motl Cell) :
    checkRunQ steps l = true ↔ RunCertOK fillQ natQ steps l :=
  check_run_iff eqvQ eqvQ_lawful fillQ natQ steps l

theorem check_history_rows_executed (steps : List (Op Cell × Obs Cell)) (l : Motl Cell) (h : checkRunQ steps l = true) :
    ∀ q ∈ lastOut steps l, ∃ p ∈ l ++ steps.flatMap (fun s => s.1.sources),
      Unchanged (histFill fillQ (steps.map (·.1))) p q :=
  check_history_rows eqvQ eqvQ_lawful fillQ natQ fillQ_idem steps l h

theorem check_run_accepts_model_executed (ops : List (Op Cell)) (l : Motl Cell) :
    checkRunQ (modelChain fillQ natQ ops l) l = true :=
  check_run_accepts_model eqvQ eqvQ_lawful fillQ natQ fillQ_idem natQ_inj ops l

end executed

/-! ### the missing-value-aware clause lists reduce to the proved ones when nothing is missing -/
section no_missing
variable {α : Type} [BEq α] [LT α] [DecidableLT α] [Add α] [Sub α] [OfNat α 0]

theorem dropDupClausesM_no_missing (eqv : α → α → Bool) (fill : α → α) (dup dec : Field) (asc : Bool) (l out : Motl α) :
    (dropDupClausesM eqv (fun _ => false) fill dup dec asc l out).map (·.2)
      = (dropDupClauses eqv fill dup dec asc l out).map (·.2) := by
  simp [dropDupClausesM, dropDupClauses]

end no_missing

/-! ### witnesses of the open known findings C08-K2 / C08-K3 (concrete lists over `W`: integers plus a missing value
that is `==` to nothing, ordered with nothing, absorbing `+`) -/
section witnesses
open W

/-- **C08-K2, as-is**: pandas' `drop_duplicates` treats two missing ids as one id (`firstPerSame W.same`): of the two
rows without an id only one is left, although under `==` (the model's `firstPer`, the statement's reading) a missing
id duplicates nothing and both stay -/
theorem dropdup_missing_ids_collapse_witness :
    (firstPerSame W.same .subtomo_id [row nan (n 1) (n 5), row nan (n 2) (n 7), row (n 3) (n 1) (n 1)]).length = 2
    ∧ (firstPer .subtomo_id [row nan (n 1) (n 5), row nan (n 2) (n 7), row (n 3) (n 1) (n 1)]).length = 3 := by
  decide +kernel

/-- … and the missing-value-aware checker rejects the collapsed output exactly in the clause `dropdup-every-id-survives`
(and accepts the output that keeps both rows) -/
theorem dropdup_missing_ids_checker_witness :
    ((dropDupClausesM W.same W.isNan (fun v => v) .subtomo_id .score false
        [row nan (n 1) (n 5), row nan (n 2) (n 7), row (n 3) (n 1) (n 1)]
        [row (n 3) (n 1) (n 1), row nan (n 2) (n 7)]).filter (fun c => !c.2)).map (·.1) = ["dropdup-every-id-survives"]
    ∧ ((dropDupClausesM W.same W.isNan (fun v => v) .subtomo_id .score false
        [row nan (n 1) (n 5), row nan (n 2) (n 7), row (n 3) (n 1) (n 1)]
        [row (n 3) (n 1) (n 1), row nan (n 1) (n 5), row nan (n 2) (n 7)]).all (·.2)) = true := by
  decide +kernel

/-- a survivor WITHOUT a decision value while a row of its id has one is rejected (`dropdup-keeps-best-scoring-row`);
the clause list without `miss` (IEEE `<` only) would accept it -/
theorem dropdup_missing_score_checker_witness :
    ((dropDupClausesM W.same W.isNan (fun v => v) .subtomo_id .score false
        [row (n 1) (n 1) nan, row (n 1) (n 1) (n 9), row (n 2) (n 1) (n 3)]
        [row (n 1) (n 1) nan, row (n 2) (n 1) (n 3)]).filter (fun c => !c.2)).map (·.1) = ["dropdup-keeps-best-scoring-row"]
    ∧ ((dropDupClauses W.same (fun v => v) .subtomo_id .score false
        [row (n 1) (n 1) nan, row (n 1) (n 1) (n 9), row (n 2) (n 1) (n 3)]
        [row (n 1) (n 1) nan, row (n 2) (n 1) (n 3)]).all (·.2)) = true := by
  decide +kernel

/-- **C08-K3, the model's own loop** (`mergeBlocks` with Python's `min`/`max` = `objMin`/`objMax`): a missing object
number in front poisons minimum and maximum, no offset is applied to either input and object number 2 is used by both -/
theorem merge_missing_object_id_collides_witness :
    (mergeBlocks Gen.C08.Cmp.le (0 : W) [[row (n 1) nan (n 0), row (n 2) (n 2) (n 0)], [row (n 3) (n 2) (n 0), row (n 4) (n 5) (n 0)]]).flatten.map (·.object_id)
      = [nan, n 2, n 2, n 5]
    ∧ mergeOffsets Gen.C08.Cmp.le (0 : W) [[row (n 1) nan (n 0), row (n 2) (n 2) (n 0)], [row (n 3) (n 2) (n 0), row (n 4) (n 5) (n 0)]] = [0, 0] := by
  decide +kernel

/-- … while with the missing number LAST nothing goes wrong (no collision): the classification rule must look at the
output, not at the mere presence of a missing object number -/
theorem merge_missing_object_id_last_is_fine_witness :
    (mergeBlocks Gen.C08.Cmp.le (0 : W) [[row (n 1) (n 2) (n 0), row (n 2) nan (n 0)], [row (n 3) (n 5) (n 0), row (n 4) (n 6) (n 0)]]).flatten.map (·.object_id)
      = [n 2, nan, n 5, n 6] := by
  decide +kernel

end witnesses
/-! ### non-vacuity of the hypotheses used above -/
example : ([2, 1] : List Int).Nodup := by decide
example : (subset .tomo_id [2, 1] [Particle.ofFn (fun _ => (1 : Int)), Particle.ofFn (fun _ => 2), Particle.ofFn (fun _ => 3)]).length = 2 := by decide +kernel
example : ∀ i j : Nat, (1 : Int) + (Int.ofNat i) = 1 + Int.ofNat j → i = j := by intro i j h; simp at h; exact h
example : ∀ v : Int, (fun x : Int => if x = -1 then 0 else x) ((fun x : Int => if x = -1 then 0 else x) v) = (fun x : Int => if x = -1 then 0 else x) v := by
  intro v; by_cases h : v = -1 <;> simp [h]
example : (Op.subset Field.tomo_id [(1 : Int)]).isSelection = true := rfl
/-- hypotheses of `intersect_spec_ids` / `intersect_spec_no_missing`: ids (all fields) that `fill` leaves alone -/
example : ∀ p ∈ [Particle.ofFn (fun _ => (2 : Int)), Particle.ofFn (fun _ => 5)],
    ∀ g, (fun x : Int => if x = -1 then 0 else x) (p.get g) = p.get g := by
  intro p hp g
  simp only [List.mem_cons, List.not_mem_nil, or_false] at hp
  rcases hp with rfl | rfl <;> simp [Particle.get_ofFn]

/-- the cell comparison hypothesis `heqv` of the checker theorems is satisfiable -/
example : ∀ a b : Int, ((fun a b : Int => a == b) a b = true ↔ a = b) := by intro a b; simp
/-- `hnat` of `mergeRenumber_then_selections_nodup` -/
example : ∀ i j : Nat, (Int.ofNat i) = Int.ofNat j → i = j := by intro i j h; exact Int.ofNat.inj h
example : (Op.subset Field.tomo_id [(1 : Int), 2]).isNodupSelection := by simp [Op.isNodupSelection]
/-- the checkers discriminate: a correct renumbering is accepted, one that starts at 0 is rejected;
a subset in requested order is accepted, the same rows in the other order are rejected -/
example : checkRenumberParticles (fun a b : Int => a == b) Int.ofNat
    [Particle.ofFn (fun _ => (7 : Int)), Particle.ofFn (fun _ => 9)]
    [(Particle.ofFn (fun _ => (7 : Int))).set .subtomo_id 1, (Particle.ofFn (fun _ => (9 : Int))).set .subtomo_id 2] = true := by decide +kernel
example : checkRenumberParticles (fun a b : Int => a == b) Int.ofNat
    [Particle.ofFn (fun _ => (7 : Int)), Particle.ofFn (fun _ => 9)]
    [(Particle.ofFn (fun _ => (7 : Int))).set .subtomo_id 0, (Particle.ofFn (fun _ => (9 : Int))).set .subtomo_id 1] = false := by decide +kernel
example : checkSubset (fun a b : Int => a == b) .tomo_id [2, 1]
    [Particle.ofFn (fun _ => (1 : Int)), Particle.ofFn (fun _ => 2), Particle.ofFn (fun _ => 3)]
    [Particle.ofFn (fun _ => (2 : Int)), Particle.ofFn (fun _ => 1)] = true := by decide +kernel
example : checkSubset (fun a b : Int => a == b) .tomo_id [2, 1]
    [Particle.ofFn (fun _ => (1 : Int)), Particle.ofFn (fun _ => 2), Particle.ofFn (fun _ => 3)]
    [Particle.ofFn (fun _ => (1 : Int)), Particle.ofFn (fun _ => 2)] = false := by decide +kernel
/-- two inputs whose object numbers overlap: accepted only with non-colliding offsets -/
example : checkMergeRenumber (fun a b : Int => a == b) (fun v => v) Int.ofNat
    [(false, [Particle.ofFn (fun _ => (1 : Int))]), (false, [Particle.ofFn (fun _ => (1 : Int))])]
    [(Particle.ofFn (fun _ => (1 : Int))), ((Particle.ofFn (fun _ => (1 : Int))).set .object_id 2).set .subtomo_id 2] = true := by decide +kernel
example : checkMergeRenumber (fun a b : Int => a == b) (fun v => v) Int.ofNat
    [(false, [Particle.ofFn (fun _ => (1 : Int))]), (false, [Particle.ofFn (fun _ => (1 : Int))])]
    [(Particle.ofFn (fun _ => (1 : Int))), (Particle.ofFn (fun _ => (1 : Int))).set .subtomo_id 2] = false := by decide +kernel
/-- `merge_and_drop_duplicates`, second input a bare DataFrame with a missing object number (−1, filled to 0
on loading): with colliding offsets REJECTED, with the loop's offsets (`mergeOffsets`) accepted -/
example : checkMergeDropDup (fun a b : Int => a == b) exFill [0, 2]
    [(false, [exRow 1 1 1 5, exRow 2 1 2 5]), (true, [exRow 1 1 1 9, exRow 3 1 (-1) 5])]
    [exRow 1 1 3 9, exRow 2 1 2 5, exRow 3 1 2 5] = false := by decide +kernel
example : checkMergeDropDup (fun a b : Int => a == b) exFill [0, 3]
    [(false, [exRow 1 1 1 5, exRow 2 1 2 5]), (true, [exRow 1 1 1 9, exRow 3 1 (-1) 5])]
    [exRow 1 1 4 9, exRow 2 1 2 5, exRow 3 1 3 5] = true := by decide +kernel
example : mergeOffsets Cmp.le (0 : Int) [[exRow 1 1 1 5, exRow 2 1 2 5], [], [exRow 1 1 1 9, exRow 3 1 0 5]] = [0, 0, 3] := by decide +kernel
/-- hypotheses of `check_run_accepts_model` are satisfiable, and its conclusion on a concrete history
(a merge with a DataFrame input and an empty input, subset, split, intersection, removal, renumbering) -/
example : ∀ v : Int, exFill (exFill v) = exFill v := by intro v; unfold exFill; by_cases h : v = -1 <;> simp [h]
example : checkRun (fun a b : Int => a == b) exFill Int.ofNat
    (modelChain exFill Int.ofNat
      [Op.mergeRenumber [(true, [exRow 5 1 1 (-1)])] [(false, [])] false, Op.subset .tomo_id [2, 1], Op.splitPick .tomo_id 1,
       Op.intersect .subtomo_id [exRow 1 2 3 4], Op.remove .tomo_id [3], .renumberParticles]
      [exRow 9 1 1 3, exRow 9 2 1 4])
    [exRow 9 1 1 3, exRow 9 2 1 4] = true := by decide +kernel
/-- `hsel` of `check_selection_history_keeps_nodup` -/
example : ∀ s ∈ [((Op.remove Field.tomo_id [(1 : Int)]), ({ out := [] } : Obs Int))], s.1.isNodupSelection := by
  intro s hs
  cases List.mem_singleton.1 hs
  trivial

end CryoCat.C08
