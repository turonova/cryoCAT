import CryoCat.Lemmas.C19_Loop
import CryoCat.Lemmas.C19_Ties
/-! C19 — chain tracing partitions particles into simple, distance-respecting chains.

`Spec` is the statement of properties.jsonl over the output rows `(tomogram, position, object, order,
recorded value)`; distances are squared (`d i j`, `lo = min²`, `hi = max²`), which is the same
interval test because everything is ≥ 0.  What is proved:

* for the MODEL of `trace_chains` (all inputs, all sizes, all distance functions): clause 1 and "chains
  never span tomograms" for every choice of the comparison operators (`trace_partition`,
  `trace_partition_all`, `trace_no_span`); for the documented operators (= the ones read from the
  source, `opts_documented`) the ORDER clause and the DISTANCE clause through all branches — append,
  suffix attach with/without tail cut, prefix attach with/without head cut, two-sided merge with/without
  either cut (`trace_chains_well_numbered`, `trace_orders`, `trace_dist`), hence the whole statement
  (`trace_spec_full`);
* for the CHECKER that is run on the real output of every generated case: it decides the four clauses of `Spec`
  (`check_sound`, `check_complete`, `check_iff`) and accepts the model's own output (`model_accepted`);
* regression witnesses for the three repaired defects that are visible in the model
  (`tailcut_roworder_counterexample`, `double_cut_shared_id_counterexample`,
  `min_zero_coincidence_counterexample`) and that the repaired model passes on the same inputs.

What ties the model to the code: the operator table (`opts_documented`), the exact row-by-row
comparison of every generated case, and `chainsOk` on the real output. -/
namespace CryoCat.C19
variable {α : Type} [LE α] [LT α] [DecidableLE α] [DecidableLT α] [DecidableEq α]

/-! Translator obligations: `Gen.C19` is regenerated from `cryocat/ribana.py`; these theorems tie its
constants to the values the model is written for. -/

theorem anchors_ok : Gen.C19.anchorsOk = true := by decide

/-- `get_nn_dist` asks for sorted hits with distances and returns the first one left after the
filters -/
theorem nn_sorted_first : Gen.C19.nnSorted = true ∧ Gen.C19.nnTakesFirst = true ∧ Gen.C19.nnMaskCmp = .eq := by decide

/-- the tail cut off by `add_chain_suffix` is renumbered by chain order (`-= order_id`), not by
DataFrame row order (repair 6cbacb0) -/
theorem tail_renumbered_by_chain_order : Gen.C19.tailByChainOrder = true := by decide

/-- a two-sided merge takes a fresh object id for the head it cuts off (repair 2d8b42a) -/
theorem both_sides_fresh_id : Gen.C19.bothSidesFreshId = true := by decide

/-- `get_nn_dist` filters `rp_dist > dist_min` under no test of `dist_min` (repair of the guard
`elif dist_min > 0`, which let a coinciding site pass at distance 0 when `min_distance = 0`) -/
theorem min_bound_unconditional : Gen.C19.nnMinAlways = true := by decide

/-- the per-tomogram working copies are re-labelled 0..n-1 (`reset_index=True`): the code addresses
rows by `df.index[position]`, which names ONE row only when labels do not repeat; the model addresses
rows by position throughout (repair: lists with repeated row labels made the first merge raise) -/
theorem subsets_positional : Gen.C19.subsetsPositional = true := by decide

/-- all thirteen comparison / bookkeeping sites read from the source are the documented ones
(`dist > dist_min` applied to every hit whatever `dist_min` is, `<=` keeps the existing link at both
ends, `>`/`<` select tail/head, first order 1, …) -/
theorem opts_documented : Opts.gen = Opts.documented := by decide

/-- the numbering constants the model hard-codes are the ones in the source: object ids and order
numbers start at 1 and advance by 1 (one `chain_id += 1`; `class_c += 1` after every chain and once
more for a two-sided merge), a two-sided merge needs `cl_max > 1`, the order-number shifts are
`+= chain_max_order` (suffix) and `+= class_max - cut_off_size` (prefix, both forms) with
`cut_off_size` starting at 0, and the temporary id of a head cut off in a two-sided merge is `-1`
(never a real object id, `WN.rng`) -/
theorem numbering_documented :
    Gen.C19.classStart = 1 ∧ Gen.C19.orderStart = 1 ∧ Gen.C19.orderStepSites = 1 ∧ Gen.C19.orderStep = 1 ∧
    Gen.C19.classStepSites = 2 ∧ Gen.C19.classStep = 1 ∧ Gen.C19.bothMinLenCmp = .gt ∧ Gen.C19.bothMinLen = 1 ∧
    Gen.C19.suffixShiftDocumented = true ∧ Gen.C19.prefixShiftDocumented = true ∧ Gen.C19.cutOffInit = 0 ∧
    Gen.C19.headMarker = -1 := by decide

/-- the whole bodies of `get_nn_dist`, `add_chain_suffix`, `add_chain_prefix`, `trace_chains` — with
parameters and local variables renamed to the documented names by binding position; comments,
layout, type annotations, docstrings and the TEXT of exception/log messages ignored; `not (a > b)`
read as `a <= b`; `a > b` written `b < a` and the operands of `==`/`!=` in a fixed order; adjacent independent constant stores into different arrays in a fixed order — are
the documented ones (digest of the syntax tree). Every statement counts, also those in branches no
generated case executes (`output_motl`, the feature-set test): an added, removed or edited statement
breaks this theorem; a renaming of local variables, a type hint or a reworded message does not. -/
theorem bodies_documented :
    Gen.C19.bodyDigests = [1053225336426693692, 797955773933724064, 654672493014163097, 703771148035791459] := by
  decide

/-- the signature defaults the statement and the adapter's omitted keywords depend on:
`min_distance = 0` (the window is `(0, max]`), tomograms are the values of `tomo_id`, and the three
columns written are `object_id`, `geom2`, `geom4` — in `trace_chains` and in both merge helpers -/
theorem defaults_documented :
    Gen.C19.minDistanceDefault = 0 ∧ Gen.C19.featureDefault = "tomo_id" ∧
    Gen.C19.storeDefaults = ["object_id", "geom2", "geom4"] ∧
    Gen.C19.helperStoreDefaults = [["object_id", "geom2", "geom4"], ["object_id", "geom2", "geom4"]] := by
  decide +kernel

/-- the columns the statement observes (object number, order number, recorded distance) are the
default store columns of the signature -/
theorem store_documented : Store.gen = some Store.documented := by decide +kernel

/-- how the column names reach the merge helpers, AS OBSERVED in the source today: `store_idx1` and
`store_idx2` are forwarded, `store_dist` is not (the helpers then use their own default `geom4`).
With the default names this is immaterial (`defaults_documented`: both defaults are `geom4`), which
is the configuration the statement is about; a non-default `store_dist` is outside its quantifier
and is exercised as an observation only (see RULE in harness/props/c19.py). -/
theorem merge_calls_as_observed :
    Gen.C19.suffixCall = ["ch_m", "fm_exit", "nfm_df", "first_idx", "first_dist", "store_idx1", "store_idx2"] ∧
    Gen.C19.prefixCall = ["ch_m", "fm_entry", "nfm_df", "nm_idx", "nm_dist", "store_idx1", "store_idx2", "class_max=class_max"] ∧
    Gen.C19.storeDistForwarded = false := by decide +kernel

/-- clause 1: every particle is returned exactly once (and under its own tomogram) -/
def Once (cs : List (Cfg α)) (out : List (ORow α)) : Prop :=
  (out.map (fun r => (r.1, r.2.idx))).Perm (allKeys cs)

/-- clause 2: within each tomogram every chain (object number) carries the order numbers 1..k -/
def Orders (out : List (ORow α)) : Prop :=
  ∀ (t : Nat) (g : Int), ((group out t g).map (·.2.ord)).Perm (oneToK (group out t g).length)

/-- clause 3: for consecutive members of a chain the exit→entry distance lies in (min, max] and is
the value recorded for the former -/
def Dist (cs : List (Cfg α)) (out : List (ORow α)) : Prop :=
  ∀ a ∈ out, ∀ b ∈ out, a.1 = b.1 → a.2.obj = b.2.obj → b.2.ord = a.2.ord + 1 →
    ∃ c, cs[a.1]? = some c ∧ c.lo < c.d a.2.idx b.2.idx ∧ c.d a.2.idx b.2.idx ≤ c.hi ∧
      a.2.dist = c.d a.2.idx b.2.idx

/-- clause 4: chains never span tomograms — a chain is a `(tomogram, object)` group, and every row
filed under tomogram `t` is a particle of tomogram `t`. Since chains are DEFINED as groups inside one
tomogram, this clause is a corollary of clause 1 (`once_no_span`), not an independent fact; it is kept
as a conjunct because the statement names it. -/
def NoSpan (cs : List (Cfg α)) (out : List (ORow α)) : Prop :=
  ∀ r ∈ out, ∃ c, cs[r.1]? = some c ∧ r.2.idx < c.n

def Spec (cs : List (Cfg α)) (out : List (ORow α)) : Prop :=
  Once cs out ∧ Orders out ∧ Dist cs out ∧ NoSpan cs out

/-- no exit site coincides with another particle's entry site, or `min_distance > 0`. NOT a
hypothesis of any theorem about the documented (= repaired) code: it is what the code BEFORE the
repair of `get_nn_dist` needed (`min_zero_coincidence_counterexample` shows it fails without), kept to
say precisely which inputs were affected. properties.jsonl has no such exclusion. -/
def NoCoincidence (cs : List (Cfg α)) : Prop :=
  ∀ c ∈ cs, ∀ i j, i < c.n → j < c.n → i ≠ j → c.lo < c.d i j ∨ c.zero < c.minD

/-- the full statement about the model: all four clauses for the table the model of `trace_chains`
returns, for every list of tomograms, every distance function and all thresholds — no hypothesis
(in particular none about coincidences or equal distances: the model breaks ties between equally
distant candidates towards the lowest row position, `argmin`, and the clauses hold for that choice;
see `NoTies`/`nearestEntry_order_free` for what the tie exclusion of the GENERATOR is for).
Proved: `trace_spec_full`. -/
def SpecFull (cs : List (Cfg α)) : Prop :=
  Spec cs (runAll Opts.documented cs)

/-- **Every particle exactly once (one tomogram).** For every number of particles, every distance
function, thresholds and operator table: the positions in the traced table are a permutation of
`0..n-1`. -/
theorem trace_partition (o : Opts) (c : Cfg α) :
    ((run o c).nfm.map (·.idx)).Perm (List.range c.n) := run_ids_perm o c

/-- **Every particle exactly once, all tomograms.** -/
theorem trace_partition_all (o : Opts) (cs : List (Cfg α)) : Once cs (runAll o cs) := by
  unfold Once runAll allKeys
  rw [List.map_flatMap]
  refine Lists.perm_flatMap_congr fun p _ => ?_
  have := (run_ids_perm o p.1).map (fun i => (p.2, i))
  simpa only [ids, List.map_map, Function.comp_def] using this

/-- clause 1 implies clause 4: a row filed under tomogram `t` is a particle of tomogram `t` -/
theorem once_no_span (cs : List (Cfg α)) (out : List (ORow α)) (h : Once cs out) : NoSpan cs out := fun r hr =>
  mem_allKeys.1 ((h.mem_iff).1 (List.mem_map.2 ⟨r, hr, rfl⟩))

/-- **Chains never span tomograms** (model, all inputs) -/
theorem trace_no_span (o : Opts) (cs : List (Cfg α)) : NoSpan cs (runAll o cs) :=
  once_no_span cs _ (trace_partition_all o cs)

/-- every returned row agrees with the entry-list row of its particle in every field that tracing
does not write -/
def Unaltered {β : Type} (st : Store) (entry : Nat → Nat → Particle β) (out : List (PRow β)) : Prop :=
  ∀ r ∈ out, ∀ f : Field, st.writes f = false → r.2.2.get f = (entry r.1 r.2.1).get f

/-- "returns every particle exactly once", both halves: the keys are a permutation of the input keys
and every row carries its particle's other fields -/
def OnceUnaltered {β : Type} (cs : List (Cfg α)) (st : Store) (entry : Nat → Nat → Particle β)
    (out : List (PRow β)) : Prop :=
  (out.map (fun r => (r.1, r.2.1))).Perm (allKeys cs) ∧ Unaltered st entry out

/-- with the documented store columns the fields left alone are the other 17 -/
theorem other_fields_documented :
    otherFields Store.documented =
      [.score, .geom1, .subtomo_id, .tomo_id, .subtomo_mean, .x, .y, .z, .shift_x, .shift_y, .shift_z,
       .geom3, .geom5, .phi, .psi, .theta, .cls] ∧ (otherFields Store.documented).length = 17 := by decide

theorem otherFields_mem (st : Store) (f : Field) : f ∈ otherFields st ↔ st.writes f = false := by
  simp [otherFields, Field.mem_all]

/-- **Soundness of the field checker run on the implementation's output.** -/
theorem check_fields_sound {β : Type} [DecidableEq β] (st : Store) (entry : Nat → Nat → Particle β)
    (out : List (PRow β)) (h : chkFields st entry out = true) : Unaltered st entry out := by
  intro r hr f hf
  have h1 := (List.all_eq_true.1 h) r hr
  have h2 := (List.all_eq_true.1 h1) f ((otherFields_mem st f).2 hf)
  exact of_decide_eq_true h2

/-- and it is complete: an unaltered output is accepted (the checker asks for nothing more) -/
theorem check_fields_complete {β : Type} [DecidableEq β] (st : Store) (entry : Nat → Nat → Particle β)
    (out : List (PRow β)) (h : Unaltered st entry out) : chkFields st entry out = true := by
  refine List.all_eq_true.2 (fun r hr => List.all_eq_true.2 (fun f hf => decide_eq_true ?_))
  exact h r hr f ((otherFields_mem st f).1 hf)

omit [LE α] [LT α] [DecidableLE α] [DecidableLT α] [DecidableEq α] in
theorem emit_other_fields {β : Type} (st : Store) (ofInt : Int → β) (ofDist : α → β)
    (entry : Nat → Particle β) (r : Row α) (f : Field) (hf : st.writes f = false) :
    (emit st ofInt ofDist entry r).get f = (entry r.idx).get f := by
  simp only [Store.writes, Bool.or_eq_false_iff, beq_eq_false_iff_ne, ne_eq] at hf
  obtain ⟨⟨h1, h2⟩, h3⟩ := hf
  unfold emit
  rw [Particle.get_set_other _ _ _ _ h3, Particle.get_set_other _ _ _ _ h2, Particle.get_set_other _ _ _ _ h1]

/-- **Every particle is returned exactly once, as itself** (model, all inputs, every operator table,
every choice of the three store columns): the returned keys are a permutation of the input keys and
each returned row equals its entry-list row in all other fields. -/
theorem trace_returns_particles {β : Type} (o : Opts) (cs : List (Cfg α)) (st : Store) (ofInt : Int → β)
    (ofDist : α → β) (entry : Nat → Nat → Particle β) :
    OnceUnaltered cs st entry (emitAll st ofInt ofDist entry (runAll o cs)) := by
  constructor
  · have := trace_partition_all o cs
    unfold Once at this
    simpa [emitAll, List.map_map, Function.comp_def] using this
  · intro r hr f hf
    simp only [emitAll, List.mem_map] at hr
    obtain ⟨a, _, rfl⟩ := hr
    exact emit_other_fields st ofInt ofDist (entry a.1) a.2 f hf

/-- the hypothesis of `check_fields_sound` is satisfiable and the checker discriminates: it accepts
a row that changed only `object_id`/`geom2`/`geom4` and rejects one whose `phi` was zeroed -/
example :
    chkFields Store.documented (fun _ _ => Particle.ofFn (fun f => (f.idx : Int)))
      [(0, 0, (Particle.ofFn (fun f => (f.idx : Int))).set .object_id 7)] = true ∧
    chkFields Store.documented (fun _ _ => Particle.ofFn (fun f => (f.idx : Int)))
      [(0, 0, (Particle.ofFn (fun f => (f.idx : Int))).set .phi 0)] = false := by decide

/-- **`ChainsWellNumbered` is an invariant of the main loop** (one tomogram): after every completed
chain — append-only, suffix attach with and without tail cut, prefix attach with and without head
cut, two-sided merge with and without either cut, rejected attachments — every object of the traced
table carries the order numbers `1..K obj` without duplicates and without gaps. Proof: each branch of
`add_chain_suffix`/`add_chain_prefix` is one relabelling of `nfm ++ chain`, a splice of two chains, that
maps numbered positions one-to-one onto numbered positions (`Lemmas/C19_Splice`, `C19_Suffix`,
`C19_Prefix`); induction over the `for` loop (`Lemmas/C19_Loop`). -/
theorem trace_chains_well_numbered (c : Cfg α) : ChainsWellNumbered (run Opts.documented c).nfm :=
  (run_inv2 c).1

/-- **Orders: within each tomogram every chain carries exactly the order numbers 1..k** — for the
model of `trace_chains` with the documented operators, all inputs, all sizes, all distance functions,
through all branches. (The clause that was false twice in the real code: D18, D21.) -/
theorem trace_orders (cs : List (Cfg α)) : Orders (runAll Opts.documented cs) := by
  intro t g
  rw [group_runAll]
  cases cs[t]? with
  | none => exact List.Perm.refl _
  | some c =>
    obtain ⟨⟨K, cc, hW⟩, _, hnd, _⟩ := run_inv2 c
    simpa [Function.comp_def] using hW.orders hnd g

/-- **Distances: for consecutive members of a chain the recorded value on the former is the
exit→entry distance to the latter, and it lies in (min, max]** — model, documented operators, all
inputs, all branches (invariant `DL`: every row's recorded value is the true distance to its
successor whenever it has one; the last member of a chain is unconstrained). -/
theorem trace_dist (cs : List (Cfg α)) : Dist cs (runAll Opts.documented cs) := by
  rintro ⟨t, ra⟩ ha ⟨_, rb⟩ hb rfl hobj hord
  obtain ⟨c, hc, hra⟩ := mem_runAll.1 ha
  obtain ⟨c', hc', hrb⟩ := mem_runAll.1 hb
  obtain rfl : c = c' := Option.some.inj (hc.symm.trans hc')
  obtain ⟨h1, h2⟩ := (run_inv2 c).2.1 ra hra rb hrb hobj hord
  obtain ⟨h3, h4⟩ := inWin_documented c _ h2
  exact ⟨c, hc, h4, h3, h1⟩

/-- **The full statement holds for the model**: every particle exactly once, orders 1..k per chain,
consecutive distances in the window and recorded, no chain spans tomograms. -/
theorem trace_spec_full (cs : List (Cfg α)) : SpecFull cs :=
  ⟨trace_partition_all _ cs, trace_orders cs, trace_dist cs, trace_no_span _ cs⟩

/-- **The whole statement, with "returns every particle" read in full**: besides `SpecFull`, the
table the model returns consists of the entry-list rows themselves — every field other than
`object_id`, `geom2`, `geom4` (the documented store columns, `store_documented`) is the input
particle's. -/
theorem trace_spec_full_particles {β : Type} (cs : List (Cfg α)) (ofInt : Int → β) (ofDist : α → β)
    (entry : Nat → Nat → Particle β) :
    SpecFull cs ∧
    OnceUnaltered cs Store.documented entry
      (emitAll Store.documented ofInt ofDist entry (runAll Opts.documented cs)) :=
  ⟨trace_spec_full cs, trace_returns_particles _ cs _ ofInt ofDist entry⟩

/-- the same for the operator table regenerated from the source on every check (what the driver
executes): an edit of any of the thirteen operator sites breaks `opts_documented` and with it this -/
theorem trace_spec_full_gen (cs : List (Cfg α)) : Spec cs (runAll Opts.gen cs) := by
  rw [opts_documented]
  exact trace_spec_full cs

/-- the branches the invariant is carried through are live: the 8-particle double-cut arrangement
goes through prefix cut, suffix attach, two-sided merge, tail cut and two-sided merge with head cut -/
example : (run Opts.documented (cfgOfPts ptsDoubleCut 24 0)).tags =
    [.append, .append, .skip, .prefixCut, .suffixKeep, .both, .append, .skip, .suffixCut, .bothCut] := by
  decide +kernel

/-- `NoCoincidence` (what the code before the repair needed) holds on the D18 arrangement … -/
example : NoCoincidence [cfgOfPts ptsD18 30 0] := by
  intro c hc
  simp only [List.mem_singleton] at hc
  subst hc
  have key : ∀ i, i < 6 → ∀ j, j < 6 → i ≠ j →
      (cfgOfPts ptsD18 30 0).lo < (cfgOfPts ptsD18 30 0).d i j := by decide +kernel
  intro i j hi hj hne
  exact Or.inl (key i hi j hj hne)

/-- … and fails on `ptsCoincide` with `min_distance = 0` (exit site of 0 = entry site of 1) -/
example : ¬ NoCoincidence [cfgOfPts ptsCoincide 3 0] := by
  intro h
  have := h _ (List.mem_singleton.2 rfl) 0 1 (by decide) (by decide) (by decide)
  revert this
  decide

/-- (subsumed by `trace_orders`/`trace_dist`) the chain the `while` loop
builds from any start `p`, BEFORE any merge: each stored value is the exit→entry squared distance of
that link and lies in `(lo, hi]` (`LinkedWin`), `mkChainFrom` numbers the members 1.. in chain order
and gives all of them the object id `cls`. Partial: it says nothing about what the suffix/prefix
merges do to the chain afterwards (that is `trace_orders`/`trace_dist`). -/
theorem trace_links_partial (c : Cfg α) (traced : List Nat) (fuel p : Nat) (used : List Nat) (cls : Int) :
    LinkedWin c (traceChain Opts.documented c traced fuel p used) ∧
    (mkChainFrom cls 1 (traceChain Opts.documented c traced fuel p used)).map (·.ord)
      = oneToK (traceChain Opts.documented c traced fuel p used).length ∧
    ∀ r ∈ mkChainFrom cls 1 (traceChain Opts.documented c traced fuel p used), r.obj = cls :=
  ⟨by obtain ⟨x, tl, e, hl, -⟩ := traceChain_spec Opts.documented c traced fuel p used; exact e ▸ linked_win c _ hl,
   mkChainFrom_ords cls 1 _, fun r hr => (mkChainFrom_mem cls _ 1 r hr).1⟩

/-- `trace_links_partial` is about real links: on D18 the loop started at `P` (position 1) links
`P → S0` with recorded squared distance 400 (2.0 at 1/10 units) -/
example : traceChain Opts.documented (cfgOfPts ptsD18 30 0) [0] 6 1 [] = [(1, 400), (2, 0)] := by decide +kernel

omit [LE α] [LT α] [DecidableLE α] [DecidableLT α] [DecidableEq α] in
theorem chkOrders_iff (out : List (ORow α)) : chkOrders out = true ↔ Orders out := by
  simp only [chkOrders, List.all_eq_true, List.isPerm_iff]
  refine ⟨fun h t g => ?_, fun h r _ => h r.1 r.2.obj⟩
  -- a non-empty chain is the chain of one of its rows
  cases he : group out t g with
  | nil => exact List.Perm.refl _
  | cons r _ =>
    have hr : r ∈ group out t g := he ▸ List.mem_cons_self
    simp only [group, List.mem_filter, Bool.and_eq_true, beq_iff_eq] at hr
    obtain ⟨hro, rfl, rfl⟩ := hr
    exact he ▸ h r hro

theorem chkDist_iff (cs : List (Cfg α)) (out : List (ORow α)) : chkDist cs out = true ↔ Dist cs out := by
  simp only [chkDist, List.all_eq_true, Dist]
  refine forall₂_congr fun a _ => forall₂_congr fun b _ => ⟨fun h hab hobj hord => ?_, fun h => ?_⟩
  · rw [if_pos (by simp [hab, hobj, hord])] at h
    split at h
    · rename_i c hcs
      simp only [Bool.and_eq_true, decide_eq_true_eq] at h
      exact ⟨c, hcs, h.1.1, h.1.2, h.2⟩
    · exact absurd h (by simp)
  · split
    · rename_i hc
      simp only [Bool.and_eq_true, beq_iff_eq] at hc
      obtain ⟨c, hcs, h1, h2, h3⟩ := h hc.1.1 hc.1.2 hc.2
      rw [hcs]
      simp only [Bool.and_eq_true, decide_eq_true_eq]
      exact ⟨⟨h1, h2⟩, h3⟩
    · rfl

/-- the checker DECIDES the statement: it accepts an output exactly when the four clauses hold for it -/
theorem check_iff (cs : List (Cfg α)) (out : List (ORow α)) : chainsOk cs out = true ↔ Spec cs out := by
  simp only [chainsOk, Bool.and_eq_true, chkOrders_iff, chkDist_iff, chkOnce, List.isPerm_iff, Spec]
  exact ⟨fun ⟨⟨h1, h2⟩, h3⟩ => ⟨h1, h2, h3, once_no_span cs out h1⟩, fun ⟨h1, h2, h3, _⟩ => ⟨⟨h1, h2⟩, h3⟩⟩

/-- **Soundness of the checker run on the implementation's output**: if `chainsOk` accepts, all
clauses of the statement hold for that output. -/
theorem check_sound (cs : List (Cfg α)) (out : List (ORow α)) (h : chainsOk cs out = true) : Spec cs out :=
  (check_iff cs out).1 h

/-- **Completeness of the checker**: an output for which all clauses of the statement hold is accepted —
the checker demands nothing beyond the statement, so it cannot raise an alarm on an output that satisfies it. -/
theorem check_complete (cs : List (Cfg α)) (out : List (ORow α)) (h : Spec cs out) : chainsOk cs out = true :=
  (check_iff cs out).2 h

/-- the table the model of the documented `trace_chains` returns is accepted by the checker, for every input
(so a disagreement between checker verdict on the implementation's table and the model is never the checker's doing) -/
theorem model_accepted (cs : List (Cfg α)) : chainsOk cs (runAll Opts.documented cs) = true :=
  check_complete cs _ (trace_spec_full cs)

/-- D18 (a1, P, S0, L, b1, F; `max_distance = 3`): with the tail renumbered in DataFrame ROW order
(the code before 6cbacb0) the model returns chain `a1 → b1`, whose exit→entry distance is not in the
window and not the recorded value -/
theorem tailcut_roworder_counterexample :
    chkDist [cfgOfPts ptsD18 30 0]
      (runAll { Opts.documented with tailByChainOrder := false } [cfgOfPts ptsD18 30 0]) = false := by
  decide +kernel

/-- the 8-particle double cut: when the two-sided merge reuses `class_c - 1` (the code before
2d8b42a) the cut-off tail and the cut-off head share one object id: order number 1 occurs twice -/
theorem double_cut_shared_id_counterexample :
    chkOrders (runAll { Opts.documented with bothSidesFreshId := false } [cfgOfPts ptsDoubleCut 24 0]) = false := by
  decide +kernel

/-- the coincidence at `min_distance = 0` (`ptsCoincide`; `max_distance = 3`): with the lower bound
applied only under `dist_min > 0` (the code before the repair of `get_nn_dist`) the model links
particle 0 → particle 1 at distance 0, which is not in `(0, 3]`: the distance clause fails. The
input is inside the quantifier (`min_distance >= 0`, nothing excludes coinciding sites). -/
theorem min_zero_coincidence_counterexample :
    chkDist [cfgOfPts ptsCoincide 3 0]
      (runAll { Opts.documented with nnMinAlways := false } [cfgOfPts ptsCoincide 3 0]) = false ∧
    (runAll { Opts.documented with nnMinAlways := false } [cfgOfPts ptsCoincide 3 0]).map
      (fun r => (r.2.idx, r.2.obj, r.2.ord, r.2.dist)) = [(0, 1, 1, 0), (1, 1, 2, 0)] := by
  decide +kernel

/-- the repaired model leaves the two particles in two one-member chains and satisfies the statement -/
theorem min_zero_coincidence_repaired :
    (runAll Opts.documented [cfgOfPts ptsCoincide 3 0]).map
      (fun r => (r.2.idx, r.2.obj, r.2.ord)) = [(0, 1, 1), (1, 2, 1)] ∧
    Spec [cfgOfPts ptsCoincide 3 0] (runAll Opts.documented [cfgOfPts ptsCoincide 3 0]) :=
  ⟨by decide +kernel, trace_spec_full _⟩

/-- the repaired code (documented operators) satisfies the whole statement on both arrangements -/
theorem repaired_model_passes_witnesses :
    Spec [cfgOfPts ptsD18 30 0] (runAll Opts.documented [cfgOfPts ptsD18 30 0]) ∧
    Spec [cfgOfPts ptsDoubleCut 24 0] (runAll Opts.documented [cfgOfPts ptsDoubleCut 24 0]) :=
  ⟨trace_spec_full _, trace_spec_full _⟩

/-- `check_sound`'s hypothesis is satisfiable by a non-trivial output (three chains, merges, cuts) -/
example : chainsOk [cfgOfPts ptsD18 30 0] (runAll Opts.documented [cfgOfPts ptsD18 30 0]) = true :=
  model_accepted _

/-! Which ties the generator excludes, and why no theorem above needs the exclusion.

`get_nn_dist` returns the FIRST hit of a radius query sorted by ascending distance; the library says
nothing about the order of EQUALLY distant hits. The model's `argmin` takes the one with the lowest
row position, and every theorem above holds for that choice, for all inputs. What the generator
excludes (`NoTies`) is exactly the situation in which the real code's answer is not determined by
its source: two candidates at the same in-window distance from one query site. On every other
input the first hit is the same whatever order the library lists its hits in
(`nearestEntry_order_free`, `nearestExit_order_free`), so model and code must agree row for row. -/

section ties
variable {β : Type} [LinearOrder β]

/-- the ties outside the generated inputs: two ENTRY sites at the same in-window distance from one
EXIT site (forward tracing, prefix search), or two EXIT sites at the same in-window distance from
one ENTRY site (suffix search). Equal distances outside the window, or from different query sites,
are not ties. -/
def NoTies (c : Cfg β) : Prop :=
  (∀ i j k, i < c.n → j < c.n → k < c.n → c.lo < c.d i j → c.d i j ≤ c.hi → c.d i j = c.d i k → j = k) ∧
  (∀ i j k, i < c.n → j < c.n → k < c.n → c.lo < c.d j i → c.d j i ≤ c.hi → c.d j i = c.d k i → j = k)

/-- on a tie-free tomogram the nearest active entry site does not depend on the order in which the
candidates are listed: for EVERY listing `l` of the hits, its least element is the model's answer -/
theorem nearestEntry_order_free (c : Cfg β) (h : NoTies c) (i : Nat) (hi : i < c.n) (ok : Nat → Bool) (l : List Nat)
    (hl : l.Perm ((List.range c.n).filter (fun j => ok j && inWin Opts.documented c (c.d i j)))) :
    argmin (fun j => c.d i j) l = nearestEntry Opts.documented c i ok := by
  unfold nearestEntry
  refine (argmin_perm _ _ _ hl.symm ?_).symm
  intro a ha b hb hab
  simp only [List.mem_filter, List.mem_range, Bool.and_eq_true] at ha hb
  obtain ⟨h1, h2⟩ := (inWin_documented_iff c _).1 ha.2.2
  exact h.1 i a b hi ha.1 hb.1 h2 h1 hab

/-- the same for the nearest traced exit site seen from an entry site (suffix search) -/
theorem nearestExit_order_free (c : Cfg β) (h : NoTies c) (i : Nat) (hi : i < c.n) (ok : Nat → Bool) (l : List Nat)
    (hl : l.Perm ((List.range c.n).filter (fun j => ok j && inWin Opts.documented c (c.d j i)))) :
    argmin (fun j => c.d j i) l = nearestExit Opts.documented c i ok :=
  nearestEntry_order_free c.swap ⟨h.2, h.1⟩ i hi ok l hl

/-- and what it returns is a nearest one: no active in-window entry site is closer -/
theorem nearestEntry_is_nearest (c : Cfg β) (i : Nat) (ok : Nat → Bool) (j : Nat) (x : β)
    (h : nearestEntry Opts.documented c i ok = some (j, x)) (k : Nat) (hk : k < c.n) (hok : ok k = true)
    (hw : c.lo < c.d i k ∧ c.d i k ≤ c.hi) : c.d i j ≤ c.d i k := by
  refine argmin_min _ _ j x h k ?_
  simp only [List.mem_filter, List.mem_range, Bool.and_eq_true]
  exact ⟨hk, hok, (inWin_documented_iff c _).2 ⟨hw.2, hw.1⟩⟩

end ties

/-- `NoTies` is satisfiable by a non-trivial arrangement: D18 (all in-window distances distinct) -/
example : NoTies (cfgOfPts ptsD18 30 0) := by
  have k1 : ∀ i, i < 6 → ∀ j, j < 6 → ∀ k, k < 6 →
      ((cfgOfPts ptsD18 30 0).lo < (cfgOfPts ptsD18 30 0).d i j ∧
      (cfgOfPts ptsD18 30 0).d i j ≤ (cfgOfPts ptsD18 30 0).hi ∧
      (cfgOfPts ptsD18 30 0).d i j = (cfgOfPts ptsD18 30 0).d i k) → j = k := by decide +kernel
  have k2 : ∀ i, i < 6 → ∀ j, j < 6 → ∀ k, k < 6 →
      ((cfgOfPts ptsD18 30 0).lo < (cfgOfPts ptsD18 30 0).d j i ∧
      (cfgOfPts ptsD18 30 0).d j i ≤ (cfgOfPts ptsD18 30 0).hi ∧
      (cfgOfPts ptsD18 30 0).d j i = (cfgOfPts ptsD18 30 0).d k i) → j = k := by decide +kernel
  exact ⟨fun i j k hi hj hk a b e => k1 i hi j hj k hk ⟨a, b, e⟩, fun i j k hi hj hk a b e => k2 i hi j hj k hk ⟨a, b, e⟩⟩

/-- and it is violated where it should be: two entry sites at the same distance 1 from one exit site -/
example : ¬ NoTies (cfgOfPts [((5, 0, 0), (0, 0, 0)), ((1, 0, 0), (9, 9, 9)), ((-1, 0, 0), (9, 9, 8))] 3 0) := by
  intro h
  have := h.1 0 1 2 (by decide) (by decide) (by decide) (by decide) (by decide) (by decide)
  exact absurd this (by decide)

end CryoCat.C19
