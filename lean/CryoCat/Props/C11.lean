import CryoCat.Lemmas.C11
import CryoCat.Lemmas.C11_Bytes
/-! C11 — property theorems: a 3-D array written by `cryomap.write` and read back by `cryomap.read`
keeps its `(x,y,z)` shape and voxels (float64 narrowed to float32); on disk x varies fastest and the
header `nx,ny,nz` is the array shape; `em2mrc`/`mrc2em` keep (or negate) every voxel and refuse to
overwrite.  All statements are for every shape (no cube assumption, no size bound). -/
namespace CryoCat.C11
variable {α : Type}

/-! The facts the translator regenerates from the source on every run (`Gen/C11`), at today's values. -/

theorem anchors_ok : Gen.C11.anchorsOk = true := rfl

/-- `write` transposes with `(2,1,0)`, only 3-D data, under the `transpose` flag (`_p0` = the first
positional parameter, the data; the translator also demands that this is the ONLY axis-permuting
expression of the function) -/
theorem write_axes_documented :
    Gen.C11.writeAxes = [2, 1, 0] ∧ Gen.C11.writeTransposeGuard = "transpose and _p0.ndim == 3" := ⟨rfl, rfl⟩

/-- `read` transposes files with `(2,1,0)` under the `transpose` flag -/
theorem read_axes_documented : Gen.C11.readAxes = [2, 1, 0] ∧ Gen.C11.readTransposeGuard = "transpose" := ⟨rfl, rfl⟩

/-- order of the steps of `write`; `byteorder` = big-endian data (what `read` returns for a big-endian MRC
file) are converted to little-endian before anything is handed to `mrcfile`/`emfile`, so the value-level
model below is independent of the byte order of the caller's array and every written file is
little-endian (`writeBytes`) -/
theorem write_steps_documented :
    Gen.C11.writeSteps = ["astype(data_type)", "byteorder", "transpose", "narrow", "dispatch"] ∧ Gen.C11.writePassesOverwrite = true := ⟨rfl, rfl⟩

/-- the only implicit conversion is float64 → float32 -/
theorem narrowing_documented :
    DType.ofName? Gen.C11.narrowFrom = some .f64 ∧ DType.ofName? Gen.C11.narrowTo = some .f32 := by decide

theorem write_exts_documented : Gen.C11.writeMrcExts = [".mrc", ".rec"] ∧ Gen.C11.writeEmExts = [".em"] := ⟨rfl, rfl⟩

theorem read_exts_documented :
    Gen.C11.readMrcExts = ["mrc", "ali", "rec", "st"] ∧ Gen.C11.readNumericSuffix = true ∧ Gen.C11.readEmExts = [".em"] :=
  ⟨rfl, rfl, rfl⟩

/-- `em2mrc`: input `.em`, output `.mrc`, default name = input minus 2 characters plus `mrc`,
inversion factor −1, plain `read(map_name)` / `write(data, output_name, overwrite=overwrite)`;
signature defaults `invert=False`, `overwrite=True` -/
theorem em2mrc_documented :
    em2mrcCfg = { inSuffix := ".em", outSuffix := ".mrc", cut := 2, append := "mrc", factor := -1,
                  defInvert := false, defOverwrite := true } ∧
    Gen.C11.em2mrcPlain = true := ⟨rfl, rfl⟩

theorem mrc2em_documented :
    mrc2emCfg = { inSuffix := ".mrc", outSuffix := ".em", cut := 3, append := "em", factor := -1,
                  defInvert := false, defOverwrite := true } ∧
    Gen.C11.mrc2emPlain = true := ⟨rfl, rfl⟩

/-- `write(data, name, transpose=True, data_type=None, overwrite=True)` -/
theorem write_defaults_documented :
    Gen.C11.writeSig = ["_p0", "_p1", "transpose=True", "data_type=None", "overwrite=True"] ∧
    Gen.C11.writeDefaultTranspose = true ∧ defaultDType Gen.C11.writeDefaultDataType = none ∧
    Gen.C11.writeDefaultDataType = "None" ∧ Gen.C11.writeDefaultOverwrite = true := ⟨rfl, rfl, by decide, rfl, rfl⟩

/-- `read(input_map, transpose=True, data_type=None)` -/
theorem read_defaults_documented :
    Gen.C11.readSig = ["_p0", "transpose=True", "data_type=None"] ∧
    Gen.C11.readDefaultTranspose = true ∧ defaultDType Gen.C11.readDefaultDataType = none ∧
    Gen.C11.readDefaultDataType = "None" := ⟨rfl, rfl, by decide, rfl⟩

/-- `em2mrc(map_name, invert=False, overwrite=True, output_name=None)`, same for `mrc2em` -/
theorem converter_defaults_documented :
    Gen.C11.em2mrcSig = ["_p0", "invert=False", "overwrite=True", "output_name=None"] ∧
    Gen.C11.mrc2emSig = ["_p0", "invert=False", "overwrite=True", "output_name=None"] ∧
    Gen.C11.em2mrcDefaultInvert = false ∧ Gen.C11.em2mrcDefaultOverwrite = true ∧ Gen.C11.em2mrcDefaultOutput = "None" ∧
    Gen.C11.mrc2emDefaultInvert = false ∧ Gen.C11.mrc2emDefaultOverwrite = true ∧ Gen.C11.mrc2emDefaultOutput = "None" :=
  ⟨rfl, rfl, rfl, rfl, rfl, rfl, rfl, rfl⟩

/-! The normalised bodies (docstrings / comments / exception messages dropped, `x * (-1)` written `-x`, required positional
parameters `_p0,_p1`, locals `_v0..` in order of first binding): the model mirrors these statement by
statement; any edit other than a renaming needs the model to be looked at again -/

theorem write_body_documented : Gen.C11.writeBody =
    ["if data_type is not None:\n    _p0 = _p0.astype(data_type)",
     "if _p0.dtype.byteorder == '>':\n    _p0 = _p0.astype(_p0.dtype.newbyteorder('<'))",
     "if transpose and _p0.ndim == 3:\n    _p0 = _p0.transpose(2, 1, 0)",
     "if _p0.dtype == np.float64:\n    _p0 = _p0.astype(np.float32)",
     "if _p1.endswith('.mrc') or _p1.endswith('.rec'):\n    mrcfile.write(name=_p1, data=_p0, overwrite=overwrite)\nelif _p1.endswith('.em'):\n    emfile.write(_p1, data=_p0, overwrite=overwrite)\nelse:\n    raise ValueError"] := rfl

theorem read_body_documented : Gen.C11.readBody =
    ["if isinstance(_p0, str):\n\n    def _v0(_v1):\n        _v2 = '\\\\.(mrc|ali|rec|st)(\\\\.\\\\d+)?$'\n        return bool(re.search(_v2, _v1))\n    if _v0(_p0):\n        _v3 = mrcfile.open(_p0).data\n    elif _p0.endswith('.em'):\n        _v3 = emfile.read(_p0)[1]\n    else:\n        raise ValueError\n    if transpose:\n        _v3 = _v3.transpose(2, 1, 0)\nelif isinstance(_p0, np.ndarray):\n    _v3 = np.array(_p0)\nelse:\n    raise ValueError",
     "_v3 = np.array(_v3, copy=True)",
     "if data_type is not None:\n    _v3 = _v3.astype(data_type)",
     "return _v3"] := rfl

theorem em2mrc_body_documented : Gen.C11.em2mrcBody =
    ["if not isinstance(_p0, str):\n    raise ValueError\nelif not _p0.endswith('.em'):\n    raise ValueError",
     "_v0 = read(_p0)",
     "if invert:\n    _v0 = -_v0",
     "if output_name is None:\n    output_name = _p0[:-2] + 'mrc'\nelif not output_name.endswith('.mrc'):\n    raise ValueError",
     "write(_v0, output_name, overwrite=overwrite)"] := rfl

theorem mrc2em_body_documented : Gen.C11.mrc2emBody =
    ["if not isinstance(_p0, str):\n    raise ValueError\nelif not _p0.endswith('.mrc'):\n    raise ValueError",
     "_v0 = read(_p0)",
     "if invert:\n    _v0 = -_v0",
     "if output_name is None:\n    output_name = _p0[:-3] + 'em'\nelif not output_name.endswith('.em'):\n    raise ValueError",
     "write(_v0, output_name, overwrite=overwrite)"] := rfl

/-- `invert_contrast` is not run by the correspondence check; its whole body is recorded instead
(read, `* -1`, write with the map's own dtype / `np.single` for float64) -/
theorem invert_contrast_body_documented : Gen.C11.invertContrastBody =
    ["_p0 = read(_p0)",
     "_v0 = -_p0",
     "if output_name is not None:\n    if _v0.dtype == np.float64:\n        _v1 = np.single\n    else:\n        _v1 = _v0.dtype\n    write(_v0, output_name, data_type=_v1)",
     "return _v0"] := rfl

/-! x-fastest layout: `(i,j,k) ↦ i + nx*(j + ny*k)` is a bijection of the box onto the payload. -/

theorem offset_lt {nx ny nz i j k : Nat} (hi : i < nx) (hj : j < ny) (hk : k < nz) :
    offsetXFastest nx ny i j k < nx * ny * nz := by
  rw [offset_eq_cidx]
  have := Layout.digits3_lt hk hj hi
  have e : nz * ny * nx = nx * ny * nz := by ac_rfl
  omega

theorem offset_injective {nx ny i j k i' j' k' : Nat} (hi : i < nx) (hj : j < ny) (hi' : i' < nx) (hj' : j' < ny)
    (h : offsetXFastest nx ny i j k = offsetXFastest nx ny i' j' k') : i = i' ∧ j = j' ∧ k = k' := by
  rw [offset_eq_cidx, offset_eq_cidx] at h
  obtain ⟨h2, h1⟩ := Layout.digit_inj hi hi' h
  obtain ⟨h4, h3⟩ := Layout.digit_inj hj hj' h2
  exact ⟨h1, h3, h4⟩

theorem offset_surjective {nx ny nz t : Nat} (ht : t < nx * ny * nz) :
    ∃ i j k, i < nx ∧ j < ny ∧ k < nz ∧ offsetXFastest nx ny i j k = t := by
  have e : nx * ny * nz = nz * ny * nx := by ac_rfl
  have hb := Layout.digits3_bounds (e ▸ ht : t < nz * ny * nx)
  exact ⟨t % nx, t / nx % ny, t / nx / ny, hb.2.2, hb.2.1, hb.1, by rw [offset_eq_cidx, Layout.digits3_encode]⟩

/-- consecutive payload elements differ in the x index first … -/
theorem x_fastest (nx ny i j k : Nat) : offsetXFastest nx ny (i + 1) j k = offsetXFastest nx ny i j k + 1 := by
  unfold offsetXFastest; omega

/-- … then in y (after a full row of `nx`) … -/
theorem y_second (nx ny j k : Nat) : offsetXFastest nx ny 0 (j + 1) k = offsetXFastest nx ny 0 j k + nx := by
  unfold offsetXFastest
  rw [show j + 1 + ny * k = (j + ny * k) + 1 by omega, Nat.mul_succ]; omega

/-- … and z is slowest (after a full slice of `nx*ny`) -/
theorem z_slowest (nx ny k : Nat) : offsetXFastest nx ny 0 0 (k + 1) = offsetXFastest nx ny 0 0 k + nx * ny := by
  unfold offsetXFastest
  simp only [Nat.zero_add, Nat.mul_succ, Nat.mul_add]

/-- "on disk the x index varies fastest with nx,ny,nz in the header matching the array shape", and
the voxel values are those of the array (converted by `conv`) -/
def SpecWrite (d : α) (conv : α → α) (a : Arr α) (f : MapFile α) : Prop :=
  f.nx = a.d0 ∧ f.ny = a.d1 ∧ f.nz = a.d2 ∧ f.data.size = f.nx * f.ny * f.nz ∧
  ∀ i j k, i < a.d0 → j < a.d1 → k < a.d2 →
    f.data[offsetXFastest f.nx f.ny i j k]? = some (conv (a.at d i j k))

theorem write_eq (cast : DType → α → α) (d : α) (a : Arr α) (src : DType) (name : Name) (dataType : Option DType)
    (h : a.WF) :
    write cast d a src name true dataType
      = (writeKind name).map (fun k => store k (outDType dataType src) ((transpose210 d a).map (convW cast dataType src))) := by
  simp only [write, write_axes_documented.1, permuteAxes_210, if_true, bind, Except.bind, pure, Except.pure]
  rw [transpose210_map d _ a h, map_map]
  cases writeKind name <;> rfl

/-- `write(..., transpose=False)` stores the array as it is (the array is then taken as `(z,y,x)`) -/
theorem write_eq_untransposed (cast : DType → α → α) (d : α) (a : Arr α) (src : DType) (name : Name) (dataType : Option DType) :
    write cast d a src name false dataType
      = (writeKind name).map (fun k => store k (outDType dataType src) (a.map (convW cast dataType src))) := by
  simp only [write, bind, Except.bind, pure, Except.pure, Bool.false_eq_true, if_false]
  rw [map_map]
  cases writeKind name <;> rfl

theorem specWrite_store (d : α) (conv : α → α) (a : Arr α) (k : Kind) (dt : DType) :
    SpecWrite d conv a (store k dt ((transpose210 d a).map conv)) := by
  refine ⟨rfl, rfl, rfl, ?_, ?_⟩
  · show ((transpose210 d a).data.map _).size = a.d0 * a.d1 * a.d2
    rw [Array.size_map, transpose210_size]; ac_rfl
  · intro i j k hi hj hk'
    show ((transpose210 d a).data.map _)[offsetXFastest a.d0 a.d1 i j k]? = _
    -- the x-fastest offset of `(i,j,k)` is the C-order index of `[k,j,i]` in the transposed array
    have hlt : (k * a.d1 + j) * a.d0 + i < (transpose210 d a).data.size := by
      rw [transpose210_size]; exact Layout.digits3_lt hk' hj hi
    rw [offset_eq_cidx, Array.getElem?_map, Array.getElem?_eq_getElem hlt, ← at_transpose210 d a k j i hk' hj hi,
      at_eq_getElem d (transpose210 d a) k j i hlt]
    rfl

/-- **Layout on disk** for every shape: header `nx,ny,nz` = array shape, payload of `nx*ny*nz`
voxels, voxel `(i,j,k)` at offset `i + nx*(j + ny*k)`; file type as the dtype rule says; format
chosen by the extension. -/
theorem write_spec (cast : DType → α → α) (d : α) (a : Arr α) (src : DType) (name : Name) (dataType : Option DType)
    (f : MapFile α) (h : a.WF) (hw : write cast d a src name true dataType = .ok f) :
    SpecWrite d (convW cast dataType src) a f ∧ f.dtype = outDType dataType src ∧ writeKind name = .ok f.kind := by
  rw [write_eq cast d a src name dataType h] at hw
  obtain ⟨k, hk, rfl⟩ := ok_of_map_eq_ok hw
  exact ⟨specWrite_store d _ a k _, rfl, hk⟩

/-- `write` succeeds exactly for names ending in `.mrc`, `.rec` (→ MRC) or `.em` (→ EM) -/
theorem write_ok_iff (cast : DType → α → α) (d : α) (a : Arr α) (src : DType) (name : Name) (dataType : Option DType)
    (h : a.WF) (tr : Bool) :
    (∃ f, write cast d a src name tr dataType = .ok f) ↔ ∃ k, writeKind name = .ok k := by
  cases tr
  · rw [write_eq_untransposed]; cases writeKind name <;> simp [Except.map]
  · rw [write_eq cast d a src name dataType h]; cases writeKind name <;> simp [Except.map]

theorem endsWith_append (base : Name) (s : String) : endsWith (base ++ s.toList) s = true :=
  List.isSuffixOf_iff_suffix.2 (List.suffix_append base s.toList)

theorem writeKind_mrc (base : Name) : writeKind (base ++ ".mrc".toList) = .ok .mrc := by
  simp only [writeKind, write_exts_documented.1, List.any_cons, endsWith_append, Bool.true_or, ↓reduceIte]
theorem writeKind_rec (base : Name) : writeKind (base ++ ".rec".toList) = .ok .mrc := by
  simp only [writeKind, write_exts_documented.1, List.any_cons, endsWith_append, Bool.true_or, Bool.or_true, ↓reduceIte]
theorem writeKind_em (base : Name) : writeKind (base ++ ".em".toList) = .ok .em := by
  simp [writeKind, Gen.C11.writeMrcExts, Gen.C11.writeEmExts, endsWith, List.isSuffixOf, List.isPrefixOf]
theorem readMrcExts_dotted : Gen.C11.readMrcExts.map (fun e => "." ++ e) = [".mrc", ".ali", ".rec", ".st"] := by decide +kernel

theorem readKind_mrc (base : Name) : readKind (base ++ ".mrc".toList) = .ok .mrc := by
  simp only [readKind, readMrcExts_dotted, read_exts_documented.2.1, ↓reduceIte, List.any_cons, endsWith_append, Bool.true_or]
theorem readKind_rec (base : Name) : readKind (base ++ ".rec".toList) = .ok .mrc := by
  simp only [readKind, readMrcExts_dotted, read_exts_documented.2.1, ↓reduceIte, List.any_cons, endsWith_append, Bool.true_or,
    Bool.or_true]
theorem readKind_em (base : Name) : readKind (base ++ ".em".toList) = .ok .em := by
  simp [readKind, stripNumeric, Gen.C11.readMrcExts, Gen.C11.readEmExts, Gen.C11.readNumericSuffix, endsWith, List.isSuffixOf, List.isPrefixOf]

theorem outDType_eq (dataType : Option DType) (src : DType) :
    outDType dataType src = if dataType.getD src = .f64 then .f32 else dataType.getD src := by
  simp only [outDType, narrowing_documented.1, narrowing_documented.2, Option.some.injEq, Option.getD_some]

theorem conv2_eq (cast : DType → α → α) (dataType : Option DType) (src : DType) :
    conv2 cast dataType src = if dataType.getD src = .f64 then cast .f32 else id := by
  simp only [conv2, narrowing_documented.1, narrowing_documented.2, Option.some.injEq, Option.getD_some]

theorem outDType_none (src : DType) : outDType none src = if src = .f64 then .f32 else src := outDType_eq none src

theorem outDType_some (t src : DType) : outDType (some t) src = if t = .f64 then .f32 else t := outDType_eq (some t) src

theorem outDType_ne_f64 (dataType : Option DType) (src : DType) : outDType dataType src ≠ .f64 := by
  rw [outDType_eq]
  split
  · decide
  · assumption

/-- without `data_type`, float32/int16/int8 voxels are written unchanged … -/
theorem convW_id (cast : DType → α → α) (src : DType) (h : src ≠ .f64) : convW cast none src = id := by
  funext v
  show conv2 cast none src v = v
  rw [conv2_eq]; exact congrFun (if_neg h) v

/-- … and float64 voxels are narrowed to float32 -/
theorem convW_f64 (cast : DType → α → α) : convW cast none .f64 = cast .f32 := by
  funext v
  show conv2 cast none .f64 v = _
  rw [conv2_eq]; rfl

/-- **`data_type` is applied to the array's own values, directly:** with an integer (or float32)
`data_type` the stored voxel is `cast t v` of the ORIGINAL voxel `v`, whatever the array's dtype —
in particular float64 data goes float64 → int (numpy: truncation toward zero), never through
float32 (2.99999999 ↦ 2, not 3). -/
theorem convW_some_direct (cast : DType → α → α) (t src : DType) (ht : t ≠ .f64) :
    convW cast (some t) src = cast t := by
  funext v
  show conv2 cast (some t) src (cast t v) = _
  rw [conv2_eq]; exact congrFun (if_neg ht) _

/-- `data_type=float64` is narrowed afterwards: float64 conversion, then float32 -/
theorem convW_some_f64 (cast : DType → α → α) (src : DType) (v : α) :
    convW cast (some .f64) src v = cast .f32 (cast .f64 v) := by
  show conv2 cast (some .f64) src (cast .f64 v) = _
  rw [conv2_eq]; rfl

/-- the checker decides the specification: it runs over the file's box `k < nz, j < ny, i < nx`, which the
header equalities make the array's box -/
theorem checkXFastest_iff [DecidableEq α] (d : α) (conv : α → α) (a : Arr α) (f : MapFile α) :
    checkXFastest d conv a f = true ↔ SpecWrite d conv a f := by
  simp only [checkXFastest, SpecWrite, Bool.and_eq_true, decide_eq_true_eq, List.all_eq_true, List.mem_range, and_assoc]
  constructor
  · rintro ⟨h1, h2, h3, h4, h5⟩
    exact ⟨h1, h2, h3, h4, fun i j k hi hj hk => h5 k (h3 ▸ hk) j (h2 ▸ hj) i (h1 ▸ hi)⟩
  · rintro ⟨h1, h2, h3, h4, h5⟩
    exact ⟨h1, h2, h3, h4, fun k hk j hj i hi => h5 i j k (h1 ▸ hi) (h2 ▸ hj) (h3 ▸ hk)⟩

theorem checkXFastest_sound [DecidableEq α] (d : α) (conv : α → α) (a : Arr α) (f : MapFile α)
    (h : checkXFastest d conv a f = true) : SpecWrite d conv a f := (checkXFastest_iff d conv a f).1 h

theorem checkXFastest_complete [DecidableEq α] (d : α) (conv : α → α) (a : Arr α) (f : MapFile α)
    (h : SpecWrite d conv a f) : checkXFastest d conv a f = true := (checkXFastest_iff d conv a f).2 h

theorem load_store (k : Kind) (dt : DType) (a : Arr α) : load (store k dt a) = a := rfl

theorem read_eq (cast : DType → α → α) (d : α) (name : Name) (f : MapFile α) (tr : Bool) (rdt : Option DType)
    (hr : readKind name = .ok f.kind) :
    read cast d name f tr rdt
      = .ok ((if tr then transpose210 d (load f) else load f).map (conv1 cast rdt), rdt.getD f.dtype) := by
  cases tr <;>
    simp only [read, hr, ne_eq, not_true_eq_false, if_false, read_axes_documented.1, permuteAxes_210, if_true,
      Bool.false_eq_true, bind, Except.bind, pure, Except.pure]

/-- **Round trip** (`transpose=True` on both sides, the default): for every shape and every name
the reader accepts for the container format the file really has (`hkind`; see `read_cross_format`), reading what
`write` wrote returns the same `(x,y,z)` shape and the voxels converted by `convW` (identity, or float64→float32),
then by the reader's own `data_type` if given. -/
theorem read_write (cast : DType → α → α) (d : α) (a : Arr α) (src : DType) (name name' : Name)
    (dataType rdt : Option DType) (f : MapFile α) (kr : Kind) (h : a.WF)
    (hw : write cast d a src name true dataType = .ok f) (hr : readKind name' = .ok kr) (hkind : f.kind = kr) :
    read cast d name' f true rdt
      = .ok (a.map (fun v => conv1 cast rdt (convW cast dataType src v)), rdt.getD (outDType dataType src)) := by
  subst hkind
  rw [write_eq cast d a src name dataType h] at hw
  obtain ⟨k, -, rfl⟩ := ok_of_map_eq_ok hw
  rw [read_eq cast d name' _ true rdt hr, if_pos rfl, load_store, store_dtype, ← transpose210_map d _ a h,
    transpose210_involutive d _ (map_WF _ a h), map_map]

/-- the three extensions of the property are read by the reader of the container they are written in -/
theorem kind_of_ext (base : Name) (ext : String) (hext : ext = ".mrc" ∨ ext = ".rec" ∨ ext = ".em") :
    ∃ kr, writeKind (base ++ ext.toList) = .ok kr ∧ readKind (base ++ ext.toList) = .ok kr := by
  rcases hext with e | e | e <;> subst e
  · exact ⟨_, writeKind_mrc base, readKind_mrc base⟩
  · exact ⟨_, writeKind_rec base, readKind_rec base⟩
  · exact ⟨_, writeKind_em base, readKind_em base⟩

/-- write and read under one name with default options, any voxel type: the voxels come back converted by
`write`'s own conversion, the type by its dtype rule -/
theorem roundtrip (cast : DType → α → α) (d : α) (a : Arr α) (src : DType) (base : Name) (ext : String)
    (hext : ext = ".mrc" ∨ ext = ".rec" ∨ ext = ".em") (h : a.WF) :
    ∃ f, write cast d a src (base ++ ext.toList) true none = .ok f ∧
      read cast d (base ++ ext.toList) f true none = .ok (a.map (convW cast none src), outDType none src) := by
  obtain ⟨kr, hw, hr⟩ := kind_of_ext base ext hext
  have hwr := write_eq cast d a src (base ++ ext.toList) none h
  rw [hw] at hwr
  exact ⟨_, hwr, read_write cast d a src _ _ none none _ kr h hwr hr rfl⟩

/-- **The property's first sentence, for `.mrc`, `.rec` and `.em`, default options.** Whatever the
shape, `write` succeeds and `read` returns the array itself with its dtype when the dtype is
float32/int16/int8 … -/
theorem roundtrip_same (cast : DType → α → α) (d : α) (a : Arr α) (src : DType) (base : Name) (ext : String)
    (hext : ext = ".mrc" ∨ ext = ".rec" ∨ ext = ".em") (h : a.WF) (hsrc : src ≠ .f64) :
    ∃ f, write cast d a src (base ++ ext.toList) true none = .ok f ∧
      read cast d (base ++ ext.toList) f true none = .ok (a, src) := by
  obtain ⟨f, hw, hr⟩ := roundtrip cast d a src base ext hext h
  refine ⟨f, hw, ?_⟩
  rw [hr, convW_id cast src hsrc, map_id', outDType_none, if_neg hsrc]

/-- … and the array narrowed to float32 when it is float64 -/
theorem roundtrip_f64 (cast : DType → α → α) (d : α) (a : Arr α) (base : Name) (ext : String)
    (hext : ext = ".mrc" ∨ ext = ".rec" ∨ ext = ".em") (h : a.WF) :
    ∃ f, write cast d a .f64 (base ++ ext.toList) true none = .ok f ∧
      read cast d (base ++ ext.toList) f true none = .ok (a.map (cast .f32), .f32) := by
  obtain ⟨f, hw, hr⟩ := roundtrip cast d a .f64 base ext hext h
  refine ⟨f, hw, ?_⟩
  rw [hr, convW_f64, outDType_none, if_pos rfl]

/-- the same with `transpose=False` on both sides -/
theorem read_write_untransposed (cast : DType → α → α) (d : α) (a : Arr α) (src : DType) (name name' : Name)
    (dataType rdt : Option DType) (f : MapFile α) (kr : Kind)
    (hw : write cast d a src name false dataType = .ok f) (hr : readKind name' = .ok kr) (hkind : f.kind = kr) :
    read cast d name' f false rdt
      = .ok (a.map (fun v => conv1 cast rdt (convW cast dataType src v)), rdt.getD (outDType dataType src)) := by
  subst hkind
  rw [write_eq_untransposed] at hw
  obtain ⟨k, -, rfl⟩ := ok_of_map_eq_ok hw
  rw [read_eq cast d name' _ false rdt hr, if_neg Bool.false_ne_true, load_store, store_dtype, map_map]

/-- a file written with the default `transpose=True` and read with `transpose=False` shows the
`(z,y,x)` array other software (and numpy C order) sees: element `[k,j,i]` is voxel `(i,j,k)` -/
theorem read_untransposed_of_write (cast : DType → α → α) (d : α) (a : Arr α) (src : DType) (name name' : Name)
    (dataType : Option DType) (f : MapFile α) (kr : Kind) (h : a.WF)
    (hw : write cast d a src name true dataType = .ok f) (hr : readKind name' = .ok kr) (hkind : f.kind = kr) :
    read cast d name' f false none
      = .ok (transpose210 d (a.map (convW cast dataType src)), outDType dataType src) := by
  subst hkind
  rw [write_eq cast d a src name dataType h] at hw
  obtain ⟨k, -, rfl⟩ := ok_of_map_eq_ok hw
  rw [read_eq cast d name' _ false none hr, if_neg Bool.false_ne_true, load_store, store_dtype, ← transpose210_map d _ a h,
    show conv1 cast none = id from rfl, map_id', Option.getD_none]

/-- **Container format.** The reader is chosen by the name; a file of the other container format is
refused, whatever the options: a volume written as `a.em` does not "round-trip" through the name
`a.mrc`. -/
theorem read_cross_format (cast : DType → α → α) (d : α) (name' : Name) (f : MapFile α) (kr : Kind)
    (tr : Bool) (rdt : Option DType) (hr : readKind name' = .ok kr) (hkind : f.kind ≠ kr) :
    read cast d name' f tr rdt = .error .badFormat := by
  simp only [read, hr, bind, Except.bind, ne_eq, hkind, not_false_eq_true, if_true]

/-- **Calls without keywords.** `write(a, p)` is `write(a, p, transpose=True, data_type=None)` and
`read(p)` is `read(p, transpose=True, data_type=None)` — by the signature defaults of the current
source (`write_defaults_documented`, `read_defaults_documented`); so the round-trip theorems above are
about the keyword-less calls too. -/
theorem writeKw_default (cast : DType → α → α) (d : α) (a : Arr α) (src : DType) (name : Name) :
    writeKw cast d a src name none none = write cast d a src name true none := by
  simp only [writeKw, write_defaults_documented.2.1, write_defaults_documented.2.2.1, Option.getD_none]

theorem readKw_default (cast : DType → α → α) (d : α) (name : Name) (f : MapFile α) :
    readKw cast d name f none none = read cast d name f true none := by
  simp only [readKw, read_defaults_documented.2.1, read_defaults_documented.2.2.1, Option.getD_none]

theorem writeKw_explicit (cast : DType → α → α) (d : α) (a : Arr α) (src : DType) (name : Name) (tr : Bool) (t : DType) :
    writeKw cast d a src name (some tr) (some t) = write cast d a src name tr (some t) := rfl

theorem checkSameVoxels_iff [DecidableEq α] (d : α) (conv : α → α) (a b : Arr α) :
    checkSameVoxels d conv a b = true ↔
      b.d0 = a.d0 ∧ b.d1 = a.d1 ∧ b.d2 = a.d2 ∧ b.WF ∧
      ∀ i j k, i < a.d0 → j < a.d1 → k < a.d2 → b.at d i j k = conv (a.at d i j k) := by
  simp only [checkSameVoxels, Arr.WF, Bool.and_eq_true, decide_eq_true_eq, List.all_eq_true, List.mem_range, and_assoc]
  constructor
  · rintro ⟨h1, h2, h3, h4, h5⟩
    exact ⟨h1, h2, h3, h4, fun i j k hi hj hk => h5 i (h1 ▸ hi) j (h2 ▸ hj) k (h3 ▸ hk)⟩
  · rintro ⟨h1, h2, h3, h4, h5⟩
    exact ⟨h1, h2, h3, h4, fun i hi j hj k hk => h5 i j k (h1 ▸ hi) (h2 ▸ hj) (h3 ▸ hk)⟩

theorem checkSameVoxels_sound [DecidableEq α] (d : α) (conv : α → α) (a b : Arr α)
    (h : checkSameVoxels d conv a b = true) :
    b.d0 = a.d0 ∧ b.d1 = a.d1 ∧ b.d2 = a.d2 ∧ b.WF ∧
    ∀ i j k, i < a.d0 → j < a.d1 → k < a.d2 → b.at d i j k = conv (a.at d i j k) := (checkSameVoxels_iff d conv a b).1 h

/-- so `a.map conv` meets the specification of `checkSameVoxels` against `a`: the checker is not vacuous -/
theorem map_at (d : α) (conv : α → α) (a : Arr α) (h : a.WF) (i j k : Nat) (hi : i < a.d0) (hj : j < a.d1) (hk : k < a.d2) :
    (a.map conv).at d i j k = conv (a.at d i j k) :=
  at_map d conv a i j k (h ▸ Layout.digits3_lt hi hj hk)

/-- inverting twice gives the map back, provided negating twice is the identity ON THE VOXELS OF THE MAP (IEEE sign flip:
always; two's complement: every value but the most negative one, which is not generated; the driver's `negIn` on voxels
of the map's own type) -/
theorem invert_invert (neg : α → α) (a : Arr α) (hneg : ∀ x ∈ a.data.toList, neg (neg x) = x) :
    applyFactor neg (-1) (applyFactor neg (-1) a) = a := by
  show (a.map neg).map neg = a
  rw [map_map]
  exact Arr.ext_data rfl rfl rfl
    ((Array.map_congr_left fun x hx => hneg x (Array.mem_toList_iff.2 hx)).trans (Array.map_id _))

/-- the hypothesis of `invert_invert` holds for the negation of integer voxels (`Int`), for every array -/
example (a : Arr Int) : applyFactor (fun x => -x) (-1) (applyFactor (fun x => -x) (-1) a) = a :=
  invert_invert _ a (fun x _ => Int.neg_neg x)

def FileWF (f : MapFile α) : Prop := f.data.size = f.nx * f.ny * f.nz

theorem lookup_put_self (fs : FS α) (n : Name) (f : MapFile α) : (fs.put n f).lookup n = some f := by
  simp [FS.put]

theorem lookup_put_other (fs : FS α) (n m : Name) (f : MapFile α) (h : m ≠ n) :
    (fs.put n f).lookup m = fs.lookup m := by
  have hb : (m == n) = false := by simpa using h
  simp only [FS.put, List.lookup_cons, hb]
  induction fs with
  | nil => rfl
  | cons e rest ih =>
    obtain ⟨e1, e2⟩ := e
    by_cases he : e1 = n
    · subst he
      simp only [List.filter_cons, bne_self_eq_false, Bool.false_eq_true, if_false, List.lookup_cons, hb]
      exact ih
    · have hne : (e1 != n) = true := by simpa using he
      simp only [List.filter_cons, hne, if_true, List.lookup_cons]
      cases m == e1 <;> simp [ih]

/-- the file a converter writes: same header dims, same format rule, the voxels of the input in
the same `(x,y,z)` places, negated when `invert` -/
def converted (cast : DType → α → α) (neg : α → α) (invert : Bool) (kout : Kind) (fin : MapFile α) : MapFile α :=
  { kind := kout, nx := fin.nx, ny := fin.ny, nz := fin.nz, dtype := outDType none fin.dtype,
    data := fin.data.map (fun v => convW cast none fin.dtype (if invert then neg v else v)) }

/-- **Converters, general form.** For a converter configuration with factor −1 (`em2mrc_documented`,
`mrc2em_documented`), an existing well-formed input file of the container format its name announces
(`hkind`), whose name passes the checks, and an
output name `out` accepted by `write`:
* `overwrite=False` and `out` exists → refused with `fileExists` (nothing is returned, so nothing changes);
* otherwise the new file system is the old one with `out` holding `converted …`. -/
theorem convert_spec (c : ConvCfg) (cast : DType → α → α) (d : α) (neg : α → α) (fs : FS α)
    (mapName out : Name) (invert overwrite : Bool) (outputName : Option Name) (fin : MapFile α) (kin kout : Kind)
    (hfac : c.factor = -1) (hin : endsWith mapName c.inSuffix = true) (hrk : readKind mapName = .ok kin)
    (hfs : fs.lookup mapName = some fin) (hkind : fin.kind = kin) (hwf : FileWF fin)
    (hout : outName c mapName outputName = .ok out) (hwk : writeKind out = .ok kout) :
    convert c cast d neg fs mapName invert overwrite outputName
      = if !overwrite && (fs.lookup out).isSome then .error .fileExists
        else .ok (fs.put out (converted cast neg invert kout fin)) := by
  subst hkind
  have hwf' : (load fin).WF := by
    show fin.data.size = fin.nz * fin.ny * fin.nx
    rw [hwf]; ac_rfl
  -- negating or not is one map over the voxels either way …
  have hinv : ∀ a : Arr α, (if invert then applyFactor neg c.factor a else a) = a.map (fun v => if invert then neg v else v) := by
    intro a
    cases invert
    · exact (map_id' a).symm
    · rw [if_pos rfl, applyFactor, if_pos hfac]; rfl
  -- … and `write` transposes back what `read` transposed, so the stored array is the file's own array, mapped
  have hwrite : write cast d ((transpose210 d (load fin)).map (fun v => if invert then neg v else v)) fin.dtype out true none
      = .ok (converted cast neg invert kout fin) := by
    rw [write_eq cast d _ fin.dtype out none (map_WF _ _ (transpose210_WF d _)), hwk,
      ← transpose210_map d _ _ hwf', transpose210_involutive d _ (map_WF _ _ hwf'), map_map]
    rfl
  simp only [convert, hin, Bool.not_true, Bool.false_eq_true, if_false, readFS, hrk, hfs, writeFS, hout,
    read_defaults_documented.2.1, read_defaults_documented.2.2.1, write_defaults_documented.2.1, write_defaults_documented.2.2.1,
    read_eq cast d mapName fin true none hrk, if_true, conv1, map_id', Option.getD_none, hinv, hwrite, bind, Except.bind,
    pure, Except.pure]

/-- default output name of `em2mrc`: `x.em → x.mrc` -/
theorem em2mrc_default_name (base : Name) :
    outName em2mrcCfg (base ++ ".em".toList) none = .ok (base ++ ".mrc".toList) := by
  simp [outName, em2mrc_documented.1, dropLast, List.take_append, List.take_of_length_le]

/-- default output name of `mrc2em`: `x.mrc → x.em` -/
theorem mrc2em_default_name (base : Name) :
    outName mrc2emCfg (base ++ ".mrc".toList) none = .ok (base ++ ".em".toList) := by
  simp [outName, mrc2em_documented.1, dropLast, List.take_append, List.take_of_length_le]

/-- an explicit output name must carry the output extension, otherwise the converter refuses -/
theorem outName_explicit (c : ConvCfg) (mapName o : Name) :
    outName c mapName (some o) = if endsWith o c.outSuffix then .ok o else .error .badOutput := rfl

/-- **`em2mrc x.em`** (default name): `x.mrc` is an MRC file with the same `nx,ny,nz` and every
voxel kept (negated when `invert`); refused when `x.mrc` exists and `overwrite=False`. -/
theorem em2mrc_spec (cast : DType → α → α) (d : α) (neg : α → α) (fs : FS α) (base : Name)
    (invert overwrite : Bool) (fin : MapFile α)
    (hfs : fs.lookup (base ++ ".em".toList) = some fin) (hkind : fin.kind = .em) (hwf : FileWF fin) :
    convert em2mrcCfg cast d neg fs (base ++ ".em".toList) invert overwrite none
      = if !overwrite && (fs.lookup (base ++ ".mrc".toList)).isSome then .error .fileExists
        else .ok (fs.put (base ++ ".mrc".toList) (converted cast neg invert .mrc fin)) :=
  convert_spec em2mrcCfg cast d neg fs _ _ invert overwrite none fin .em .mrc
    (by rw [em2mrc_documented.1]) (endsWith_append base ".em") (readKind_em base) hfs hkind hwf
    (em2mrc_default_name base) (writeKind_mrc base)

/-- **`mrc2em x.mrc`** (default name) -/
theorem mrc2em_spec (cast : DType → α → α) (d : α) (neg : α → α) (fs : FS α) (base : Name)
    (invert overwrite : Bool) (fin : MapFile α)
    (hfs : fs.lookup (base ++ ".mrc".toList) = some fin) (hkind : fin.kind = .mrc) (hwf : FileWF fin) :
    convert mrc2emCfg cast d neg fs (base ++ ".mrc".toList) invert overwrite none
      = if !overwrite && (fs.lookup (base ++ ".em".toList)).isSome then .error .fileExists
        else .ok (fs.put (base ++ ".em".toList) (converted cast neg invert .em fin)) :=
  convert_spec mrc2emCfg cast d neg fs _ _ invert overwrite none fin .mrc .em
    (by rw [mrc2em_documented.1]) (endsWith_append base ".mrc") (readKind_mrc base) hfs hkind hwf
    (mrc2em_default_name base) (writeKind_em base)

/-- **`em2mrc(p)` / `mrc2em(p)` without keywords** convert without inversion and overwrite an existing
output (signature defaults `invert=False`, `overwrite=True`). -/
theorem convertKw_default (c : ConvCfg) (cast : DType → α → α) (d : α) (neg : α → α) (fs : FS α) (mapName : Name)
    (hc : c = em2mrcCfg ∨ c = mrc2emCfg) :
    convertKw c cast d neg fs mapName none none none = convert c cast d neg fs mapName false true none := by
  rcases hc with e | e <;> subst e
  · simp only [convertKw, em2mrc_documented.1, Option.getD_none]
  · simp only [convertKw, mrc2em_documented.1, Option.getD_none]

/-- a float64 EM file is narrowed by the converter (MRC has no float64 mode; `write` narrows):
every voxel is `cast .f32` of the (negated) input voxel and the output type is float32 -/
theorem converted_voxel_f64 (cast : DType → α → α) (neg : α → α) (invert : Bool) (kout : Kind) (fin : MapFile α)
    (hdt : fin.dtype = .f64) (t : Nat) :
    (converted cast neg invert kout fin).data[t]? = (fin.data[t]?).map (fun v => cast .f32 (if invert then neg v else v)) ∧
    (converted cast neg invert kout fin).dtype = .f32 := by
  constructor
  · simp only [converted, Array.getElem?_map, hdt, convW_f64]
  · simp only [converted, hdt]; rfl

/-- in the converted file voxel `(i,j,k)` sits where it sat in the input file: same offset, value
kept / negated (file dtypes other than float64 are not narrowed) -/
theorem converted_voxel (cast : DType → α → α) (neg : α → α) (invert : Bool) (kout : Kind) (fin : MapFile α)
    (hdt : fin.dtype ≠ .f64) (t : Nat) :
    (converted cast neg invert kout fin).data[t]? = (fin.data[t]?).map (fun v => if invert then neg v else v) ∧
    (converted cast neg invert kout fin).dtype = fin.dtype := by
  constructor
  · simp only [converted, Array.getElem?_map, convW_id cast fin.dtype hdt]; rfl
  · simp only [converted, outDType_none, hdt, if_false]

theorem checkSameFileVoxels_iff [DecidableEq α] (conv : α → α) (f g : MapFile α) :
    checkSameFileVoxels conv f g = true ↔
      g.nx = f.nx ∧ g.ny = f.ny ∧ g.nz = f.nz ∧ FileWF g ∧ f.data.size = g.data.size ∧
      ∀ i j k, i < f.nx → j < f.ny → k < f.nz →
        g.data[offsetXFastest g.nx g.ny i j k]? = (f.data[offsetXFastest f.nx f.ny i j k]?).map conv := by
  simp only [checkSameFileVoxels, FileWF, Bool.and_eq_true, decide_eq_true_eq, List.all_eq_true, List.mem_range, and_assoc]
  constructor
  · rintro ⟨h1, h2, h3, h4, h4', h5⟩
    exact ⟨h1, h2, h3, h4, h4', fun i j k hi hj hk => h5 k (h3 ▸ hk) j (h2 ▸ hj) i (h1 ▸ hi)⟩
  · rintro ⟨h1, h2, h3, h4, h4', h5⟩
    exact ⟨h1, h2, h3, h4, h4', fun k hk j hj i hi => h5 i j k (h1 ▸ hi) (h2 ▸ hj) (h3 ▸ hk)⟩

theorem checkSameFileVoxels_sound [DecidableEq α] (conv : α → α) (f g : MapFile α)
    (h : checkSameFileVoxels conv f g = true) :
    g.nx = f.nx ∧ g.ny = f.ny ∧ g.nz = f.nz ∧ FileWF g ∧ f.data.size = g.data.size ∧
    ∀ i j k, i < f.nx → j < f.ny → k < f.nz →
      g.data[offsetXFastest g.nx g.ny i j k]? = (f.data[offsetXFastest f.nx f.ny i j k]?).map conv :=
  (checkSameFileVoxels_iff conv f g).1 h

/-- **The driver's converter checker is the theorem's `converted`:** it accepts the file
`convert_spec` says the converter writes (any voxel type, float64 narrowed, inversion on or off) … -/
theorem checkConverted_accepts [DecidableEq α] (cast : DType → α → α) (neg : α → α) (invert : Bool) (kout : Kind)
    (fin : MapFile α) (hwf : FileWF fin) :
    checkConverted cast neg invert fin (converted cast neg invert kout fin) = true := by
  simp only [checkConverted, Bool.and_eq_true, decide_eq_true_eq]
  -- `converted` keeps the header and maps the payload, so it has the input's voxels at the input's offsets
  exact ⟨(checkSameFileVoxels_iff _ fin _).2 ⟨rfl, rfl, rfl, (Array.size_map ..).trans hwf, (Array.size_map ..).symm,
    fun _ _ _ _ _ _ => Array.getElem?_map ..⟩, rfl⟩

/-- … and whatever it accepts has the input's `nx,ny,nz`, a full payload, the documented voxel type and
voxel `(i,j,k)` of the input, negated when `invert` and narrowed when float64, at offset `i + nx*(j + ny*k)` -/
theorem checkConverted_sound [DecidableEq α] (cast : DType → α → α) (neg : α → α) (invert : Bool) (fin fout : MapFile α)
    (h : checkConverted cast neg invert fin fout = true) :
    fout.nx = fin.nx ∧ fout.ny = fin.ny ∧ fout.nz = fin.nz ∧ FileWF fout ∧ fout.dtype = outDType none fin.dtype ∧
    ∀ i j k, i < fin.nx → j < fin.ny → k < fin.nz →
      fout.data[offsetXFastest fout.nx fout.ny i j k]?
        = (fin.data[offsetXFastest fin.nx fin.ny i j k]?).map (convVoxel cast neg invert fin.dtype) := by
  simp only [checkConverted, Bool.and_eq_true, decide_eq_true_eq] at h
  obtain ⟨h1, h2, h3, h4, _, h6⟩ := checkSameFileVoxels_sound _ fin fout h.1
  exact ⟨h1, h2, h3, h4, h.2, h6⟩

/-- **Completeness of the three other file/array checkers** (the converse of `checkSameVoxels_sound`,
`checkSameFileVoxels_sound`, `checkConverted_sound`): whatever meets the stated specification is accepted, so the checkers
run on the real code's arrays and files demand nothing beyond it. `checkConverted_sound` forgets the payload-size equality
the checker also tests; the completeness statement therefore lists it as a hypothesis (it follows from equal `nx,ny,nz`
when the INPUT file is well-formed too). -/
theorem checkSameVoxels_complete [DecidableEq α] (d : α) (conv : α → α) (a b : Arr α)
    (h : b.d0 = a.d0 ∧ b.d1 = a.d1 ∧ b.d2 = a.d2 ∧ b.WF ∧
      ∀ i j k, i < a.d0 → j < a.d1 → k < a.d2 → b.at d i j k = conv (a.at d i j k)) :
    checkSameVoxels d conv a b = true := (checkSameVoxels_iff d conv a b).2 h

theorem checkSameFileVoxels_complete [DecidableEq α] (conv : α → α) (f g : MapFile α)
    (h : g.nx = f.nx ∧ g.ny = f.ny ∧ g.nz = f.nz ∧ FileWF g ∧ f.data.size = g.data.size ∧
      ∀ i j k, i < f.nx → j < f.ny → k < f.nz →
        g.data[offsetXFastest g.nx g.ny i j k]? = (f.data[offsetXFastest f.nx f.ny i j k]?).map conv) :
    checkSameFileVoxels conv f g = true := (checkSameFileVoxels_iff conv f g).2 h

theorem checkConverted_complete [DecidableEq α] (cast : DType → α → α) (neg : α → α) (invert : Bool) (fin fout : MapFile α)
    (h : fout.nx = fin.nx ∧ fout.ny = fin.ny ∧ fout.nz = fin.nz ∧ FileWF fout ∧ fin.data.size = fout.data.size ∧
      fout.dtype = outDType none fin.dtype ∧
      ∀ i j k, i < fin.nx → j < fin.ny → k < fin.nz →
        fout.data[offsetXFastest fout.nx fout.ny i j k]?
          = (fin.data[offsetXFastest fin.nx fin.ny i j k]?).map (convVoxel cast neg invert fin.dtype)) :
    checkConverted cast neg invert fin fout = true := by
  obtain ⟨h1, h2, h3, h4, h4', hd, h5⟩ := h
  simp only [checkConverted, Bool.and_eq_true, decide_eq_true_eq]
  exact ⟨checkSameFileVoxels_complete _ fin fout ⟨h1, h2, h3, h4, h4', h5⟩, hd⟩

/-! The container formats down to the bytes (`Model/C11_Bytes`).

`Raw` = what the bytes say (container, byte order, element type, `nx ny nz`, one bit pattern per voxel);
`encodeMrc`/`encodeEm` lay it out (1024- / 512-byte header, payload x fastest, little- or big-endian),
`decodeMrc`/`decodeEm` read bytes back and refuse everything else.  The driver runs `decodeByContent` on
the bytes of every file the real code wrote and compares `encode (write ..)` with them. -/

/-- **decode ∘ encode = id (MRC)**: every `Raw` that `encodeMrc` can represent (`Raw.WF`: the element type has an
MRC mode, sizes below 2³¹, one word per voxel, words within their width), in either byte order -/
theorem decodeMrc_encodeMrc (r : Raw) (hk : r.kind = .mrc) (h : r.WF) : decodeMrc (encodeMrc r).toArray = some r := by
  obtain ⟨hc, hx, hy, hz, hlen, hw⟩ := h
  rw [hk] at hc
  have fwords := decodeWords_hdr 1024 (mrcHdrByte r) r.bigEndian r.code.width r.words hw
  have hsize := encodeMrc_size r
  rw [hlen] at fwords hsize
  exact decodeMrc_of_reads _ r hk hc hx hy hz hsize (encodeMrc_reads r (by omega) (by omega) (by omega)) fwords

/-- **decode ∘ encode = id (EM)** -/
theorem decodeEm_encodeEm (r : Raw) (hk : r.kind = .em) (h : r.WF) : decodeEm (encodeEm r).toArray = some r := by
  obtain ⟨hc, hx, hy, hz, hlen, hw⟩ := h
  rw [hk] at hc
  have fwords := decodeWords_hdr 512 (emHdrByte r) r.bigEndian r.code.width r.words hw
  have hsize := encodeEm_size r
  rw [hlen] at fwords hsize
  exact decodeEm_of_reads _ r hk hc hx hy hz hsize (encodeEm_reads r (by omega) (by omega) (by omega)) fwords

theorem decode_encode (r : Raw) (h : r.WF) : decodeAs r.kind (encode r).toArray = some r := by
  cases hk : r.kind with
  | mrc => simp only [decodeAs, encode, hk]; exact decodeMrc_encodeMrc r hk h
  | em => simp only [decodeAs, encode, hk]; exact decodeEm_encodeEm r hk h

/-- an EM file is never taken for an MRC file: there is no `'MAP '` at byte 208 of what `encodeEm` writes -/
theorem decodeMrc_encodeEm (r : Raw) : decodeMrc (encodeEm r).toArray = none :=
  decodeMrc_none_of_tag _ (by rw [encodeEm_byteAt r 208 (by decide)]; show (0 : UInt8) ≠ 77; decide)

/-- an MRC file (`nx < 2²⁴`) is never taken for an EM file: its first four bytes are `nx`, so either the machine
byte is unknown or the type code (byte 3) is 0 -/
theorem decodeEm_encodeMrc (r : Raw) (hx : r.nx < 2 ^ 24) : decodeEm (encodeMrc r).toArray = none := by
  apply decodeEm_none_of_code
  rw [encodeMrc_byteAt r 0 (by decide), encodeMrc_byteAt r 3 (by decide)]
  obtain ⟨k, be, code, nx, ny, nz, ws⟩ := r
  -- bytes 0..3 hold `nx`, whose most significant byte is 0: the fourth byte when little-endian, the first otherwise
  have hhi : nx / 256 / 256 / 256 % 256 = 0 := by
    rw [Nat.div_div_eq_div_mul, Nat.div_div_eq_div_mul, Nat.div_eq_of_lt hx]
  cases be
  · right; show Code.ofEmType? (UInt8.ofNat (nx / 256 / 256 / 256 % 256)).toNat = none; rw [hhi]; rfl
  · left; show emMachine? (UInt8.ofNat (nx / 256 / 256 / 256 % 256)) = none; rw [hhi]; rfl

/-- the decoder of the other container refuses what `encode` writes (`nx < 2²⁴`) -/
theorem decodeAs_encode_of_ne (r : Raw) (k : Kind) (hk : r.kind ≠ k) (hx : r.nx < 2 ^ 24) :
    decodeAs k (encode r).toArray = none := by
  cases hrk : r.kind <;> cases k
  · exact absurd hrk hk
  · simp only [decodeAs, encode, hrk]; exact decodeEm_encodeMrc r hx
  · simp only [decodeAs, encode, hrk]; exact decodeMrc_encodeEm r
  · exact absurd hrk hk

/-- **x fastest, at the byte level (MRC)**: the `width` bytes of voxel `(i,j,k)` start at byte
`1024 + width * (i + nx*(j + ny*k))` and are its bit pattern in the file's byte order -/
theorem encodeMrc_voxel_bytes (r : Raw) (i j k : Nat) (hi : i < r.nx) (hj : j < r.ny) (hk : k < r.nz)
    (hlen : r.words.length = r.nx * r.ny * r.nz) :
    ((encodeMrc r).drop (voxelByteOffset 1024 r.code.width r.nx r.ny i j k 0)).take r.code.width
      = wordBytes r.bigEndian r.code.width (r.words[offsetXFastest r.nx r.ny i j k]'(by rw [hlen]; exact offset_lt hi hj hk)) := by
  have := encodeWords_chunk_hdr 1024 (mrcHdrByte r) r.bigEndian r.code.width r.words
    (offsetXFastest r.nx r.ny i j k) (by rw [hlen]; exact offset_lt hi hj hk)
  rwa [Nat.mul_comm] at this

/-- the same for EM (header of 512 bytes) -/
theorem encodeEm_voxel_bytes (r : Raw) (i j k : Nat) (hi : i < r.nx) (hj : j < r.ny) (hk : k < r.nz)
    (hlen : r.words.length = r.nx * r.ny * r.nz) :
    ((encodeEm r).drop (voxelByteOffset 512 r.code.width r.nx r.ny i j k 0)).take r.code.width
      = wordBytes r.bigEndian r.code.width (r.words[offsetXFastest r.nx r.ny i j k]'(by rw [hlen]; exact offset_lt hi hj hk)) := by
  have := encodeWords_chunk_hdr 512 (emHdrByte r) r.bigEndian r.code.width r.words
    (offsetXFastest r.nx r.ny i j k) (by rw [hlen]; exact offset_lt hi hj hk)
  rwa [Nat.mul_comm] at this

/-- the header of what `encodeMrc` writes: `nx ny nz mode` in bytes 0–15, `mapc mapr maps = 1 2 3`, `nsymbt = 0`,
`'MAP '` and the machine stamp of the byte order (read back with `i32At`, the decoder's own accessor) -/
theorem encodeMrc_header (r : Raw) (h : r.WF) (hk : r.kind = .mrc) :
    let A := (encodeMrc r).toArray
    i32At r.bigEndian A 0 = r.nx ∧ i32At r.bigEndian A 4 = r.ny ∧ i32At r.bigEndian A 8 = r.nz ∧
    Code.ofMrcMode? (i32At r.bigEndian A 12) = some r.code ∧
    mrcStamp? (byteAt A 212) (byteAt A 213) = some r.bigEndian ∧ A.size = 1024 + r.nx * r.ny * r.nz * r.code.width := by
  obtain ⟨hc, hx, hy, hz, hlen, hw⟩ := h
  rw [hk] at hc
  obtain ⟨fnx, fny, fnz, fmode, -, -, -, -, -, fstamp⟩ := encodeMrc_reads r (by omega) (by omega) (by omega)
  exact ⟨fnx, fny, fnz, by rw [fmode]; exact mrcMode_roundtrip r.code hc, fstamp, by rw [encodeMrc_size, hlen]⟩

/-- every voxel of `f` is representable in the file's voxel type: its bit pattern has the width of the type and
converts back to the voxel (for the driver's IEEE-754 / two's-complement conversions `Drv.C11.toWord`/`ofWord`: the voxel
is a float32 / int16 / int8 value; a fact about the values, so a hypothesis of the byte-level theorems) -/
def Representable (toWord : DType → α → Nat) (ofWord : DType → Nat → α) (f : MapFile α) : Prop :=
  ∀ v ∈ f.data.toList, ofWord f.dtype (toWord f.dtype v) = v ∧ toWord f.dtype v < 256 ^ f.dtype.code.width

/-- the `Raw` of a file of the model is one `encode` can represent: for every file whose payload has `nx*ny*nz`
representable voxels, sizes below 2³¹ and a voxel type its container can hold (MRC has no float64 mode; `write` never
produces float64, `outDType_ne_f64`) -/
theorem toRaw_WF (toWord : DType → α → Nat) (ofWord : DType → Nat → α) (f : MapFile α) (hrep : Representable toWord ofWord f)
    (hWF : FileWF f) (hx : f.nx < 2 ^ 31) (hy : f.ny < 2 ^ 31) (hz : f.nz < 2 ^ 31) (hdt : f.dtype ≠ .f64) :
    (f.toRaw toWord).WF := by
  refine ⟨?_, hx, hy, hz, ?_, ?_⟩
  · -- float64 is excluded, every other voxel type has a code in both containers
    show (match f.kind with | .mrc => f.dtype.code.mrcMode? ≠ none | .em => f.dtype.code.emType? ≠ none)
    cases f.kind <;> cases hd : f.dtype <;> first | exact absurd hd hdt | exact fun h => nomatch h
  · show (f.data.toList.map (toWord f.dtype)).length = f.nx * f.ny * f.nz
    rw [List.length_map, Array.length_toList]; exact hWF
  · intro x hx'
    obtain ⟨v, hv, rfl⟩ := List.mem_map.1 hx'
    exact (hrep v hv).2

theorem toMapFile?_toRaw (toWord : DType → α → Nat) (ofWord : DType → Nat → α) (f : MapFile α)
    (hrep : Representable toWord ofWord f) : (f.toRaw toWord).toMapFile? ofWord = some f := by
  have hmap : (f.data.toList.map (toWord f.dtype)).map (ofWord f.dtype) = f.data.toList := by
    rw [List.map_map]
    exact (List.map_congr_left (fun v hv => (hrep v hv).1)).trans (List.map_id _)
  show (f.dtype.code.dtype?).map _ = _
  rw [dtype?_code, Option.map_some]
  show some (MapFile.mk f.kind f.nx f.ny f.nz f.dtype ((f.data.toList.map (toWord f.dtype)).map (ofWord f.dtype)).toArray) = _
  rw [hmap, Array.toArray_toList]

/-- **reading the bytes the model writes is reading the model's file**: the byte-level reader, given
`encode (f.toRaw ..)` under a name whose reader matches the container, behaves as `read` on `f` -/
theorem readBytes_encode (toWord : DType → α → Nat) (ofWord : DType → Nat → α) (cast : DType → α → α) (d : α)
    (name' : Name) (f : MapFile α) (tr : Bool) (rdt : Option DType)
    (hrep : Representable toWord ofWord f)
    (hWF : FileWF f) (hx : f.nx < 2 ^ 31) (hy : f.ny < 2 ^ 31) (hz : f.nz < 2 ^ 31) (hdt : f.dtype ≠ .f64)
    (hr : readKind name' = .ok f.kind) :
    readBytes ofWord cast d name' (encode (f.toRaw toWord)).toArray tr rdt = read cast d name' f tr rdt := by
  -- laid out as bytes and decoded again, `f` is the same `MapFile`
  simp only [readBytes, hr, bind, Except.bind]
  rw [show f.kind = (f.toRaw toWord).kind from rfl, decode_encode _ (toRaw_WF toWord ofWord f hrep hWF hx hy hz hdt),
    Option.bind_some, toMapFile?_toRaw toWord ofWord f hrep]

/-- **the container-format hypothesis of `read_cross_format`, proved on the bytes**: the bytes `write` produced
for an `.em` name, offered under a name the MRC reader takes (`.mrc`, `.rec`, `.st`, `.ali`, `.mrc.12` ..), are
refused, and vice versa (`nx < 2²⁴`), whatever the options -/
theorem readBytes_cross_format (toWord : DType → α → Nat) (ofWord : DType → Nat → α) (cast : DType → α → α) (d : α)
    (name' : Name) (f : MapFile α) (kr : Kind) (tr : Bool) (rdt : Option DType)
    (hr : readKind name' = .ok kr) (hkind : f.kind ≠ kr) (hx : f.nx < 2 ^ 24) :
    readBytes ofWord cast d name' (encode (f.toRaw toWord)).toArray tr rdt = .error .badFormat := by
  simp only [readBytes, hr, bind, Except.bind, decodeAs_encode_of_ne (f.toRaw toWord) kr hkind hx]
  rfl

/-- **Round trip through the bytes** (`transpose=True` on both sides): what `writeBytes` lays out on disk for an array
of sizes below 2³¹ whose written voxels are representable in the file's type, read by `readBytes` under any name whose
reader matches the container, is the array (voxels converted by `convW`, then by the reader's `data_type`) —
`read_write` with the file replaced by its bytes -/
theorem readBytes_writeBytes (toWord : DType → α → Nat) (ofWord : DType → Nat → α) (cast : DType → α → α) (d : α)
    (a : Arr α) (src : DType) (name name' : Name) (dataType rdt : Option DType) (k : Kind) (h : a.WF)
    (hrep : Representable toWord ofWord (store k (outDType dataType src) ((transpose210 d a).map (convW cast dataType src))))
    (h0 : a.d0 < 2 ^ 31) (h1 : a.d1 < 2 ^ 31) (h2 : a.d2 < 2 ^ 31)
    (hwk : writeKind name = .ok k) (hr : readKind name' = .ok k) :
    ∃ bs, writeBytes toWord cast d a src name true dataType = .ok bs ∧
      readBytes ofWord cast d name' bs.toArray true rdt
        = .ok (a.map (fun v => conv1 cast rdt (convW cast dataType src v)), rdt.getD (outDType dataType src)) := by
  have hw : write cast d a src name true dataType
      = .ok (store k (outDType dataType src) ((transpose210 d a).map (convW cast dataType src))) := by
    rw [write_eq cast d a src name dataType h, hwk]; rfl
  refine ⟨_, by simp only [writeBytes, hw]; rfl, ?_⟩
  -- the stored file has the array's shape as `nx,ny,nz` and a full payload (`specWrite_store`)
  rw [readBytes_encode toWord ofWord cast d name' _ true rdt hrep (specWrite_store d _ a k _).2.2.2.1 h0 h1 h2
    (outDType_ne_f64 dataType src) hr]
  exact read_write cast d a src name name' dataType rdt _ k h hw hr rfl

/-! Non-vacuity: concrete non-cubic inputs meeting the hypotheses. -/

/-- a 2×3×4 array whose values encode their own index -/
def demo : Arr Int := { d0 := 2, d1 := 3, d2 := 4, data := Array.ofFn (n := 24) (fun t => (t.val : Int) - 5) }

example : demo.WF := by decide +kernel
example : ∃ f, write (fun _ v => v) 0 demo .i16 "vol.rec".toList true none = .ok f ∧ f.nx = 2 ∧ f.ny = 3 ∧ f.nz = 4 ∧ f.kind = .mrc :=
  ⟨_, rfl, by decide +kernel⟩
example : readKind "vol.rec".toList = .ok .mrc := by decide +kernel
example : (write (fun _ v => v) 0 demo .i16 "vol.rec".toList true none).toOption.map (fun f => f.data[offsetXFastest 2 3 1 2 3]?)
    = some (some (demo.at 0 1 2 3)) := by decide +kernel
example : (write (fun _ v => v) 0 demo .i16 "vol.map".toList true none) = .error .badExt := by decide +kernel
example : checkXFastest 0 id demo (store .em .i16 (transpose210 0 demo)) = true := by
  have := checkXFastest_complete 0 id demo _ (specWrite_store 0 id demo .em .i16)
  rwa [map_id'] at this
example : checkXFastest 0 id demo (store .em .i16 demo) = false := by decide +kernel
/-- a volume written as `a.em` is refused through the name `a.mrc`; through `a.em` it comes back -/
example : (write (fun _ v => v) 0 demo .i16 "a.em".toList true none).toOption.map
    (fun f => (read (fun _ v => v) 0 "a.mrc".toList f true none, read (fun _ v => v) 0 "a.em".toList f true none))
    = some (.error .badFormat, .ok (demo, .i16)) := by
  obtain ⟨f, hw, hr⟩ :=
    roundtrip_same (fun _ v => v) 0 demo .i16 "a".toList ".em" (.inr (.inr rfl)) (by decide +kernel) (by decide)
  have hk : f.kind = .em :=
    Except.ok.inj ((write_spec _ 0 demo .i16 _ none f (by decide +kernel) hw).2.2.symm.trans (writeKind_em "a".toList))
  rw [show "a.em".toList = "a".toList ++ ".em".toList by decide +kernel,
    show "a.mrc".toList = "a".toList ++ ".mrc".toList by decide +kernel, hw]
  simp only [Except.toOption, Option.map_some, hr,
    read_cross_format _ 0 _ f .mrc true none (readKind_mrc "a".toList) (by rw [hk]; decide)]
/-- keyword-less calls -/
example : writeKw (fun _ v => v) 0 demo .i16 "vol.rec".toList none none = write (fun _ v => v) 0 demo .i16 "vol.rec".toList true none :=
  writeKw_default _ _ _ _ _
/-- a float64 EM file: the checker accepts the narrowed, negated conversion and rejects an un-negated one -/
example :
    let fin : MapFile Int := store .em .f64 (transpose210 0 demo)
    checkConverted (fun t v => if t = .f32 then v / 2 * 2 else v) (fun v => -v) true fin
      (converted (fun t v => if t = .f32 then v / 2 * 2 else v) (fun v => -v) true .mrc fin) = true ∧
    checkConverted (fun t v => if t = .f32 then v / 2 * 2 else v) (fun v => -v) true fin
      (converted (fun t v => if t = .f32 then v / 2 * 2 else v) (fun v => -v) false .mrc fin) = false := by
  dsimp only
  exact ⟨checkConverted_accepts _ _ _ _ _ (by unfold FileWF; decide +kernel), by decide +kernel⟩
/-- converter hypotheses are satisfiable: an existing output and `overwrite=False` is refused, otherwise negated -/
example :
    let fin : MapFile Int := store .em .i8 (transpose210 0 demo)
    let fs : FS Int := [("a.em".toList, fin), ("a.mrc".toList, fin)]
    FileWF fin ∧ fin.kind = .em ∧ fs.lookup "a.em".toList = some fin ∧
    convert em2mrcCfg (fun _ v => v) 0 (fun v => -v) fs "a.em".toList true false none = .error .fileExists ∧
    ((convert em2mrcCfg (fun _ v => v) 0 (fun v => -v) fs "a.em".toList true true none).toOption.bind
        (fun fs' => fs'.lookup "a.mrc".toList)).map (fun g => g.data[0]?) = some (some 5) := by
  unfold FileWF; decide +kernel

/-! Bytes: the hypotheses of the byte-level theorems are satisfiable, and the refusals are real. -/

/-- a 1×2×1 int16 volume holding 5 and −1 (pattern `FFFF`) -/
def demoRaw : Raw := ⟨.mrc, false, .i16, 1, 2, 1, [5, 65535]⟩
example : demoRaw.WF := ⟨by simp [demoRaw, Code.mrcMode?], by decide, by decide, by decide, by decide, by decide⟩
example : ({ demoRaw with kind := .em, bigEndian := true } : Raw).WF := ⟨by simp [demoRaw, Code.emType?], by decide, by decide, by decide, by decide, by decide⟩
/-- float64 has no MRC mode: such a `Raw` is outside `Raw.WF` (the theorem does not speak about it) -/
example : ¬ ({ demoRaw with code := .f64 } : Raw).WF := fun h => h.1 rfl
example : (encodeMrc demoRaw).length = 1024 + 4 := by simp [encodeMrc, mrcHeaderSize, length_encodeWords, demoRaw, Code.width]
example : wordBytes false 2 65535 = [255, 255] ∧ wordBytes true 4 258 = [0, 0, 1, 2] ∧ wordOf true [0, 0, 1, 2] = 258 := by decide
/-- voxels as bytes (`α := UInt8`, every file type at least one byte wide): `Representable` holds for every file -/
example (f : MapFile UInt8) : Representable (fun _ v => v.toNat) (fun _ w => UInt8.ofNat w) f := by
  intro v _
  refine ⟨by simp, ?_⟩
  have : v.toNat < 256 := v.toNat_lt
  cases f.dtype <;> simp [DType.code, Code.width] <;> omega

end CryoCat.C11
