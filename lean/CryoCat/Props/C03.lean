import CryoCat.Lemmas.C03
import CryoCat.Lemmas.C03_Ids
import CryoCat.Lemmas.C03_Fmt
/-! C03 — RELION ↔ cryoCAT conversion preserves each particle's pose and identity: property theorems
about `Model/C03` (the definitions the driver executes), translator obligations about `Gen/C03`. -/
namespace CryoCat.C03
open CryoCat
variable {α : Type}

/-! The `…_documented` theorems: the facts the translator regenerates from the source on every run (`Gen/C03`), at today's
values, are the documented convention. -/

theorem anchors_ok : Gen.C03.anchorsOk = true := rfl

/-- `convert_angles_to_relion`: `from_euler("ZXZ", [phi, theta, psi])`, `as_euler("ZYZ")`,
rot = −a, tilt = b, psi = −c -/
theorem export_call_documented :
    Gen.C03.exportAngleSource = ["phi", "theta", "psi"] ∧ Gen.C03.exportFromSeq = ['Z', 'X', 'Z'] ∧
    Gen.C03.exportToSeq = ['Z', 'Y', 'Z'] ∧
    Gen.C03.exportSlots = [("rlnAngleRot", true, 0), ("rlnAngleTilt", false, 1), ("rlnAnglePsi", true, 2)] :=
  ⟨rfl, rfl, rfl, rfl⟩

/-- `convert_angles_from_relion`: `from_euler("ZYZ", [rot, tilt, psi])`, `as_euler("zxz")`,
phi = −e₂, theta = −e₁, psi = −e₀ -/
theorem import_call_documented :
    Gen.C03.importAngleSource = ["rlnAngleRot", "rlnAngleTilt", "rlnAnglePsi"] ∧
    Gen.C03.importFromSeq = ['Z', 'Y', 'Z'] ∧ Gen.C03.importToSeq = ['z', 'x', 'z'] ∧
    Gen.C03.importSlots = [("phi", true, 2), ("theta", true, 1), ("psi", true, 0)] :=
  ⟨rfl, rfl, rfl, rfl⟩

/-- the signature defaults the adapters rely on when a keyword is omitted: export version 3.1 (`default_version`, and the
`self.version = 3.1` fallback of `create_relion_df`), `pixel_size = 1.0` / `binning = 1.0` / `write_optics = False` /
`relion_version = 3.1` for the converters, `write_optics = True` for `write_out`, empty name formats, no original entries -/
theorem defaults_documented :
    Gen.C03.defaults =
      ["RelionMotl.default_version=3.1",
       "RelionMotl.__init__(input_motl=None,version=None,pixel_size=None,binning=None,optics_data=None)",
       "RelionMotl.create_relion_df(tomo_format='',subtomo_format='',use_original_entries=False,keep_all_entries=False,version=None,add_object_id=False,add_subunit_id=False,binning=None,pixel_size=None,adapt_object_attr=False)",
       "RelionMotl.write_out(write_optics=True,tomo_format='',subtomo_format='',use_original_entries=False,keep_all_entries=False,version=None,add_object_id=False,add_subunit_id=False,binning=None,pixel_size=None,optics_data=None)",
       "emmotl2relion(output_motl_path=None,tomo_format='',subtomo_format='',relion_version=3.1,pixel_size=1.0,binning=1.0,flip_handedness=False,tomo_dim=None,write_optics=False,optics_data=None,add_object_id=False,add_subunit_id=False)",
       "relion2emmotl(output_motl_path=None,relion_version=None,pixel_size=None,binning=None,update_coordinates=False,flip_handedness=False,tomo_dim=None)",
       "stopgap2relion(output_motl_path=None,tomo_format='',subtomo_format='',relion_version=3.1,pixel_size=1.0,binning=1.0,flip_handedness=False,tomo_dim=None,write_optics=False,optics_data=None,add_object_id=False,add_subunit_id=False)",
       "relion2stopgap(output_motl_path=None,update_coordinates=False,reset_index=False)",
       "RelionMotl.prepare_particles_data(tomo_format='',subtomo_format='',version=None,pixel_size=None)",
       "RelionMotl.prepare_optics_data(use_original_entries=True,optics_data=None,version=None)",
       "RelionMotl.create_final_output(optics_df=None,version=None)"] ∧
    Gen.C03.exportVersionFallback = 31 := ⟨rfl, rfl⟩

/-- `set_pixel_size` takes the `rlnPixelSize` column as it is — one pixel size per row (not its first entry) -/
theorem pixel_size_per_row_documented : Gen.C03.pixelSizeFromColumn = "self.relion_df['rlnPixelSize'].values" := rfl

/-- the bodies of the 28 functions the conversion goes through (incl. the factory `Motl.load`) (docstrings, comments, type
annotations and the text of exception / warning / log messages dropped; locals renamed by binding occurrence, discards
merged — so a rename, a type hint or a reworded message changes nothing) are the reviewed ones: branches no generated
input reaches (multi-group optics, numeric name cells, …) cannot change unnoticed. This is an equality of digests, not a
statement about behaviour;
the normalised bodies are in the evidence (`body:<function>`) and a changed body fails there naming the statement. -/
theorem bodies_documented :
    Gen.C03.bodyDigests =
      [("RelionMotl.set_pixel_size", "cd53bdb29134c160a510"),
       ("RelionMotl.set_version", "35d3dc0cf51e83c4ca7e"),
       ("RelionMotl.get_version_from_file", "f32c676e1d521b4f3601"),
       ("RelionMotl.convert_angles_from_relion", "51d6b0352c0f1037b8a6"),
       ("RelionMotl.convert_angles_to_relion", "c180a7a0cfb16f91e1a1"),
       ("RelionMotl.convert_shifts", "4fda4c3f584c6a1c9544"),
       ("RelionMotl.parse_tomo_id", "9509a7885857b17f53dd"),
       ("RelionMotl.parse_subtomo_id", "46907eb095160cf307f7"),
       ("RelionMotl.convert_to_motl", "640bcfd8a6893abe3549"),
       ("RelionMotl.adapt_original_entries", "0ca7eb237685fa5b3211"),
       ("Motl.get_coordinates", "e3cb48df81065e87cb32"),
       ("Motl.get_angles", "f4be21b1166c0c9e5f82"),
       ("emmotl2relion", "1c34729ae8e6fe45e675"),
       ("relion2emmotl", "3a72b6332ec5e518e532"),
       ("stopgap2relion", "1756133e4ec8e86ade22"),
       ("relion2stopgap", "0950b80545c99734e1a9"),
       ("RelionMotl.__init__", "864eeb9d483c83a319f3"),
       ("RelionMotl.read_in", "2fc8cefe336ae15a138c"),
       ("RelionMotl.set_version_specific_names", "5b8f37e5f907f7c4c889"),
       ("RelionMotl.get_version_specific_names", "4db2210005d40ecac885"),
       ("RelionMotl.create_particles_data", "956514c4140fe33faeee"),
       ("RelionMotl.prepare_optics_data", "45829e896a26adb534b6"),
       ("RelionMotl.prepare_particles_data", "d9ce4e58767c007dd61c"),
       ("RelionMotl.create_final_output", "0dff659bac8eece3fdc6"),
       ("RelionMotl.create_relion_df", "66126693ca6c8b3baa27"),
       ("RelionMotl.write_out", "bbdd6b2a8ddc0e93ce9b"),
       ("Motl.assign_column", "869bcbd14a2ecc04d20d"),
       ("Motl.load", "0da0dd47b8eb310b03c0")] := rfl

/-- **nothing is copied from the particle table into a RELION frame as a pandas Series** (which would be aligned on the row
labels and pair a particle with the name / id of another row as soon as the labels are not 0..n−1 — after `remove_feature`,
a sort, or when the RELION table handed in was filtered): every `relion_df[...] = … self.df[...] …` of
`prepare_particles_data`, `create_relion_df` and `convert_to_motl` takes an array (`.values` / `.to_numpy()`). The model is
positional (row i of the particle list ↦ row i of the RELION table), so this is what ties it to the code on such lists. -/
theorem filled_by_position_documented :
    Gen.C03.filledByPosition =
      [("prepare_particles_data:tomo_name", true), ("prepare_particles_data:tomo_id", true),
       ("prepare_particles_data:subtomo_name", true), ("prepare_particles_data:tomo_id", true),
       ("prepare_particles_data:subtomo_id", true), ("create_relion_df:rlnClassNumber", true),
       ("create_relion_df:ccObjectName", true), ("create_relion_df:ccSubunitName", true),
       ("convert_to_motl:ccSubtomoID", true)] := rfl

/-- the `version` keyword of `write_out` reaches every stage of the export — the columns (`create_relion_df` →
`prepare_particles_data`), the optics table and the block layout (`create_final_output`) — so the version the model is
run with is the version of the whole file, whichever way the caller gave it -/
theorem version_forwarded_documented :
    Gen.C03.versionForwarded =
      [("write_out->create_relion_df", "version"), ("write_out->prepare_optics_data", "version"),
       ("write_out->create_final_output", "version"), ("create_relion_df->prepare_particles_data", "version")] := rfl

section ring
variable [CommRing α]

/-- **Export angles.** Whatever triple scipy's `as_euler("ZYZ")` returns for the matrix it was given
(only its post-condition is assumed), the model does not fail and the exported (rot, tilt, psi), read as RELION's
intrinsic ZYZ rotation, is exactly the transpose of the particle's zxz rotation matrix — for every orientation
(gimbal lock and non-canonical angles included: nothing is assumed about the angles at all). -/
theorem export_is_transpose (asEuler : M3 α → Ang3 α) (ang : Ang3 α)
    (hpost : ∀ F, exportFed ang = some F → eulerMat Gen.C03.exportToSeq (asEuler F) = some F) :
    ∃ r, exportAngles asEuler ang = some r ∧ relionMat r = (particleMat ang).transpose := by
  have hp := hpost _ (exportFed_eq ang)
  rw [show Gen.C03.exportToSeq = ['Z', 'Y', 'Z'] from rfl, eulerMat_ZYZ] at hp
  refine ⟨_, exportAngles_eq asEuler ang, ?_⟩
  rw [relionMat_eq, particleMat_eq]
  simp only [Ang.neg]
  rw [ZYZ_neg_outer, Option.some.inj hp, Qy_ZXZ]

/-- **Export angles give the inverse rotation** (the statement of the property): for angles with
`c² + s² = 1`, RELION's rotation times the particle's rotation is the identity, on both sides. -/
theorem export_is_inverse (asEuler : M3 α → Ang3 α) (ang : Ang3 α) (hu : ang.Unit)
    (hpost : ∀ F, exportFed ang = some F → eulerMat Gen.C03.exportToSeq (asEuler F) = some F) :
    ∃ r, exportAngles asEuler ang = some r ∧
      relionMat r * particleMat ang = M3.one ∧ particleMat ang * relionMat r = M3.one := by
  obtain ⟨r, hr, ht⟩ := export_is_transpose asEuler ang hpost
  exact ⟨r, hr, by rw [ht]; exact (particleMat_isRot ang hu).inv⟩

/-- **Import angles.** From the post-condition of `as_euler("zxz")` alone, the model does not fail and the stored
(phi, theta, psi) describe exactly the transpose of RELION's ZYZ rotation matrix. -/
theorem import_is_transpose (asEuler : M3 α → Ang3 α) (rln : Ang3 α)
    (hpost : ∀ F, importFed rln = some F → eulerMat Gen.C03.importToSeq (asEuler F) = some F) :
    ∃ q, importAngles asEuler rln = some q ∧ particleMat q = (relionMat rln).transpose := by
  have hp := hpost _ (importFed_eq rln)
  rw [show Gen.C03.importToSeq = ['z', 'x', 'z'] from rfl, eulerMat_zxz] at hp
  refine ⟨_, importAngles_eq asEuler rln, ?_⟩
  rw [particleMat_eq]
  simp only [Ang.neg]
  rw [← zxz_transpose, Option.some.inj hp]

/-- **Import angles give the inverse rotation.** -/
theorem import_is_inverse (asEuler : M3 α → Ang3 α) (rln : Ang3 α) (hu : rln.Unit)
    (hpost : ∀ F, importFed rln = some F → eulerMat Gen.C03.importToSeq (asEuler F) = some F) :
    ∃ q, importAngles asEuler rln = some q ∧
      particleMat q * relionMat rln = M3.one ∧ relionMat rln * particleMat q = M3.one := by
  obtain ⟨q, hq, ht⟩ := import_is_transpose asEuler rln hpost
  exact ⟨q, hq, by rw [ht]; exact (relionMat_isRot rln hu).inv⟩

/-- **Export followed by import returns the same orientation** (as a rotation matrix, exactly), for
any two Euler-angle extractors that meet their post-conditions. -/
theorem export_import_orientation (asE1 asE2 : M3 α → Ang3 α) (ang : Ang3 α)
    (h1 : ∀ F, exportFed ang = some F → eulerMat Gen.C03.exportToSeq (asE1 F) = some F)
    (h2 : ∀ r F, exportAngles asE1 ang = some r → importFed r = some F → eulerMat Gen.C03.importToSeq (asE2 F) = some F) :
    ∃ r q, exportAngles asE1 ang = some r ∧ importAngles asE2 r = some q ∧ particleMat q = particleMat ang := by
  obtain ⟨r, hr, hrt⟩ := export_is_transpose asE1 ang h1
  obtain ⟨q, hq, hqt⟩ := import_is_transpose asE2 r (fun F hF => h2 r F hr hF)
  exact ⟨r, q, hr, hq, by rw [hqt, hrt, M3.transpose_transpose]⟩

end ring

/-- the three column lists of `RelionMotl` are the documented RELION 3.0 / 3.1 / 4.0 tables -/
theorem columns_documented :
    Gen.C03.columnsV30 = ["rlnMicrographName", "rlnCoordinateX", "rlnCoordinateY", "rlnCoordinateZ", "rlnAngleRot",
      "rlnAngleTilt", "rlnAnglePsi", "rlnImageName", "rlnPixelSize", "rlnRandomSubset", "rlnOriginX", "rlnOriginY",
      "rlnOriginZ", "rlnClassNumber"] ∧
    Gen.C03.columnsV31 = ["rlnMicrographName", "rlnCoordinateX", "rlnCoordinateY", "rlnCoordinateZ", "rlnAngleRot",
      "rlnAngleTilt", "rlnAnglePsi", "rlnImageName", "rlnPixelSize", "rlnOpticsGroup", "rlnGroupNumber",
      "rlnOriginXAngst", "rlnOriginYAngst", "rlnOriginZAngst", "rlnClassNumber", "rlnRandomSubset"] ∧
    Gen.C03.columnsV4 = ["rlnCoordinateX", "rlnCoordinateY", "rlnCoordinateZ", "rlnAngleRot", "rlnAngleTilt",
      "rlnAnglePsi", "rlnTomoName", "rlnTomoParticleName", "rlnRandomSubset", "rlnOpticsGroup", "rlnOriginXAngst",
      "rlnOriginYAngst", "rlnOriginZAngst", "rlnGroupNumber", "rlnClassNumber"] :=
  ⟨rfl, rfl, rfl⟩

/-- coordinates, class and shift columns are paired as documented, in both directions -/
theorem column_pairs_documented :
    Gen.C03.coordColumns = ["rlnCoordinateX", "rlnCoordinateY", "rlnCoordinateZ"] ∧
    Gen.C03.coordTerms = [["x", "y", "z"], ["shift_x", "shift_y", "shift_z"]] ∧
    Gen.C03.importCoordPairs = [("x", "rlnCoordinateX"), ("y", "rlnCoordinateY"), ("z", "rlnCoordinateZ")] ∧
    Gen.C03.shiftFields = ["shift_x", "shift_y", "shift_z"] ∧
    Gen.C03.classPair = ("class", "rlnClassNumber") :=
  ⟨rfl, rfl, rfl, rfl, rfl⟩

/-- version dispatch of `get_version_specific_names`: ≤ 3.0 → pixel origins, `data_`; 3.1 → Ångström origins,
`data_particles`, micrograph/image names; everything above → Ångström origins, `data_particles`, tomo names.
For every version number (in tenths), not only the three tested ones. -/
theorem version_names (v : Nat) :
    versionNames v = some
      (if v ≤ 30 then ⟨"rlnMicrographName", "rlnImageName", ["rlnOriginX", "rlnOriginY", "rlnOriginZ"], "data_"⟩
       else if v = 31 then ⟨"rlnMicrographName", "rlnImageName", ["rlnOriginXAngst", "rlnOriginYAngst", "rlnOriginZAngst"], "data_particles"⟩
       else ⟨"rlnTomoName", "rlnTomoParticleName", ["rlnOriginXAngst", "rlnOriginYAngst", "rlnOriginZAngst"], "data_particles"⟩) := by
  unfold versionNames Gen.C03.nameBranches
  by_cases h1 : v ≤ 30
  · simp [versionNamesIn, cmpVer_le, h1]
  · by_cases h2 : v = 31
    · simp [versionNamesIn, cmpVer_le, cmpVer_eq, h2]
    · simp [versionNamesIn, cmpVer_le, cmpVer_eq, h1, h2]

/-- the file-version detection table of `get_version_from_file` -/
theorem file_versions_documented :
    Gen.C03.fileVersions = [("data_", 30), ("data_particles+tomo", 40), ("data_particles", 31)] := rfl

/-- the half-set renumbering loop of `parse_subtomo_id` is, statement for statement, the loop that `renumber` /
`renumberStep` model (normalised source text; any edit of the loop breaks this obligation) -/
theorem renumber_loop_documented :
    Gen.C03.renumberSkeleton =
      ["'rlnRandomSubset'inrelion_df.columnsandrelion_df['rlnRandomSubset'].isin([1,2]).all()",
       "halfset_num=relion_df['rlnRandomSubset'].values%2", "c=1ifhalfset_num[0]==1else2", "subtomo_id_num=[c]",
       "foriinrange(1,self.df.shape[0]):;ifc%2==1andhalfset_num[i]==1or(c%2==0andhalfset_num[i]==0):;c+=2;else:;c+=1;subtomo_id_num.append(c)",
       "self.df['subtomo_id']=subtomo_id_num"] := rfl

/-- where the numbers sit in a name: first number = tomogram, second = subtomogram (≤ 3.1), whole last
component = subtomogram (≥ 4.0); half-set table: even → 2, odd → 1; export writes zero origins and adds
the shift to the position; import negates the origin and divides it by the pixel size from 3.1 on -/
theorem scalar_anchors_documented :
    Gen.C03.tomoNumberIndex = 0 ∧ Gen.C03.subtomoNumberIndex = 1 ∧ Gen.C03.subtomoWholeCmp = ">=" ∧
    Gen.C03.subtomoWholeThr = 40 ∧ Gen.C03.halfsetByParity = [(0, 2), (1, 1)] ∧ Gen.C03.exportOriginZero = true ∧
    Gen.C03.coordOp = "+" ∧ Gen.C03.shiftNegated = true ∧ Gen.C03.shiftScaleCmp = ">=" ∧
    Gen.C03.shiftScaleThr = 31 ∧ Gen.C03.shiftScaleOp = "/" :=
  ⟨rfl, rfl, rfl, rfl, rfl, rfl, rfl, rfl, rfl, rfl, rfl⟩

/-- the version test of `convert_shifts` never fails and is `version ≥ 3.1` -/
theorem origin_in_angstrom_total (v : Nat) : originInAngstrom v = some (decide (31 ≤ v)) := cmpVer_ge v 31

/-- `set_version` column sniffing: the rules of the source are the documented ones -/
theorem sniff_documented :
    Gen.C03.versionSniff = [([["rlnTomoName", "rlnTomoParticleName"]], 40),
      ([["rlnMicrographName"], ["rlnOriginXAngst"]], 31), ([["rlnMicrographName"], ["rlnOriginX"]], 30)] ∧
    Gen.C03.versionSniffDefault = 31 := ⟨rfl, rfl⟩

/-- **version detection from column names**: a table with a tomo-name or tomo-particle-name column is 4.0;
otherwise micrograph name + Ångström origins is 3.1, micrograph name + pixel origins is 3.0; anything else 3.1 -/
theorem sniff_version (cols : List String) :
    sniffVersion cols =
      if cols.contains "rlnTomoName" || cols.contains "rlnTomoParticleName" then 40
      else if cols.contains "rlnMicrographName" && cols.contains "rlnOriginXAngst" then 31
      else if cols.contains "rlnMicrographName" && cols.contains "rlnOriginX" then 30
      else 31 := by
  simp only [sniffVersion, Gen.C03.versionSniff, sniffVersionIn, Gen.C03.versionSniffDefault, List.all_cons, List.all_nil,
    List.any_cons, List.any_nil, Bool.or_false, Bool.and_true]

/-- the detected version agrees with the names each version uses: tables carrying the tomo / subtomo name column and
the origin columns of version 3.0, 3.1, 4.0 (`version_names`) are detected as that version -/
theorem sniff_matches_names (cols : List String) :
    (cols.contains "rlnTomoParticleName" = true → sniffVersion cols = 40) ∧
    (cols.contains "rlnTomoName" = false → cols.contains "rlnTomoParticleName" = false → cols.contains "rlnMicrographName" = true →
      cols.contains "rlnOriginXAngst" = true → sniffVersion cols = 31) ∧
    (cols.contains "rlnTomoName" = false → cols.contains "rlnTomoParticleName" = false → cols.contains "rlnMicrographName" = true →
      cols.contains "rlnOriginXAngst" = false → cols.contains "rlnOriginX" = true → sniffVersion cols = 30) := by
  rw [sniff_version]
  refine ⟨fun h => ?_, fun h1 h2 h3 h4 => ?_, fun h1 h2 h3 h4 h5 => ?_⟩ <;> simp_all

section field
variable [_root_.Field α]

theorem exportPose_of_angles (asEuler : M3 α → Ang3 α) (p : Pose α) {a : Ang3 α} (h : exportAngles asEuler p.ang = some a) :
    exportPose asEuler p = some ⟨p.x + p.sx, p.y + p.sy, p.z + p.sz, 0, 0, 0, a⟩ := by
  unfold exportPose; rw [h]; rfl

/-- **Export position**: the model does not fail, rlnCoordinate is the complete position x + shift, the origin shift is zero -/
theorem export_coord (asEuler : M3 α → Ang3 α) (p : Pose α) :
    ∃ r, exportPose asEuler p = some r ∧ r.cx = p.x + p.sx ∧ r.cy = p.y + p.sy ∧ r.cz = p.z + p.sz ∧
      r.ox = 0 ∧ r.oy = 0 ∧ r.oz = 0 :=
  ⟨_, exportPose_of_angles asEuler p (exportAngles_eq asEuler p.ang), rfl, rfl, rfl, rfl, rfl, rfl⟩

/-- the shift conversion never fails (every version number, every pixel size) -/
theorem import_shift_total (v : Nat) (px o : α) :
    importShift v px o = some (if 31 ≤ v then -o / px else -o) := by
  unfold importShift
  rw [origin_in_angstrom_total]
  by_cases h : 31 ≤ v
  · rw [decide_eq_true h, if_pos h]; rfl
  · rw [decide_eq_false h, if_neg h]; rfl

/-- **Import shift**, RELION 3.0 (pixels): shift = −origin -/
theorem import_shift_pixels (v : Nat) (hv : v ≤ 30) (px o : α) : importShift v px o = some (-o) := by
  rw [import_shift_total, if_neg (by omega)]

/-- **Import shift**, RELION ≥ 3.1 (Ångström): shift = −origin / pixel size, i.e. shift · px = −origin -/
theorem import_shift_angstrom (v : Nat) (hv : 31 ≤ v) (px o : α) (hpx : px ≠ 0) :
    importShift v px o = some (-o / px) ∧ -o / px * px = -o :=
  ⟨by rw [import_shift_total, if_pos hv], div_mul_cancel₀ _ hpx⟩

theorem import_shift_zero (v : Nat) (px : α) : importShift v px 0 = some 0 := by
  rw [import_shift_total]; split <;> simp

/-- **Import position**: the model does not fail; x, y, z are the RELION coordinates and each shift is the converted
origin of the same axis, with the pixel size of THIS row -/
theorem import_coord (asEuler : M3 α → Ang3 α) (v : Nat) (px : α) (r : RPose α) :
    ∃ q, importPose asEuler v px r = some q ∧ q.x = r.cx ∧ q.y = r.cy ∧ q.z = r.cz ∧
      some q.sx = importShift v px r.ox ∧ some q.sy = importShift v px r.oy ∧ some q.sz = importShift v px r.oz := by
  simp only [importPose, import_shift_total, importAngles_eq]
  exact ⟨_, rfl, rfl, rfl, rfl, rfl, rfl, rfl⟩

/-- a RELION row with zero origins (every exported row) is imported with zero shifts, whatever the version and the
pixel size -/
theorem importPose_zero_origin (asEuler : M3 α → Ang3 α) (v : Nat) (px cx cy cz : α) (ra : Ang3 α) {a : Ang3 α}
    (h : importAngles asEuler ra = some a) :
    importPose asEuler v px ⟨cx, cy, cz, 0, 0, 0, ra⟩ = some ⟨cx, cy, cz, 0, 0, 0, a⟩ := by
  simp only [importPose, import_shift_zero, h]

theorem Pose.position_zero_shift (x y z : α) (a : Ang3 α) : (⟨x, y, z, 0, 0, 0, a⟩ : Pose α).position = ⟨x, y, z⟩ := by
  simp only [Pose.position, add_zero]

/-- **Export followed by import returns every particle to the same position and orientation** —
exactly, in exact arithmetic, for every version and every pixel size (the exported origin is 0, so even a
zero pixel size is harmless), for any Euler-angle extractors meeting their post-conditions. -/
theorem export_import_pose (asE1 asE2 : M3 α → Ang3 α) (v : Nat) (px : α) (p : Pose α)
    (h1 : ∀ F, exportFed p.ang = some F → eulerMat Gen.C03.exportToSeq (asE1 F) = some F)
    (h2 : ∀ r F, exportAngles asE1 p.ang = some r → importFed r = some F → eulerMat Gen.C03.importToSeq (asE2 F) = some F) :
    ∃ r q, exportPose asE1 p = some r ∧ importPose asE2 v px r = some q ∧
      q.position = p.position ∧ q.rotation = p.rotation := by
  obtain ⟨ra, qa, hra, hqa, hrot⟩ := export_import_orientation asE1 asE2 p.ang h1 h2
  exact ⟨_, _, exportPose_of_angles asE1 p hra, importPose_zero_origin asE2 v px _ _ _ ra hqa,
    Pose.position_zero_shift _ _ _ _, hrot⟩

end field

/-- **half-set 1 ⇔ odd, half-set 2 ⇔ even subtomogram number** (export) -/
theorem halfset_parity (id : Nat) :
    (halfsetOf id = 1 ↔ id % 2 = 1) ∧ (halfsetOf id = 2 ↔ id % 2 = 0) := by
  unfold halfsetOf
  rcases Nat.mod_two_eq_zero_or_one id with h | h <;> rw [h] <;> decide

/-- **half-set renumbering on import**, for every half-set column: one new id per particle, starting at
1 or 2, strictly increasing in row order (hence unique), at most 2·n, and id odd ⇔ half-set odd. -/
theorem renumber_spec (hs : List Nat) :
    (renumber hs).length = hs.length ∧ (renumber hs).map (· % 2) = hs.map (· % 2) ∧
    (renumber hs).Pairwise (· < ·) ∧ (∀ i ∈ renumber hs, 1 ≤ i ∧ i ≤ 2 * hs.length) := by
  rw [renumber_eq_renumberFrom]
  exact ⟨renumberFrom_length 0 hs, renumberFrom_parity 0 hs, renumberFrom_pairwise 0 hs,
    fun i hi => by have := renumberFrom_bounds 0 hs i hi; omega⟩

theorem halfsetOf_mod (id : Nat) : halfsetOf (id % 2) = halfsetOf id := by
  unfold halfsetOf; rw [Nat.mod_mod]

/-- re-exporting the renumbered ids reproduces the half-set column (values 1 / 2) -/
theorem renumber_halfset (hs : List Nat) (h12 : ∀ h ∈ hs, h = 1 ∨ h = 2) : (renumber hs).map halfsetOf = hs := by
  calc (renumber hs).map halfsetOf
      = ((renumber hs).map (· % 2)).map halfsetOf := by
        rw [List.map_map]; exact List.map_congr_left fun i _ => (halfsetOf_mod i).symm
    _ = (hs.map (· % 2)).map halfsetOf := by rw [(renumber_spec hs).2.1]
    _ = hs.map halfsetOf := by rw [List.map_map]; exact List.map_congr_left fun i _ => halfsetOf_mod i
    _ = hs.map id := List.map_congr_left fun h hh => by rcases h12 h hh with rfl | rfl <;> rfl
    _ = hs := List.map_id hs

/-- **half-sets on import**: whenever the half-set column holds only 1s and 2s (one value or both, any
number of particles ≥ 0), the imported subtomo ids are strictly increasing (unique) and exporting them again
reproduces the half-set column: half-set 1 ⇔ odd, half-set 2 ⇔ even. -/
theorem import_ids_halfset (parsed hs : List Nat) (h12 : ∀ h ∈ hs, h = 1 ∨ h = 2) :
    (importSubtomoIds parsed (some hs)).map halfsetOf = hs ∧ (importSubtomoIds parsed (some hs)).Pairwise (· < ·) := by
  have hall : hs.all (fun h => h == 1 || h == 2) = true := by
    rw [List.all_eq_true]; intro h hh
    rcases h12 h hh with rfl | rfl <;> rfl
  simp only [importSubtomoIds, hall, if_true]
  exact ⟨renumber_halfset hs h12, (renumber_spec hs).2.2.1⟩

/-- **zero padding does not change the number**: `int(str(n).zfill(k)) = n` -/
theorem zfill_parse (k n : Nat) : Nat.ofDigitChars 10 (zfill k (Nat.toDigits 10 n)) 0 = n :=
  decode_zfill_toDigits k n

/-- **tomogram and subtomogram numbers survive in RELION ≤ 3.1 names.** Any generated name of the documented
shape `dir/ pre <tomo, padded> mid <subtomo, padded> suf` (no digit in `pre`, a non-empty digit-free
separator `mid`, `suf` empty or starting with a non-digit, no slash after `dir/`) is parsed back to
exactly (tomo, subtomo), for every padding width and every pair of numbers. -/
theorem names_parse_v3 (dir pre mid suf : List Char) (kx ky tomo sub v : Nat) (hv : v < 40)
    (hpre : ∀ c ∈ pre, c.isDigit = false) (hmid : Sep mid)
    (hsuf : suf = [] ∨ ∃ c t, suf = c :: t ∧ c.isDigit = false)
    (hslash : ∀ c ∈ pre ++ mid ++ suf, c ≠ '/') :
    let name := dir ++ '/' :: (pre ++ zfill kx (Nat.toDigits 10 tomo) ++ mid ++ zfill ky (Nat.toDigits 10 sub) ++ suf)
    parseTomo name = some tomo ∧ parseSub v name = some sub := by
  intro name
  have hlc : ∀ c ∈ pre ++ zfill kx (Nat.toDigits 10 tomo) ++ mid ++ zfill ky (Nat.toDigits 10 sub) ++ suf, c ≠ '/' := by
    simp only [List.forall_mem_append] at hslash ⊢
    exact ⟨⟨⟨⟨hslash.1.1, zfill_toDigits_ne '/' rfl kx tomo⟩, hslash.1.2⟩, zfill_toDigits_ne '/' rfl ky sub⟩, hslash.2⟩
  have hn : numbers (pre ++ zfill kx (Nat.toDigits 10 tomo) ++ mid ++ zfill ky (Nat.toDigits 10 sub) ++ suf)
      = tomo :: sub :: numbers suf := by
    simp only [List.append_assoc]
    rw [numbers_padded pre _ kx tomo hpre (hmid.head _), numbers_padded mid suf ky sub hmid.2 hsuf]
  exact ⟨(parseTomo_dir dir _ hlc).trans (by rw [hn]; rfl), (parseSub_dir_lt v hv dir _ hlc).trans (by rw [hn]; rfl)⟩

/-- **generated RELION ≤ 3.1 names carry both numbers.** For every subtomogram format of the documented shape
`dir/ pre $x…x mid $y…y suf` (any paddings kx, ky ≥ 1; no other `$` and no slash after `dir/`; no digit in `pre`; a
non-empty digit-free separator `mid` not starting with `x`; `suf` empty or starting with neither a digit nor `y`),
`prepare_particles_data` produces a name from which `parse_tomo_id` / `parse_subtomo_id` read back exactly
(tomo, subtomo) — for all numbers, including numbers wider than the padding. -/
theorem names_generated_v3 (dir pre mid suf : List Char) (kx ky tomo sub v : Nat) (hv : v < 40) (hkx : 0 < kx) (hky : 0 < ky)
    (hpre : ∀ c ∈ pre, c.isDigit = false) (hmid : Sep mid) (hmidx : NotHead 'x' mid)
    (hsuf : suf = [] ∨ ∃ c t, suf = c :: t ∧ c.isDigit = false) (hsufy : NotHead 'y' suf)
    (hslash : ∀ c ∈ pre ++ mid ++ suf, c ≠ '/') (hdollar : ∀ c ∈ dir ++ pre ++ mid ++ suf, c ≠ '$') :
    ∃ name, subName (dir ++ '/' :: (pre ++ '$' :: (List.replicate kx 'x' ++ (mid ++ '$' :: (List.replicate ky 'y' ++ suf))))) tomo sub
        = some name ∧ parseTomo name = some tomo ∧ parseSub v name = some sub := by
  simp only [List.forall_mem_append] at hdollar
  obtain ⟨⟨⟨hdirD, hpreD⟩, hmidD⟩, hsufD⟩ := hdollar
  have hD := noDollar_dir hdirD hpreD
  -- the `$y…` pass: the `$x…` sequence in front of it is not a `$y…` sequence
  have p1 := fillFormat_shape 'y' (by decide) ky hky ((dir ++ '/' :: pre) ++ '$' :: (List.replicate kx 'x' ++ mid)) suf sub
    (longestSeq_other 'x' 'y' (by decide) (by decide) (by decide) kx hkx _ mid hD (longestSeq_noDollar _ _ hmidD))
    (longestSeq_noDollar _ _ hsufD) hsufy
  -- the `$x…` pass on the result
  have hR : ∀ c ∈ mid ++ (zfill ky (Nat.toDigits 10 sub) ++ suf), c ≠ '$' := by
    simp only [List.forall_mem_append]
    exact ⟨hmidD, zfill_toDigits_ne '$' rfl ky sub, hsufD⟩
  have p2 := fillFormat_shape 'x' (by decide) kx hkx (dir ++ '/' :: pre) _ tomo
    (longestSeq_noDollar _ _ hD) (longestSeq_noDollar _ _ hR) (notHead_append 'x' mid _ hmidx fun e => absurd e hmid.1)
  simp only [List.append_assoc, List.cons_append] at p1 p2
  refine ⟨dir ++ '/' :: (pre ++ zfill kx (Nat.toDigits 10 tomo) ++ mid ++ zfill ky (Nat.toDigits 10 sub) ++ suf), ?_,
    names_parse_v3 dir pre mid suf kx ky tomo sub v hv hpre hmid hsuf hslash⟩
  rw [subName_of_fill _ _ tomo sub (by simp) p1, p2]
  simp only [Option.getD_some, List.append_assoc]

/-- **numbers survive in RELION 4.0 names**: `pre <tomo, padded>` (e.g. `TS_007`) gives the tomogram number and
`anything/<subtomo, padded>` the subtomogram number. -/
theorem names_parse_v4 (dir pre : List Char) (kx ky tomo sub v : Nat) (hv : 40 ≤ v)
    (hpre : ∀ c ∈ pre, c.isDigit = false) (hslash : ∀ c ∈ pre, c ≠ '/') :
    parseTomo (pre ++ zfill kx (Nat.toDigits 10 tomo)) = some tomo ∧
    parseSub v (dir ++ '/' :: zfill ky (Nat.toDigits 10 sub)) = some sub := by
  constructor
  · have hlc : ∀ c ∈ pre ++ zfill kx (Nat.toDigits 10 tomo), c ≠ '/' := by
      simp only [List.forall_mem_append]
      exact ⟨hslash, zfill_toDigits_ne '/' rfl kx tomo⟩
    rw [parseTomo_plain _ hlc, numbers_padded_end pre kx tomo hpre]; rfl
  · exact parseSub_padded v hv dir ky sub

/-- **generated RELION 4.0 names carry the numbers**: tomogram format `pre $x…x` (e.g. `TS_$xxx`) and subtomogram
format `dir/$y…y` (no `$` in `dir`) are filled and read back exactly. -/
theorem names_generated_v4 (dir pre : List Char) (kx ky tomo sub v : Nat) (hv : 40 ≤ v) (hkx : 0 < kx) (hky : 0 < ky)
    (hpre : ∀ c ∈ pre, c.isDigit = false) (hslash : ∀ c ∈ pre, c ≠ '/') (hdollar : ∀ c ∈ dir ++ pre, c ≠ '$') :
    (∃ n1, tomoName (pre ++ '$' :: List.replicate kx 'x') tomo = some n1 ∧ parseTomo n1 = some tomo) ∧
    (∃ n2, subName (dir ++ '/' :: '$' :: List.replicate ky 'y') tomo sub = some n2 ∧ parseSub v n2 = some sub) := by
  have hp := names_parse_v4 dir pre kx ky tomo sub v hv hpre hslash
  simp only [List.forall_mem_append] at hdollar
  constructor
  · have p := fillFormat_shape 'x' (by decide) kx hkx pre [] tomo (longestSeq_noDollar _ _ hdollar.2) rfl (Or.inl rfl)
    rw [List.append_nil, List.append_nil] at p
    exact ⟨_, (tomoName_of_ne_nil _ tomo (by simp)).trans p, hp.1⟩
  · have p1 := fillFormat_shape 'y' (by decide) ky hky (dir ++ '/' :: []) [] sub
      (longestSeq_noDollar _ _ (noDollar_dir hdollar.1 (by simp))) rfl (Or.inl rfl)
    simp only [List.append_nil, List.append_assoc, List.cons_append, List.nil_append] at p1
    -- the result holds no `$`, so the `$x…` pass leaves it alone
    have hS := noDollar_dir hdollar.1 (zfill_toDigits_ne '$' rfl ky sub)
    refine ⟨_, ?_, hp.2⟩
    rw [subName_of_fill _ _ tomo sub (by simp) p1, fillFormat_eq_none 'x' _ tomo (longestSeq_noDollar _ _ hS)]; rfl

/-- **generated RELION ≤ 3.1 tomogram names carry the tomogram number, with a directory and a suffix**: for every
tomogram format `dir/ pre $x…x suf` (the documented `/path/to/tomo/$xxxx.rec`, `…/TS_$xxx_2.5.mrc`; any padding ≥ 1; no
`$` elsewhere; `pre` digit-free; no slash after `dir/`; `suf` empty or starting with neither a digit nor `x`),
`prepare_particles_data` produces `dir/ pre <tomo, padded> suf` and `parse_tomo_id` reads back exactly `tomo`. (Formats
that repeat the `$x…x` sequence in the directory part, like `/p/$xxxx/$xxxx_$yy.mrc`, are NOT covered by a theorem: they are
compared string for string with the model in the correspondence run only.) -/
theorem tomo_name_generated_v3 (dir pre suf : List Char) (kx tomo : Nat) (hkx : 0 < kx)
    (hpre : ∀ c ∈ pre, c.isDigit = false) (hsuf : suf = [] ∨ ∃ c t, suf = c :: t ∧ c.isDigit = false)
    (hsufx : NotHead 'x' suf) (hslash : ∀ c ∈ pre ++ suf, c ≠ '/') (hdollar : ∀ c ∈ dir ++ pre ++ suf, c ≠ '$') :
    ∃ name, tomoName (dir ++ '/' :: (pre ++ '$' :: (List.replicate kx 'x' ++ suf))) tomo = some name ∧
      name = dir ++ '/' :: (pre ++ zfill kx (Nat.toDigits 10 tomo) ++ suf) ∧ parseTomo name = some tomo := by
  simp only [List.forall_mem_append] at hdollar hslash
  have p1 := fillFormat_shape 'x' (by decide) kx hkx (dir ++ '/' :: pre) suf tomo
    (longestSeq_noDollar _ _ (noDollar_dir hdollar.1.1 hdollar.1.2)) (longestSeq_noDollar _ _ hdollar.2) hsufx
  simp only [List.append_assoc, List.cons_append] at p1
  have hlc : ∀ c ∈ pre ++ (zfill kx (Nat.toDigits 10 tomo) ++ suf), c ≠ '/' := by
    simp only [List.forall_mem_append]
    exact ⟨hslash.1, zfill_toDigits_ne '/' rfl kx tomo, hslash.2⟩
  refine ⟨_, (tomoName_of_ne_nil _ tomo (by simp)).trans p1, by rw [List.append_assoc], ?_⟩
  rw [parseTomo_dir dir _ hlc, numbers_padded pre suf kx tomo hpre hsuf]; rfl

/-- `parse_tomo_id`, `elif` branch (no tomogram-name column): for version ≤ 3.1 the last path component of the
subtomogram name (`rsplit("/", 1)[-1]`), otherwise what precedes its last slash (`[0]`); first number of it -/
theorem tomo_fallback_documented :
    Gen.C03.tomoFallbackCmp = "<=" ∧ Gen.C03.tomoFallbackThr = 31 ∧ Gen.C03.tomoFallbackPositions = (-1, 0) ∧
    Gen.C03.tomoFallbackIndex = 0 := ⟨rfl, rfl, rfl, rfl⟩

/-- for version ≤ 3.1 the fallback reads a subtomogram name exactly as `parse_tomo_id` reads a tomogram name -/
theorem tomo_fallback_le31 (v : Nat) (hv : v ≤ 31) (name : List Char) : parseTomoFallback v name = parseTomo name := by
  unfold parseTomoFallback
  rw [tomoFallback_test, decide_eq_true hv]; rfl

/-- above 3.1 the fallback reads the first number of what precedes the last slash of the subtomogram name -/
theorem tomo_fallback_gt31 (v : Nat) (hv : 31 < v) (name : List Char) :
    parseTomoFallback v name = (numbers (beforeLastSlash name))[0]? := by
  unfold parseTomoFallback
  rw [tomoFallback_test, decide_eq_false (Nat.not_le.2 hv)]; rfl

/-- **the tomogram number survives without a tomogram-name column, RELION ≤ 3.1**: it is read back from the
subtomogram name `dir/ pre <tomo, padded> mid <subtomo, padded> suf` (hypotheses as in `names_parse_v3`) -/
theorem names_parse_fallback_v3 (dir pre mid suf : List Char) (kx ky tomo sub v : Nat) (hv : v ≤ 31)
    (hpre : ∀ c ∈ pre, c.isDigit = false) (hmid : Sep mid)
    (hsuf : suf = [] ∨ ∃ c t, suf = c :: t ∧ c.isDigit = false)
    (hslash : ∀ c ∈ pre ++ mid ++ suf, c ≠ '/') :
    let name := dir ++ '/' :: (pre ++ zfill kx (Nat.toDigits 10 tomo) ++ mid ++ zfill ky (Nat.toDigits 10 sub) ++ suf)
    importTomo v ⟨none, name, 0⟩ = some tomo ∧ parseSub v name = some sub := by
  intro name
  have h := names_parse_v3 dir pre mid suf kx ky tomo sub v (by omega) hpre hmid hsuf hslash
  exact ⟨(tomo_fallback_le31 v hv name).trans h.1, h.2⟩

/-- **the tomogram number survives without a tomogram-name column, RELION 4.0**: from `pre <tomo, padded>/<subtomo, padded>`
(e.g. `TS_007/0012`; `pre` digit-free, slashes allowed) the part before the last slash gives the tomogram number and
the part after it the subtomogram number -/
theorem names_parse_fallback_v4 (pre : List Char) (kx ky tomo sub v : Nat) (hv : 40 ≤ v)
    (hpre : ∀ c ∈ pre, c.isDigit = false) :
    let name := (pre ++ zfill kx (Nat.toDigits 10 tomo)) ++ '/' :: zfill ky (Nat.toDigits 10 sub)
    importTomo v ⟨none, name, 0⟩ = some tomo ∧ parseSub v name = some sub := by
  intro name
  refine ⟨(tomo_fallback_gt31 v (by omega) _).trans ?_, parseSub_padded v hv _ ky sub⟩
  rw [beforeLastSlash_dir _ _ (zfill_toDigits_ne '/' rfl ky sub), numbers_padded_end pre kx tomo hpre]; rfl

/-- **after import the subtomogram ids are pairwise distinct**, whatever was parsed and whatever the half-set column
holds: parsed numbers when distinct, 1..n when they repeat, strictly increasing when renumbered by half-set -/
theorem import_ids_nodup (parsed : List Nat) (hs : Option (List Nat)) : (importSubtomoIds parsed hs).Nodup := by
  have hbase : (if parsed.Nodup then parsed else List.range' 1 parsed.length).Nodup := by
    split
    · assumption
    · exact List.nodup_range' 1
  unfold importSubtomoIds
  cases hs with
  | none => exact hbase
  | some l =>
    simp only
    split
    · exact (renumber_spec l).2.2.1.imp Nat.ne_of_lt
    · exact hbase

/-- without a half-set column: distinct parsed numbers are kept as they are -/
theorem import_ids_kept (parsed : List Nat) (h : parsed.Nodup) : importSubtomoIds parsed none = parsed := by
  simp [importSubtomoIds, h]

/-- **identity columns after import**, whenever the model does not fail (every name can be parsed): `geom3` holds the
number parsed from each subtomogram name (also when `subtomo_id` is renumbered), `tomo_id` the parsed tomogram number
(either branch), **the class column is the RELION class column unchanged**, `subtomo_id` is `importSubtomoIds` of the
parsed numbers and is duplicate-free; all four columns have one entry per row -/
theorem import_identity (v : Nat) (rows : List RIdent) (hs : Option (List Nat)) (c : IdentCols)
    (h : importIdents v rows hs = some c) :
    c.geom3.map some = rows.map (fun r => parseSub v r.subName) ∧
    c.tomo.map some = rows.map (importTomo v) ∧
    c.cls = rows.map (·.cls) ∧
    c.sub = importSubtomoIds c.geom3 hs ∧ c.sub.Nodup ∧
    c.geom3.length = rows.length ∧ c.tomo.length = rows.length ∧ c.cls.length = rows.length := by
  unfold importIdents importGeom3 at h
  split at h
  · rename_i g ts hg ht
    have e := Option.some.inj h
    subst e
    have h1 := allSome_eq_some _ _ hg
    have h2 := allSome_eq_some _ _ ht
    refine ⟨h1, h2, rfl, rfl, import_ids_nodup _ _, ?_, ?_, by simp⟩
    · simpa using congrArg List.length h1
    · simpa using congrArg List.length h2
  · exact absurd h (by simp)

/-- **geom3 = the subtomogram number** whenever each name is one that `parse_subtomo_id` reads back as the number
`num r` (established for the documented name shapes by `names_parse_v3`, `names_parse_v4`, `names_generated_v3/v4`) -/
theorem import_geom3_numbers (v : Nat) (rows : List RIdent) (hs : Option (List Nat)) (c : IdentCols) (num : RIdent → Nat)
    (h : importIdents v rows hs = some c) (hn : ∀ r ∈ rows, parseSub v r.subName = some (num r)) :
    c.geom3 = rows.map num := by
  have := Lists.map_eq_of_map_some (fun r => parseSub v r.subName) id num rows c.geom3 (import_identity v rows hs c h).1
    fun r hr n hn' => Option.some.inj (hn'.symm.trans (hn r hr))
  rwa [List.map_id] at this

/-- **class and half-set on export**: the class number is written unchanged, the half-set is the parity of the
subtomogram number, and the names are the `$`-format expansions -/
theorem export_identity (tf sf : List Char) (tomo sub cls : Nat) (r : RIdent) (hset : Nat)
    (h : exportIdent tf sf tomo sub cls = some (r, hset)) :
    r.cls = cls ∧ hset = halfsetOf sub ∧ r.tomoName = tomoName tf tomo ∧ some r.subName = subName sf tomo sub := by
  unfold exportIdent at h
  split at h
  · rename_i t s ht hsn
    have e := Option.some.inj h
    simp only [Prod.mk.injEq] at e
    obtain ⟨rfl, rfl⟩ := e
    exact ⟨rfl, rfl, ht.symm, hsn.symm⟩
  · exact absurd h (by simp)

/-- **the class survives export followed by import** (as do the numbers, by the `names_*` theorems) -/
theorem class_survives (tf sf : List Char) (ps : List (Nat × Nat × Nat)) (v : Nat) (hs : Option (List Nat))
    (rs : List (RIdent × Nat)) (c : IdentCols)
    (he : allSome (ps.map fun (t, s, k) => exportIdent tf sf t s k) = some rs)
    (hi : importIdents v (rs.map (·.1)) hs = some c) :
    c.cls = ps.map (fun (_, _, k) => k) := by
  rw [(import_identity v _ hs c hi).2.2.1, List.map_map]
  exact Lists.map_eq_of_map_some _ _ _ ps rs (allSome_eq_some _ _ he)
    fun ⟨t, s, k⟩ _ ⟨r, hset⟩ h => (export_identity tf sf t s k r hset h).1

/-! The Euler service as a global contract, and its instance over ℝ.

The theorems above take scipy's `as_euler` as a parameter and assume its post-condition only for the matrix of the
particle at hand. `EulerOK seq asE` is the same post-condition stated once, as a library contract: for every proper
rotation matrix the returned triple consists of points of the unit circle and reproduces the matrix in the sequence
`seq`. Under this contract nothing else is assumed of the extractor, and over ℝ the contract is met by the explicit
extractors `zyzR` / `zxzR` of `Lemmas/C03` (square roots only, gimbal lock included), so the `…_real` theorems
below have NO hypothesis about the Euler service left. They do not say that scipy IS `zyzR`/`zxzR`: for scipy the
contract stays an assumption, checked on every generated particle. -/

/-- the contract of `Rotation.as_euler(seq)` on proper rotations -/
def EulerOK [CommRing α] (seq : List Char) (asE : M3 α → Ang3 α) : Prop :=
  ∀ F : M3 α, IsRot F → (asE F).Unit ∧ eulerMat seq (asE F) = some F

section contract
variable [CommRing α]

/-- **export under the contract**: for unit (phi, theta, psi) the exported (rot, tilt, psi) are unit angles and RELION's
rotation is the two-sided inverse of the particle's rotation -/
theorem export_is_inverse_of_contract (asE : M3 α → Ang3 α) (hE : EulerOK Gen.C03.exportToSeq asE) (ang : Ang3 α)
    (hu : ang.Unit) :
    ∃ r, exportAngles asE ang = some r ∧ r.Unit ∧
      relionMat r * particleMat ang = M3.one ∧ particleMat ang * relionMat r = M3.one := by
  have hpost := fun F hF => hE F (exportFed_isRot ang hu F hF)
  obtain ⟨r, hr, hinv⟩ := export_is_inverse asE ang hu fun F hF => (hpost F hF).2
  obtain ⟨ua, ub, uc⟩ := (hpost _ (exportFed_eq ang)).1
  cases Option.some.inj ((exportAngles_eq asE ang).symm.trans hr)
  exact ⟨_, hr, ⟨Ang.neg_unit _ ua, ub, Ang.neg_unit _ uc⟩, hinv⟩

/-- **import under the contract**: for unit RELION angles the stored (phi, theta, psi) are unit angles and the particle's
rotation is the two-sided inverse of RELION's -/
theorem import_is_inverse_of_contract (asE : M3 α → Ang3 α) (hE : EulerOK Gen.C03.importToSeq asE) (rln : Ang3 α)
    (hu : rln.Unit) :
    ∃ q, importAngles asE rln = some q ∧ q.Unit ∧
      particleMat q * relionMat rln = M3.one ∧ relionMat rln * particleMat q = M3.one := by
  have hpost := fun F hF => hE F (importFed_isRot rln hu F hF)
  obtain ⟨q, hq, hinv⟩ := import_is_inverse asE rln hu fun F hF => (hpost F hF).2
  obtain ⟨ua, ub, uc⟩ := (hpost _ (importFed_eq rln)).1
  cases Option.some.inj ((importAngles_eq asE rln).symm.trans hq)
  exact ⟨_, hq, ⟨Ang.neg_unit _ uc, Ang.neg_unit _ ub, Ang.neg_unit _ ua⟩, hinv⟩

/-- **export followed by import of the angles under the contract**: the exported `ra` are unit angles whose rotation inverts
the particle's, the re-imported `qa` are unit angles with the particle's rotation matrix (both matrices invert RELION's) -/
theorem export_import_angles_of_contract (asE1 asE2 : M3 α → Ang3 α) (h1 : EulerOK Gen.C03.exportToSeq asE1)
    (h2 : EulerOK Gen.C03.importToSeq asE2) (ang : Ang3 α) (hu : ang.Unit) :
    ∃ ra qa, exportAngles asE1 ang = some ra ∧ importAngles asE2 ra = some qa ∧ ra.Unit ∧ qa.Unit ∧
      relionMat ra * particleMat ang = M3.one ∧ particleMat qa = particleMat ang := by
  obtain ⟨ra, hra, hrau, hinv, _⟩ := export_is_inverse_of_contract asE1 h1 ang hu
  obtain ⟨qa, hqa, hqau, hq, _⟩ := import_is_inverse_of_contract asE2 h2 ra hrau
  exact ⟨ra, qa, hra, hqa, hrau, hqau, hinv, inverse_unique hq hinv⟩

end contract

/-- **export followed by import under the contract** (any field, every version, every pixel size): every particle with
unit angles returns to the same position and the same rotation matrix, and the intermediate RELION row carries the
inverse rotation, zero origins and the complete position -/
theorem export_import_pose_of_contract [_root_.Field α] (asE1 asE2 : M3 α → Ang3 α)
    (h1 : EulerOK Gen.C03.exportToSeq asE1) (h2 : EulerOK Gen.C03.importToSeq asE2) (v : Nat) (px : α) (p : Pose α)
    (hu : p.ang.Unit) :
    ∃ r q, exportPose asE1 p = some r ∧ importPose asE2 v px r = some q ∧
      q.position = p.position ∧ q.rotation = p.rotation ∧ q.ang.Unit ∧
      r.rotation * p.rotation = M3.one ∧ r.cx = p.x + p.sx ∧ r.cy = p.y + p.sy ∧ r.cz = p.z + p.sz ∧
      r.ox = 0 ∧ r.oy = 0 ∧ r.oz = 0 := by
  obtain ⟨ra, qa, hra, hqa, _, hqu, hinv, hrot⟩ := export_import_angles_of_contract asE1 asE2 h1 h2 p.ang hu
  exact ⟨_, _, exportPose_of_angles asE1 p hra, importPose_zero_origin asE2 v px _ _ _ ra hqa,
    Pose.position_zero_shift _ _ _ _, hrot, hqu, hinv, rfl, rfl, rfl, rfl, rfl, rfl⟩

section real

/-- **the contract is met over ℝ**, for both sequences the code uses, by explicit extractors (non-vacuity of `EulerOK`,
and of every `hpost` hypothesis above, for all rotations at once) -/
theorem eulerOK_real : EulerOK Gen.C03.exportToSeq zyzR ∧ EulerOK Gen.C03.importToSeq zxzR :=
  ⟨fun F hF => ⟨(zyzR_post F hF).1, (zyzR_post F hF).2.2⟩, fun F hF => ⟨(zxzR_post F hF).1, (zxzR_post F hF).2.2⟩⟩

/-- **export over ℝ, no assumption on the Euler service**: every particle with unit (phi, theta, psi) is exported with
unit RELION angles whose ZYZ rotation is the inverse of the particle's zxz rotation -/
theorem export_is_inverse_real (ang : Ang3 ℝ) (hu : ang.Unit) :
    ∃ r, exportAngles zyzR ang = some r ∧ r.Unit ∧
      relionMat r * particleMat ang = M3.one ∧ particleMat ang * relionMat r = M3.one :=
  export_is_inverse_of_contract zyzR eulerOK_real.1 ang hu

/-- **import over ℝ, no assumption on the Euler service** -/
theorem import_is_inverse_real (rln : Ang3 ℝ) (hu : rln.Unit) :
    ∃ q, importAngles zxzR rln = some q ∧ q.Unit ∧
      particleMat q * relionMat rln = M3.one ∧ relionMat rln * particleMat q = M3.one :=
  import_is_inverse_of_contract zxzR eulerOK_real.2 rln hu

/-- **export followed by import over ℝ returns every particle to the same position and orientation** — every version
number, every pixel size (also 0: the exported origin is 0), every position and shift, every orientation given by unit
angles; no hypothesis about the Euler service -/
theorem export_import_pose_real (v : Nat) (px : ℝ) (p : Pose ℝ) (hu : p.ang.Unit) :
    ∃ r q, exportPose zyzR p = some r ∧ importPose zxzR v px r = some q ∧
      q.position = p.position ∧ q.rotation = p.rotation ∧ q.ang.Unit ∧
      r.rotation * p.rotation = M3.one ∧ r.cx = p.x + p.sx ∧ r.cy = p.y + p.sy ∧ r.cz = p.z + p.sz ∧
      r.ox = 0 ∧ r.oy = 0 ∧ r.oz = 0 :=
  export_import_pose_of_contract zyzR zxzR eulerOK_real.1 eulerOK_real.2 v px p hu

/-- **the same in degrees, hypothesis-free**: for ALL real (phi, theta, psi) in degrees — any range, gimbal lock
included — and all positions, shifts, versions and pixel sizes there are RELION angles (rot, tilt, psi) in degrees and
re-imported angles (phi', theta', psi') in degrees such that the export row is the model's export of the particle, its
ZYZ rotation is the inverse of the particle's zxz rotation, and the re-imported particle has the same position and
the same rotation matrix -/
theorem export_import_pose_degrees (v : Nat) (px x y z sx sy sz phi theta psi : ℝ) :
    ∃ (rot tilt rpsi phi' theta' psi' : ℝ) (r : RPose ℝ) (q : Pose ℝ),
      exportPose zyzR ⟨x, y, z, sx, sy, sz, ang3R phi theta psi⟩ = some r ∧ r.ang = ang3R rot tilt rpsi ∧
      relionMat (ang3R rot tilt rpsi) * particleMat (ang3R phi theta psi) = M3.one ∧
      importPose zxzR v px r = some q ∧ q.ang = ang3R phi' theta' psi' ∧
      q.position = ⟨x + sx, y + sy, z + sz⟩ ∧ particleMat (ang3R phi' theta' psi') = particleMat (ang3R phi theta psi) := by
  obtain ⟨ra, qa, hra, hqa, hru, hqu, hinv, hrot⟩ := export_import_angles_of_contract zyzR zxzR eulerOK_real.1 eulerOK_real.2
    (ang3R phi theta psi) (ang3R_unit phi theta psi)
  obtain ⟨rot, tilt, rpsi, rfl⟩ := ang3R_surj ra hru
  obtain ⟨a, b, c, rfl⟩ := ang3R_surj qa hqu
  exact ⟨rot, tilt, rpsi, a, b, c, _, _, exportPose_of_angles zyzR ⟨x, y, z, sx, sy, sz, _⟩ hra, rfl, hinv,
    importPose_zero_origin zxzR v px _ _ _ _ hqa, rfl, Pose.position_zero_shift _ _ _ _, hrot⟩

end real

/-! Non-vacuity: every hypothesis above is met by concrete inputs. -/

/-- a quarter turn: cos 0, sin 1; the scipy post-condition is met by an explicit extractor on this input
(the extractor is constant, so `∀ F, exportFed ang = some F → …` holds for it) -/
example : (⟨⟨0, 1⟩, ⟨0, 1⟩, ⟨1, 0⟩⟩ : Ang3 Int).Unit := by simp [Ang3.Unit, Ang.Unit]
example : let ang : Ang3 Int := ⟨⟨0, 1⟩, ⟨0, 1⟩, ⟨1, 0⟩⟩     -- phi = 90°, theta = 90°, psi = 0°
    let asE : M3 Int → Ang3 Int := fun _ => ⟨⟨1, 0⟩, ⟨0, 1⟩, ⟨0, 1⟩⟩   -- ZYZ(0°, 90°, 90°)
    (exportFed ang).isSome = true ∧ eulerMat Gen.C03.exportToSeq (asE M3.one) = exportFed ang ∧
    (exportAngles asE ang).map (fun r => relionMat r * particleMat ang) = some M3.one := by decide +kernel
/-- gimbal lock (theta = 0): phi = 90°, psi = 90° -/
example : let ang : Ang3 Int := ⟨⟨0, 1⟩, ⟨1, 0⟩, ⟨0, 1⟩⟩
    let asE : M3 Int → Ang3 Int := fun _ => ⟨⟨-1, 0⟩, ⟨1, 0⟩, ⟨1, 0⟩⟩   -- ZYZ(180°, 0°, 0°)
    (exportFed ang).isSome = true ∧ eulerMat Gen.C03.exportToSeq (asE M3.one) = exportFed ang ∧
    (exportAngles asE ang).map (fun r => relionMat r * particleMat ang) = some M3.one := by decide +kernel
example : let rln : Ang3 Int := ⟨⟨1, 0⟩, ⟨0, 1⟩, ⟨0, 1⟩⟩
    let asE : M3 Int → Ang3 Int := fun _ => ⟨⟨1, 0⟩, ⟨0, 1⟩, ⟨0, 1⟩⟩   -- zxz(0°, 90°, 90°)
    (importFed rln).isSome = true ∧ eulerMat Gen.C03.importToSeq (asE M3.one) = importFed rln ∧
    (importAngles asE rln).map (fun q => particleMat q * relionMat rln) = some M3.one := by decide +kernel
/-- the model fails (instead of defaulting) on what scipy / numpy reject -/
example : eulerMat ['Z', 'x', 'Z'] (⟨⟨1, 0⟩, ⟨1, 0⟩, ⟨1, 0⟩⟩ : Ang3 Int) = none ∧
    eulerMat ['Z', 'Q', 'Z'] (⟨⟨1, 0⟩, ⟨1, 0⟩, ⟨1, 0⟩⟩ : Ang3 Int) = none ∧
    eulerMat ['Z', 'Y'] (⟨⟨1, 0⟩, ⟨1, 0⟩, ⟨1, 0⟩⟩ : Ang3 Int) = none ∧
    applySlots [("a", true, 0), ("b", false, 3), ("c", true, 2)] (⟨⟨1, 0⟩, ⟨1, 0⟩, ⟨1, 0⟩⟩ : Ang3 Int) = none ∧
    applySlots [("a", true, 0)] (⟨⟨1, 0⟩, ⟨1, 0⟩, ⟨1, 0⟩⟩ : Ang3 Int) = none ∧ cmpVer "!=" 31 31 = none := by decide +kernel
example : 31 ≤ 40 ∧ (2 : Rat) ≠ 0 := ⟨by decide, by decide⟩
example : renumber [2, 2, 1, 2, 1, 1] = [2, 4, 5, 6, 7, 9] := by decide +kernel
example : importSubtomoIds [7, 7, 9] none = [1, 2, 3] ∧ importSubtomoIds [4, 5, 6] (some [2, 1, 1]) = [2, 3, 5] ∧
    importSubtomoIds [4, 5, 6] (some [2, 2, 2]) = [2, 4, 6] := by decide +kernel
example : importIdents 31 [⟨none, "/d/TS_007_0012_2.5A.mrc".toList, 3⟩, ⟨none, "/d/TS_009_0012_2.5A.mrc".toList, 1⟩] (some [2, 2])
    = some ⟨[7, 9], [2, 4], [12, 12], [3, 1]⟩ ∧
    importIdents 40 [⟨none, "TS_007/0012".toList, 3⟩, ⟨some "TS_011".toList, "x9/y/13".toList, 1⟩] none
    = some ⟨[7, 11], [12, 13], [12, 13], [3, 1]⟩ ∧
    importIdents 31 [⟨none, "nonumber".toList, 3⟩] none = none := by
  -- the kernel decodes `"…".toList` through UTF-8, at a cost quadratic in the length; a literal IS `String.ofList` of its characters
  repeat rw [String.toList_ofList]
  decide +kernel
example : sniffVersion ["rlnCoordinateX", "rlnTomoParticleName"] = 40 ∧ sniffVersion ["rlnMicrographName", "rlnOriginX"] = 30 ∧
    sniffVersion ["rlnImageName", "rlnOriginX"] = 31 := by decide +kernel
example : Sep ['_'] := ⟨by decide, by decide⟩
example : NotHead 'x' ['_'] ∧ NotHead 'y' ['_', '2', '.', '5', 'A'] :=
  ⟨Or.inr ⟨'_', [], rfl, by decide⟩, Or.inr ⟨'_', _, rfl, by decide⟩⟩
example : tomoName "/path/to/tomo/TS_$xxxx.rec".toList 5 = some "/path/to/tomo/TS_0005.rec".toList ∧
    parseTomo "/path/to/tomo/TS_0005.rec".toList = some 5 ∧ NotHead 'x' ".rec".toList := by
  repeat rw [String.toList_ofList]
  exact ⟨by decide +kernel, by decide +kernel, Or.inr ⟨'.', _, rfl, by decide⟩⟩
example : subName "/p/$xxx_$yyyy_2.5A.mrc".toList 12 8 = some "/p/012_0008_2.5A.mrc".toList ∧
    parseTomo "/p/012_0008_2.5A.mrc".toList = some 12 ∧ parseSub 31 "/p/012_0008_2.5A.mrc".toList = some 8 ∧
    subName "TS_$xx/$y".toList 5 123 = some "TS_05/123".toList ∧ parseSub 40 "TS_05/123".toList = some 123 ∧
    tomoName "/d/$xxxx/$xxxx_$xx.rec".toList 7 = some "/d/0007/0007_$xx.rec".toList := by
  repeat rw [String.toList_ofList]
  decide +kernel

end CryoCat.C03
