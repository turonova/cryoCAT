import CryoCat.Gen.C12
import CryoCat.Lemmas.C12
import CryoCat.Lemmas.C12_Grid
import CryoCat.Lemmas.C12_Round
import CryoCat.Lemmas.C12_Tail
import CryoCat.Lemmas.C12_Mono
import CryoCat.Lemmas.C12_Face
import CryoCat.Lemmas.C12_DftShift
import CryoCat.Lemmas.C12_DftGrid
/-! C12: the Fourier filters are the documented radial low/high/band-pass gains.

Clause of the statement → theorem:
* linear, real-valued, commute with circular shifts, scale each Fourier component by the gain →
  `filt_add`, `filt_smul`, `filt_real`, `filt_shift`, `filt_spectrum`, `filt_effective_gain`
* hard edge: gain exactly 1 up to the cutoff radius and 0 beyond, as a function of the integer
  frequency radius → `freq_spec`, `hard_gain`, `hard_gain_even`
* Gaussian edge: gain in [0,1], 1 inside, 0 outside → `soft_gain_range`, `soft_gain_one`,
  `soft_gain_zero`, `soft_gain_tail` (the literal margins `4σ+1` and "non-increasing in between"
  in full generality are NOT proved: `SoftEdgeFull` states them; what IS proved of them is in the two items on the margins and on
  "non-increasing in between")
* high-pass = complement, band-pass = difference → `highpass_complement`, `bandpass_difference`,
  `high_gain_range`, `band_gain_range_nested`
* resolution → `res2pix_round`, `roundRat_nearest_even`, `filter_radius_*`
* executable arrays = these functions → `lowGain_grid`, `highGain_grid`, `bandGain_grid`, `effGain_grid`
* soft-edge margins in the strongest true form → `soft_gain_inside`, `soft_gain_outside` (bounds by the kernel tail
  `tail3`), `soft_margin_checked` (what the driver evaluates), `tail3_zero` (`tail(√3·t) = 0`, `Lemmas/C12_Tail`),
  `soft_gain_inside_margin`, `soft_gain_outside_margin`, `soft_edge_exact_beyond_reach`, `soft_edge_full_false_below_reach`
* "non-increasing in between": along EVERY step away from frequency 0 (axis-parallel and diagonal, Nyquist landings included), WITHOUT
  any hypothesis on the faces → `soft_gain_step_bound`, `soft_eff_gain_step_bound` (rise ≤ `faceRise` = kernel weight at offset n/2 on an
  even axis whose upper face the ball reaches, 0 otherwise: `face_rise_zero`, `face_rise_zero_short_kernel`), `soft_monotone_fails_only_if`,
  `soft_eff_gain_mono_step_reach`, `soft_eff_gain_axis_step_checked`, `soft_edge_rays_bound`, `soft_monotone_face_closed`; from these, where the
  ball stays off the faces of the mask box on the moving axes (`monoAxisOk`) → `soft_gain_mono_axis_x/y/z`,
  `soft_edge_monotone_axes_partial`, `soft_gain_mono_step`, `soft_eff_gain_mono_step` (the effective gain the harness measures),
  `soft_edge_monotone_rays_partial`, `model_kernel_unimodal` (where the ball touches a face exact monotonicity is NOT a theorem — the
  unchanged code rises by ~4e-8); refuted readings `soft_monotone_radial_false`, `soft_monotone_false_at_face`
* band-pass gain range: `band_gain_range_nested` (equal widths, nested), `band_gain_bounds` ([-1,1] always),
  `band_gain_negative_unequal_widths` (known finding C12-K1), `band_gain_negative_inverted`
* signature defaults and whole-body anchors → `defaults_documented`, `signatures_documented`, `flow_documented`, `bodies_documented`
* the transform inside the model → `dft3_transform` (`Lemmas/C12_Dft`), `dft1_inversion`, `dft_is_transform_complex`,
  `lowpass_grid`, `highpass_grid`, `bandpass_grid` (the driver's `filter` op executes these operators)
* the shift theorem and the Hermitian symmetry of that transform → `dft1_shift_theorem`, `dft1_hermitian_symmetry`,
  `dft3_shift_theorem`, `dft3_hermitian_symmetry`, `filt_shift_dft`; over ℂ `dft_shift_theorem_complex`, `dft_hermitian_complex`,
  `idft_real_part_complex`
* every operator theorem with NO hypothesis on the transform left (ℂ, numpy's twiddles, `np.real`) → the same names with the suffix
  `_complex` (`filt_add_complex` … `bandpass_difference_complex`); for the three filters `filters_shift_complex`,
  `hard_lowpass_spectrum_complex`, `filter_effective_gain_complex`, `filters_effective_gain_complex`; the driver's rolled run
  `filter_grid_roll(_complex)`
* how the statement is READ where it is literally false for soft edges ("a gain that depends on its integer frequency radius"): the gain
  of the HARD filter is a function of the radius (`hard_gain`); the soft gain is that ball blurred with a separable kernel, a function of
  the bin (`soft_monotone_radial_false`: not of the radius alone), even only up to `np.real` (`filt_effective_gain_complex`)
* theorems that are definitional unfoldings (`rfl`) and only anchor the model's definitions to the statement's wording, NOT independent
  clauses: `high_gain_complement`, `band_gain_difference`, `res2pix_round`, `dftC_is_dft3`, `filter_radius_pixels/_resolution`;
  `filt_real_complex` holds for any `F`, `Finv` because `re` is applied last -/
namespace CryoCat.C12
open Gen.C12

/-! Translator obligations: the source still says what the model assumes. -/

theorem anchors_ok : anchorsOk = true := rfl

/-- all four `spherical_mask` calls pass `gaussian_outwards=False` (the radius is not enlarged) -/
theorem outwards_false : outwardsFlags = [false, false, false, false] := rfl

/-- low/high-pass hand `(input_map.shape, radius, gaussian)` to the mask, the radius being
`get_filter_radius(input_map.shape[0], …)` with the caller's keywords unchanged; band-pass builds the first
(outer) mask from the `lp_` keywords and `lp_gaussian` and the second (inner) one from the `hp_` keywords and
`hp_gaussian`. Local variables are inlined by the translator: the text does not depend on their names. -/
theorem mask_arguments_documented :
    maskArgs = [("get_filter_radius(read(input_map).shape[0],fourier_pixels=fourier_pixels,target_resolution=target_resolution,pixel_size=pixel_size)", "gaussian"), ("get_filter_radius(read(input_map).shape[0],fourier_pixels=fourier_pixels,target_resolution=target_resolution,pixel_size=pixel_size)", "gaussian"), ("get_filter_radius(read(input_map).shape[0],fourier_pixels=lp_fourier_pixels,target_resolution=lp_target_resolution,pixel_size=pixel_size)", "lp_gaussian"), ("get_filter_radius(read(input_map).shape[0],fourier_pixels=hp_fourier_pixels,target_resolution=hp_target_resolution,pixel_size=pixel_size)", "hp_gaussian")]
    ∧ maskShapes = ["read(input_map).shape", "read(input_map).shape", "read(input_map).shape", "read(input_map).shape"] :=
  ⟨rfl, rfl⟩

/-- the three filters are `np.real(ifftn(fftn(x) * ifftshift(M)))` with `M` = mask, `ones − mask`,
`first mask − second mask` (x = `read(input_map)`, a copy of the caller's array) -/
theorem apply_expressions_documented :
    applyExprs = ["np.real(fft.ifftn(fft.fftn(read(input_map))*fft.ifftshift(MASK1)))", "np.real(fft.ifftn(fft.fftn(read(input_map))*fft.ifftshift(1-MASK1)))", "np.real(fft.ifftn(fft.fftn(read(input_map))*fft.ifftshift(MASK1-MASK2)))"] := rfl

/-- the box edge used for a resolution is `input_map.shape[0]` at all four sites — THE documented convention for
non-cubic maps (the harness judges the resolution form against it) -/
theorem box_edge_documented :
    boxEdges = ["read(input_map).shape[0]", "read(input_map).shape[0]", "read(input_map).shape[0]", "read(input_map).shape[0]"] := rfl

theorem band_keywords_documented :
    bandRadiusArgs = [("lp_fourier_pixels", "lp_target_resolution"), ("hp_fourier_pixels", "hp_target_resolution")] := rfl

theorem resolution_expressions_documented :
    res2pixExpr = "round(edge_size*pixel_size/resolution)" ∧ pix2resExpr = "edge_size*pixel_size/fourier_pixels" := ⟨rfl, rfl⟩

theorem filter_radius_branches_documented :
    filterRadiusBranches = [("fourier_pixels is not None", "fourier_pixels"),
      ("target_resolution is not None and pixel_size is not None", "resolution2pixels(target_resolution,edge_size=edge_size,pixel_size=pixel_size)"),
      ("else", "raise ValueError")] := rfl

/-- `spherical_mask`, statement by statement (locals renamed `L0, L1, …`): distance from `box_size // 2`, strict
`> radius` set to 0, the rest to 1, the centre voxel to 1, then `postprocess`. The model does not import the regenerated file:
`sphereStrict` is the hand-written value the model computes with, and this theorem says the source still agrees with it. -/
theorem sphere_documented :
    sphereOutsideStrict = sphereStrict ∧
    sphereStatements = ["0:mask_size=get_correct_format(mask_size)", "0:center=get_correct_format(center,reference_size=mask_size)", "0:ifradiusisNone:", "1:radius=np.amin(mask_size)//2", "0:radius=preprocess_params(radius,gaussian,gaussian_outwards)", "0:L0,L1,L2=np.mgrid[0:mask_size[0]:1,0:mask_size[1]:1,0:mask_size[2]:1]", "0:L3=np.sqrt((L0-center[0])**2+(L1-center[1])**2+(L2-center[2])**2)", "0:L3[L3>radius]=0", "0:L3[L3>0]=1", "0:L3[center[0],center[1],center[2]]=1", "0:L3=postprocess(L3,gaussian,np.asarray([0,0,0]),output_name)", "0:returnL3"] ∧
    centreExpr = "FN0(reference_size)//2" := ⟨rfl, rfl, rfl⟩

theorem blur_documented :
    enlargeCond = "gaussian!=0.0 and gaussian_outwards" ∧ blurSkipCond = "sigma==0" ∧
    blurCall = "filters.gaussian(input_mask,sigma=sigma)" := ⟨rfl, rfl, rfl⟩

/-- **signature defaults**: an omitted `gaussian` means width 3 for `lowpass`, 2 for `highpass`; `bandpass` defaults to
`lp_gaussian=3, hp_gaussian=2` (the harness omits the keyword in a share of the cases and judges against these) -/
theorem defaults_documented :
    defaultSigmas = [("lowpass.gaussian", "3"), ("highpass.gaussian", "2"), ("bandpass.lp_gaussian", "3"), ("bandpass.hp_gaussian", "2")] := rfl

/-- parameter names, order and defaults of the filters and helpers (cutoff keywords default to `None`) -/
theorem signatures_documented :
    signatures = [("lowpass", "input_map,fourier_pixels=None,target_resolution=None,pixel_size=None,gaussian=3,output_name=None"), ("highpass", "input_map,fourier_pixels=None,target_resolution=None,pixel_size=None,gaussian=2,output_name=None"), ("bandpass", "input_map,lp_fourier_pixels=None,lp_target_resolution=None,hp_fourier_pixels=None,hp_target_resolution=None,pixel_size=None,lp_gaussian=3,hp_gaussian=2,output_name=None"), ("get_filter_radius", "edge_size,fourier_pixels,target_resolution,pixel_size"), ("resolution2pixels", "resolution,edge_size,pixel_size,print_out=True"), ("pixels2resolution", "fourier_pixels,edge_size,pixel_size,print_out=True"), ("spherical_mask", "mask_size,radius=None,center=None,gaussian=0.0,gaussian_outwards=True,output_name=None")] := rfl

/-- every control-flow path of the filters and their helpers — conditions, calls made for their effect, returned
expression, local variables inlined: nothing but the documented pipeline runs (no cache, no shortcut, no in-place
edit of an argument), including the `output_name` branches the correspondence run never takes -/
theorem flow_documented :
    flowPaths = [("lowpass", ["[output_nameisnotNone]write(np.real(fft.ifftn(fft.fftn(read(input_map))*fft.ifftshift(cryomask.spherical_mask(read(input_map).shape,get_filter_radius(read(input_map).shape[0],fourier_pixels=fourier_pixels,target_resolution=target_resolution,pixel_size=pixel_size),gaussian=gaussian,gaussian_outwards=False)))),output_name,data_type=np.single);return np.real(fft.ifftn(fft.fftn(read(input_map))*fft.ifftshift(cryomask.spherical_mask(read(input_map).shape,get_filter_radius(read(input_map).shape[0],fourier_pixels=fourier_pixels,target_resolution=target_resolution,pixel_size=pixel_size),gaussian=gaussian,gaussian_outwards=False))))", "[not(output_nameisnotNone)]return np.real(fft.ifftn(fft.fftn(read(input_map))*fft.ifftshift(cryomask.spherical_mask(read(input_map).shape,get_filter_radius(read(input_map).shape[0],fourier_pixels=fourier_pixels,target_resolution=target_resolution,pixel_size=pixel_size),gaussian=gaussian,gaussian_outwards=False))))"]),
  ("highpass", ["[output_nameisnotNone]write(np.real(fft.ifftn(fft.fftn(read(input_map))*fft.ifftshift(1-cryomask.spherical_mask(read(input_map).shape,get_filter_radius(read(input_map).shape[0],fourier_pixels=fourier_pixels,target_resolution=target_resolution,pixel_size=pixel_size),gaussian=gaussian,gaussian_outwards=False)))),output_name,data_type=np.single);return np.real(fft.ifftn(fft.fftn(read(input_map))*fft.ifftshift(1-cryomask.spherical_mask(read(input_map).shape,get_filter_radius(read(input_map).shape[0],fourier_pixels=fourier_pixels,target_resolution=target_resolution,pixel_size=pixel_size),gaussian=gaussian,gaussian_outwards=False))))", "[not(output_nameisnotNone)]return np.real(fft.ifftn(fft.fftn(read(input_map))*fft.ifftshift(1-cryomask.spherical_mask(read(input_map).shape,get_filter_radius(read(input_map).shape[0],fourier_pixels=fourier_pixels,target_resolution=target_resolution,pixel_size=pixel_size),gaussian=gaussian,gaussian_outwards=False))))"]),
  ("bandpass", ["[output_nameisnotNone]write(cryomask.spherical_mask(read(input_map).shape,get_filter_radius(read(input_map).shape[0],fourier_pixels=lp_fourier_pixels,target_resolution=lp_target_resolution,pixel_size=pixel_size),gaussian=lp_gaussian,gaussian_outwards=False)-cryomask.spherical_mask(read(input_map).shape,get_filter_radius(read(input_map).shape[0],fourier_pixels=hp_fourier_pixels,target_resolution=hp_target_resolution,pixel_size=pixel_size),gaussian=hp_gaussian,gaussian_outwards=False),'band.em',data_type=np.single);write(np.real(fft.ifftn(fft.fftn(read(input_map))*fft.ifftshift(cryomask.spherical_mask(read(input_map).shape,get_filter_radius(read(input_map).shape[0],fourier_pixels=lp_fourier_pixels,target_resolution=lp_target_resolution,pixel_size=pixel_size),gaussian=lp_gaussian,gaussian_outwards=False)-cryomask.spherical_mask(read(input_map).shape,get_filter_radius(read(input_map).shape[0],fourier_pixels=hp_fourier_pixels,target_resolution=hp_target_resolution,pixel_size=pixel_size),gaussian=hp_gaussian,gaussian_outwards=False)))),output_name,data_type=np.single);return np.real(fft.ifftn(fft.fftn(read(input_map))*fft.ifftshift(cryomask.spherical_mask(read(input_map).shape,get_filter_radius(read(input_map).shape[0],fourier_pixels=lp_fourier_pixels,target_resolution=lp_target_resolution,pixel_size=pixel_size),gaussian=lp_gaussian,gaussian_outwards=False)-cryomask.spherical_mask(read(input_map).shape,get_filter_radius(read(input_map).shape[0],fourier_pixels=hp_fourier_pixels,target_resolution=hp_target_resolution,pixel_size=pixel_size),gaussian=hp_gaussian,gaussian_outwards=False))))", "[not(output_nameisnotNone)]write(cryomask.spherical_mask(read(input_map).shape,get_filter_radius(read(input_map).shape[0],fourier_pixels=lp_fourier_pixels,target_resolution=lp_target_resolution,pixel_size=pixel_size),gaussian=lp_gaussian,gaussian_outwards=False)-cryomask.spherical_mask(read(input_map).shape,get_filter_radius(read(input_map).shape[0],fourier_pixels=hp_fourier_pixels,target_resolution=hp_target_resolution,pixel_size=pixel_size),gaussian=hp_gaussian,gaussian_outwards=False),'band.em',data_type=np.single);return np.real(fft.ifftn(fft.fftn(read(input_map))*fft.ifftshift(cryomask.spherical_mask(read(input_map).shape,get_filter_radius(read(input_map).shape[0],fourier_pixels=lp_fourier_pixels,target_resolution=lp_target_resolution,pixel_size=pixel_size),gaussian=lp_gaussian,gaussian_outwards=False)-cryomask.spherical_mask(read(input_map).shape,get_filter_radius(read(input_map).shape[0],fourier_pixels=hp_fourier_pixels,target_resolution=hp_target_resolution,pixel_size=pixel_size),gaussian=hp_gaussian,gaussian_outwards=False))))"]),
  ("get_filter_radius", ["[not(fourier_pixelsisnotNone)&not(target_resolutionisnotNoneandpixel_sizeisnotNone)]raise ValueError", "[fourier_pixelsisnotNone&pixel_sizeisnotNone]unused:pixels2resolution(fourier_pixels=fourier_pixels,edge_size=edge_size,pixel_size=pixel_size);return fourier_pixels", "[fourier_pixelsisnotNone&not(pixel_sizeisnotNone)]return fourier_pixels", "[not(fourier_pixelsisnotNone)&target_resolutionisnotNoneandpixel_sizeisnotNone]return resolution2pixels(target_resolution,edge_size=edge_size,pixel_size=pixel_size)"]),
  ("resolution2pixels", ["[print_out]print(round(edge_size*pixel_size/resolution));return round(edge_size*pixel_size/resolution)", "[not(print_out)]return round(edge_size*pixel_size/resolution)"]),
  ("pixels2resolution", ["[print_out]print(edge_size*pixel_size/fourier_pixels);return edge_size*pixel_size/fourier_pixels", "[not(print_out)]return edge_size*pixel_size/fourier_pixels"]),
  ("preprocess_params", ["[gaussian!=0.0andgaussian_outwards]return np.ceil(radius+gaussian*5.0).astype(int)", "[not(gaussian!=0.0andgaussian_outwards)]return radius"]),
  ("postprocess", ["[]write_out(rotate(add_gaussian(input_mask,gaussian),angles),output_name);return rotate(add_gaussian(input_mask,gaussian),angles)"]),
  ("add_gaussian", ["[sigma==0]return input_mask", "[not(sigma==0)]return filters.gaussian(input_mask,sigma=sigma)"]),
  ("rotate", ["[anglesisNoneornotnp.any(angles)]return input_mask", "[not(anglesisNoneornotnp.any(angles))]return cryomap.rotate(input_mask,rotation_angles=angles)"]),
  ("write_out", ["[output_nameisnotNone]cryomap.write(input_mask,output_name,data_type=np.single);return None", "[not(output_nameisnotNone)]return None"])] := rfl

/-- whole-body dumps of `spherical_mask`, `get_correct_format` (a plain number may also be a numpy scalar, `np.integer` / `np.floating`,
since the fix "get_correct_format accepts numpy scalars"; the filters hand it the shape tuple, so nothing changes for them) and the array
branch of `cryomap.read` (which copies the caller's array: the filters never alias their argument) -/
theorem bodies_documented :
    bodyDumps = [("spherical_mask", ["0:mask_size=get_correct_format(mask_size)", "0:center=get_correct_format(center,reference_size=mask_size)", "0:ifradiusisNone:", "1:radius=np.amin(mask_size)//2", "0:radius=preprocess_params(radius,gaussian,gaussian_outwards)", "0:L0,L1,L2=np.mgrid[0:mask_size[0]:1,0:mask_size[1]:1,0:mask_size[2]:1]", "0:L3=np.sqrt((L0-center[0])**2+(L1-center[1])**2+(L2-center[2])**2)", "0:L3[L3>radius]=0", "0:L3[L3>0]=1", "0:L3[center[0],center[1],center[2]]=1", "0:L3=postprocess(L3,gaussian,np.asarray([0,0,0]),output_name)", "0:returnL3"]),
  ("get_correct_format", ["0:defL0(L1):", "1:ifisinstance(L1,(tuple,list,np.ndarray)):", "2:iflen(L1)==3:", "3:returnnp.asarray(L1).astype(int)", "2:eliflen(L1)==1:", "3:returnnp.full((3,),L1).astype(int)", "2:else:", "3:raiseValueError", "1:elifisinstance(L1,(float,int,np.integer,np.floating)):", "2:returnnp.full((3,),L1).astype(int)", "0:ifinput_valueisnotNone:", "1:L2=L0(input_value)", "0:elifreference_sizeisnotNone:", "1:L3=L0(reference_size)", "1:L2=L3//2", "0:else:", "1:raiseValueError", "0:returnL2"]),
  ("read[ndarray]", ["[not(isinstance(input_map,str))&isinstance(input_map,np.ndarray)&data_typeisnotNone]return np.array(np.array(input_map),copy=True).astype(data_type)", "[not(isinstance(input_map,str))&isinstance(input_map,np.ndarray)&not(data_typeisnotNone)]return np.array(np.array(input_map),copy=True)"])] := rfl

/-- `freq n j` — the offset from the mask centre of the voxel that `ifftshift` puts on DFT bin `j` —
is the signed integer frequency of that bin: congruent to `j` modulo `n`, in `[-⌊n/2⌋, n-⌊n/2⌋)`,
and it is the only such integer. Even and odd `n`. -/
theorem freq_spec (n : Nat) (hn : 0 < n) (j : Int) :
    (∃ c : Int, freq n j - j = (n : Int) * c) ∧ -((n / 2 : Nat) : Int) ≤ freq n j ∧ freq n j < (n : Int) - ((n / 2 : Nat) : Int) ∧
    ∀ a : Int, -((n / 2 : Nat) : Int) ≤ a → a < (n : Int) - ((n / 2 : Nat) : Int) → (∃ c : Int, a - j = (n : Int) * c) → freq n j = a :=
  ⟨freq_dvd n j, (freq_range n hn j).1, (freq_range n hn j).2, fun _ h1 h2 h3 => Layout.sres_unique h1 h2 h3⟩

/-- opposite frequencies have the same radius (also at the Nyquist bin of an even axis) -/
theorem freqRadius2_neg (d : Dims) (hd : 0 < d.nx ∧ 0 < d.ny ∧ 0 < d.nz) (j k l : Int) :
    freqRadius2 d (negIdx d.nx j) (negIdx d.ny k) (negIdx d.nz l) = freqRadius2 d j k l := by
  unfold freqRadius2
  rw [freq_neg_sq _ hd.1, freq_neg_sq _ hd.2.1, freq_neg_sq _ hd.2.2]

section gains
set_option linter.unusedSectionVars false
variable {K : Type} [Field K] [LinearOrder K] [IsStrictOrderedRing K]

/-- **Without a soft edge the low-pass gain is exactly 1 up to the cutoff radius and 0 beyond it**,
as a function of the integer frequency radius; any box (cubic or not, even or odd edges), any cutoff ≥ 0. -/
theorem hard_gain (d : Dims) (r : Int) (hr : 0 ≤ r) (j k l : Int) :
    lowGainFn (none : Option (List (Int × K))) d r j k l = if freqRadius2 d j k l ≤ r * r then 1 else 0 := by
  -- the squared distance of the voxel `ifftshift` puts on the bin from the mask centre IS `freqRadius2` (by definition of `freq`)
  exact if_congr (inBall_iff d r hr _ _ _) rfl rfl

/-- the hard gain is even, so the spectrum of a real map stays Hermitian and `np.real` drops nothing -/
theorem hard_gain_even (d : Dims) (hd : 0 < d.nx ∧ 0 < d.ny ∧ 0 < d.nz) (r : Int) (hr : 0 ≤ r) (j k l : Int) :
    lowGainFn (none : Option (List (Int × K))) d r (negIdx d.nx j) (negIdx d.ny k) (negIdx d.nz l)
      = lowGainFn (none : Option (List (Int × K))) d r j k l := by
  rw [hard_gain d r hr, hard_gain d r hr, freqRadius2_neg d hd]

/-- hence the effective gain of the hard filter is the gain itself -/
theorem hard_gain_effective (d : Dims) (hd : 0 < d.nx ∧ 0 < d.ny ∧ 0 < d.nz) (r : Int) (hr : 0 ≤ r) (j k l : Int) :
    effGain d (lowGainFn (none : Option (List (Int × K))) d r) j k l = lowGainFn (none : Option (List (Int × K))) d r j k l := by
  simp only [effGain]
  rw [hard_gain_even d hd r hr]
  ring

/-! The Gaussian edge. Every theorem holds for any non-negative unit-sum kernel of support `t` (`ValidKernel`). -/

/-- **gain in [0,1]** -/
theorem soft_gain_range (ker : List (Int × K)) (t : Nat) (hk : ValidKernel t ker) (d : Dims) (r : Int) (j k l : Int) :
    0 ≤ lowGainFn (some ker) d r j k l ∧ lowGainFn (some ker) d r j k l ≤ 1 := by
  simp only [lowGainFn, shiftVol, lowMaskFn]
  constructor
  · have := blur3_mono ker hk.nonneg d (fun _ _ _ => 0) (sphere d r) (shiftIdx d.nx j) (shiftIdx d.ny k) (shiftIdx d.nz l)
      (fun x y z => (sphere_range d r x y z).1)
    rwa [blur3_const ker hk.unit] at this
  · have := blur3_mono ker hk.nonneg d (sphere d r) (fun _ _ _ => 1) (shiftIdx d.nx j) (shiftIdx d.ny k) (shiftIdx d.nz l)
      (fun x y z => (sphere_range d r x y z).2)
    rwa [blur3_const ker hk.unit] at this

/-- **how far from 1 / from 0 in between**: `1 − gain` is at most the kernel weight of the offsets whose
(edge-clamped) voxel leaves the ball, and `gain` at most the weight of those that enter it. -/
theorem soft_gain_tail (ker : List (Int × K)) (t : Nat) (hk : ValidKernel t ker) (d : Dims)
    (hd : 0 < d.nx ∧ 0 < d.ny ∧ 0 < d.nz) (r : Int) (j k l : Int) :
    1 - lowGainFn (some ker) d r j k l
        = blur3Fn ker d (fun x y z => if inBall d r x y z then 0 else 1) (shiftIdx d.nx j) (shiftIdx d.ny k) (shiftIdx d.nz l)
    ∧ lowGainFn (some ker) d r j k l
        = blur3Fn ker d (fun x y z => if inBall d r x y z then 1 else 0) (shiftIdx d.nx j) (shiftIdx d.ny k) (shiftIdx d.nz l) := by
  refine ⟨?_, rfl⟩
  simp only [lowGainFn, shiftVol, lowMaskFn]
  rw [blur3_one_sub ker hk.unit]
  congr 1
  funext x y z
  simp only [sphere]
  split_ifs <;> simp

/-- **soft-edge margin, inside — strongest form.** For a frequency of squared integer radius `≤ A` and a
squared reach `m` with `√A + √m ≤ r` (written without square roots: `A + m ≤ r²` and
`4·A·m ≤ (r² − A − m)²`) the gain is at least `1 − tail3 ker m`, where `tail3 ker m` is the weight the
separable kernel carries at offsets of squared Euclidean length `> m`. Holds for every non-negative
unit-sum kernel, every box (also where `mode='nearest'` clamps at a face), every cutoff `r ≥ 0`. -/
theorem soft_gain_inside (ker : List (Int × K)) (t : Nat) (hk : ValidKernel t ker) (d : Dims)
    (hd : 0 < d.nx ∧ 0 < d.ny ∧ 0 < d.nz) (r : Int) (hr : 0 ≤ r) (A m : Int) (j k l : Int)
    (hA : freqRadius2 d j k l ≤ A) (h1 : A + m ≤ r * r) (h2 : 4 * (A * m) ≤ (r * r - A - m) * (r * r - A - m)) :
    1 - tail3 ker m ≤ lowGainFn (some ker) d r j k l := by
  have ht := (soft_gain_tail ker t hk d hd r j k l).1
  have hle : blur3Fn ker d (fun x y z => if inBall d r x y z then (0 : K) else 1) (shiftIdx d.nx j) (shiftIdx d.ny k) (shiftIdx d.nz l)
      ≤ tail3 ker m := by
    apply blur3_le_tail ker hk.nonneg
    · intro a b c; split_ifs
      · exact zero_le_one
      · exact le_refl _
    · intro qx qy qz hq
      obtain ⟨a, b, c, hle, e⟩ := clamped_dist2 d hd j k l qx qy qz
      rw [if_pos ((inBall_iff d r hr _ _ _).2 (e ▸ reach_inside _ _ _ a b c A m r hA (hle.trans hq) h1 h2))]
  linarith

/-- **soft-edge margin, outside — strongest form.** For a frequency of squared integer radius `≥ A` and a
squared reach `m` with `√A > r + √m` (`r² + m < A` and `4·r²·m < (A − r² − m)²`) the gain is at most
`tail3 ker m`. -/
theorem soft_gain_outside (ker : List (Int × K)) (t : Nat) (hk : ValidKernel t ker) (d : Dims)
    (hd : 0 < d.nx ∧ 0 < d.ny ∧ 0 < d.nz) (r : Int) (hr : 0 ≤ r) (A m : Int) (j k l : Int)
    (hA : A ≤ freqRadius2 d j k l) (h1 : r * r + m < A) (h2 : 4 * (r * r * m) < (A - r * r - m) * (A - r * r - m)) :
    lowGainFn (some ker) d r j k l ≤ tail3 ker m := by
  rw [(soft_gain_tail ker t hk d hd r j k l).2]
  apply blur3_le_tail ker hk.nonneg
  · intro a b c; split_ifs
    · exact le_refl _
    · exact zero_le_one
  · intro qx qy qz hq
    obtain ⟨a, b, c, hle, e⟩ := clamped_dist2 d hd j k l qx qy qz
    rw [if_neg (fun hin => reach_outside _ _ _ a b c A m r hA (hle.trans hq) h1 h2 (e ▸ (inBall_iff d r hr _ _ _).1 hin))]

/-- what the driver evaluates per DFT bin (`fitsInside` / `fitsOutside` on the bin's squared radius) and
hands to the harness together with `tail3`: where the flag is set, the bound holds -/
theorem soft_margin_checked (ker : List (Int × K)) (t : Nat) (hk : ValidKernel t ker) (d : Dims)
    (hd : 0 < d.nx ∧ 0 < d.ny ∧ 0 < d.nz) (r : Int) (hr : 0 ≤ r) (m : Int) (j k l : Int) :
    (fitsInside (freqRadius2 d j k l) m r = true → 1 - tail3 ker m ≤ lowGainFn (some ker) d r j k l) ∧
    (fitsOutside (freqRadius2 d j k l) m r = true → lowGainFn (some ker) d r j k l ≤ tail3 ker m) := by
  constructor
  · intro h
    simp only [fitsInside, Bool.and_eq_true, decide_eq_true_eq] at h
    exact soft_gain_inside ker t hk d hd r hr _ m j k l (le_refl _) h.1 h.2
  · intro h
    simp only [fitsOutside, Bool.and_eq_true, decide_eq_true_eq] at h
    exact soft_gain_outside ker t hk d hd r hr _ m j k l (le_refl _) h.1 h.2

/-- the margin clauses of `SoftEdgeFull` in the form that IS true for every valid kernel, integer margin `s`: radius `≤ cutoff − s` ⇒
gain `≥ 1 − `(weight at offsets longer than `s`) … (the harness uses exactly these two numbers, `tail3 ker s²` and `tail3 ker (s² − 1)`
evaluated by the driver on the executed kernel, as the tolerance of the margin clauses) -/
theorem soft_gain_inside_margin (ker : List (Int × K)) (t : Nat) (hk : ValidKernel t ker) (d : Dims)
    (hd : 0 < d.nx ∧ 0 < d.ny ∧ 0 < d.nz) (r ρ s : Int) (hρ : 0 ≤ ρ) (hs : 0 ≤ s) (j k l : Int)
    (hin : freqRadius2 d j k l ≤ ρ * ρ) (hfit : ρ + s ≤ r) :
    1 - tail3 ker (s * s) ≤ lowGainFn (some ker) d r j k l := by
  have hρs : 0 ≤ ρ * s := mul_nonneg hρ hs
  have hsq : (ρ + s) * (ρ + s) ≤ r * r := mul_self_le_mul_self (by omega) hfit
  -- `A = ρ²`, `m = s²`: `r² − ρ² − s² ≥ 2ρs ≥ 0`, squared
  have h2 : 2 * (ρ * s) ≤ r * r - ρ * ρ - s * s := by linarith
  have := mul_self_le_mul_self (by linarith : (0 : Int) ≤ 2 * (ρ * s)) h2
  exact soft_gain_inside ker t hk d hd r (by omega) (ρ * ρ) (s * s) j k l hin (by linarith) (by linarith)

/-- … and radius `≥ cutoff + s` ⇒ gain `≤` weight at offsets of length `≥ s` (squared length `> s² − 1`) -/
theorem soft_gain_outside_margin (ker : List (Int × K)) (t : Nat) (hk : ValidKernel t ker) (d : Dims)
    (hd : 0 < d.nx ∧ 0 < d.ny ∧ 0 < d.nz) (r ρ s : Int) (hr : 0 ≤ r) (hs : 0 ≤ s) (j k l : Int)
    (hout : ρ * ρ ≤ freqRadius2 d j k l) (hfar : r + s ≤ ρ) :
    lowGainFn (some ker) d r j k l ≤ tail3 ker (s * s - 1) := by
  have hrs : 0 ≤ r * s := mul_nonneg hr hs
  have hsq : (r + s) * (r + s) ≤ ρ * ρ := mul_self_le_mul_self (by omega) hfar
  -- `A = ρ²`, `m = s² − 1`: `ρ² − r² − (s² − 1) ≥ 2rs + 1 > 0`, squared
  have h2 : 2 * (r * s) + 1 ≤ ρ * ρ - r * r - (s * s - 1) := by linarith
  have := mul_self_le_mul_self (by linarith : (0 : Int) ≤ 2 * (r * s) + 1) h2
  exact soft_gain_outside ker t hk d hd r hr (ρ * ρ) (s * s - 1) j k l hout (by linarith)
    (by linarith [mul_self_nonneg r])

/-- **gain exactly 1 well inside**: integer frequency radius ≤ ρ, the kernel's reach `√3·t ≤ s`,
and `ρ + s ≤ cutoff` (no square roots needed: `|k|² ≤ ρ²`, `3t² ≤ s²`). -/
theorem soft_gain_one (ker : List (Int × K)) (t : Nat) (hk : ValidKernel t ker) (d : Dims)
    (hd : 0 < d.nx ∧ 0 < d.ny ∧ 0 < d.nz) (r ρ s : Int) (hρ : 0 ≤ ρ) (hs : 0 ≤ s)
    (j k l : Int) (hin : freqRadius2 d j k l ≤ ρ * ρ) (hreach : 3 * ((t : Int) * (t : Int)) ≤ s * s) (hfit : ρ + s ≤ r) :
    lowGainFn (some ker) d r j k l = 1 := by
  have h := soft_gain_inside_margin ker t hk d hd r ρ s hρ hs j k l hin hfit
  rw [tail3_zero ker t hk.within (s * s) hreach, sub_zero] at h
  exact le_antisymm (soft_gain_range ker t hk d r j k l).2 h

/-- **gain exactly 0 well outside**: integer frequency radius ≥ ρ > cutoff + s -/
theorem soft_gain_zero (ker : List (Int × K)) (t : Nat) (hk : ValidKernel t ker) (d : Dims)
    (hd : 0 < d.nx ∧ 0 < d.ny ∧ 0 < d.nz) (r ρ s : Int) (hr : 0 ≤ r) (hs : 0 ≤ s)
    (j k l : Int) (hout : ρ * ρ ≤ freqRadius2 d j k l) (hreach : 3 * ((t : Int) * (t : Int)) ≤ s * s) (hfar : r + s < ρ) :
    lowGainFn (some ker) d r j k l = 0 := by
  -- `ρ ≥ cutoff + (s + 1)`, and offsets of squared length `> (s + 1)² − 1 ≥ s²` carry no weight
  have h := soft_gain_outside_margin ker t hk d hd r ρ (s + 1) hr (by omega) j k l hout (by omega)
  rw [tail3_zero ker t hk.within _ (by linarith : 3 * ((t : Int) * (t : Int)) ≤ (s + 1) * (s + 1) - 1)] at h
  exact le_antisymm h (soft_gain_range ker t hk d r j k l).1

theorem soft_tail_range (ker : List (Int × K)) (t : Nat) (hk : ValidKernel t ker) (m m' : Int) (h : m ≤ m') :
    0 ≤ tail3 ker m' ∧ tail3 ker m' ≤ tail3 ker m ∧ tail3 ker m ≤ 1 :=
  ⟨tail3_nonneg ker hk.nonneg m', tail3_antitone ker hk.nonneg m m' h, tail3_le_one ker hk.nonneg hk.unit m⟩

theorem soft_gain_mono_cutoff (ker : Option (List (Int × K))) (t : Nat) (hk : ∀ k' ∈ ker, ValidKernel t k') (d : Dims)
    (r r' : Int) (hr : 0 ≤ r) (hrr : r ≤ r') (j k l : Int) :
    lowGainFn ker d r j k l ≤ lowGainFn ker d r' j k l := by
  have hs : ∀ x y z, (sphere d r x y z : K) ≤ sphere d r' x y z := by
    intro x y z
    simp only [sphere]
    by_cases h : inBall d r x y z = true
    · rw [if_pos h, if_pos ((inBall_iff d r' (by omega) _ _ _).2 (((inBall_iff d r hr _ _ _).1 h).trans (mul_self_le_mul_self hr hrr)))]
    · rw [if_neg h]
      exact (sphere_range d r' x y z).1
  cases ker with
  | none => exact hs _ _ _
  | some k' => exact blur3_mono k' (hk k' rfl).nonneg d _ _ _ _ _ hs

/-- the high-pass gain is the exact complement of the low-pass gain with the same parameters (a definitional unfolding of
`highGainFn`, kept as an anchor of the wording; the clause itself is `filt_complement` / `highpass_complement_complex`, tied to the
code by `apply_expressions_documented` and the measured `complement` check) -/
theorem high_gain_complement (ker : Option (List (Int × K))) (d : Dims) (r : Int) (j k l : Int) :
    highGainFn ker d r j k l = 1 - lowGainFn ker d r j k l := rfl

/-- the band-pass gain is the difference of its two low-pass gains (definitional unfolding of `bandGainFn`; the clause is
`filt_difference` / `bandpass_difference_complex`) -/
theorem band_gain_difference (kl kh : Option (List (Int × K))) (d : Dims) (lp hp : Int) (j k l : Int) :
    bandGainFn kl kh d lp hp j k l = lowGainFn kl d lp j k l - lowGainFn kh d hp j k l := rfl

theorem low_gain_range (ker : Option (List (Int × K))) (t : Nat) (hk : ∀ k' ∈ ker, ValidKernel t k') (d : Dims)
    (r : Int) (j k l : Int) :
    0 ≤ lowGainFn ker d r j k l ∧ lowGainFn ker d r j k l ≤ 1 := by
  cases ker with
  | none => exact sphere_range d r _ _ _
  | some k' => exact soft_gain_range k' t (hk k' rfl) d r j k l

/-- the high-pass gain lies in [0,1] too -/
theorem high_gain_range (ker : Option (List (Int × K))) (t : Nat) (hk : ∀ k' ∈ ker, ValidKernel t k') (d : Dims)
    (hd : 0 < d.nx ∧ 0 < d.ny ∧ 0 < d.nz) (r : Int) (j k l : Int) :
    0 ≤ highGainFn ker d r j k l ∧ highGainFn ker d r j k l ≤ 1 := by
  have := low_gain_range ker t hk d r j k l
  rw [high_gain_complement]
  exact ⟨sub_nonneg.2 this.2, sub_le_self _ this.1⟩

/-- The band-pass gain lies in [0,1] when both masks use the same edge and `0 ≤ hp ≤ lp`.
(With different widths the difference of two low-passes can be negative: e.g. a hard outer and a wide
inner edge; the statement's range clause is therefore read for nested masks.) -/
theorem band_gain_range_nested (ker : Option (List (Int × K))) (t : Nat) (hk : ∀ k' ∈ ker, ValidKernel t k') (d : Dims)
    (hd : 0 < d.nx ∧ 0 < d.ny ∧ 0 < d.nz) (lp hp : Int) (h0 : 0 ≤ hp) (h1 : hp ≤ lp) (j k l : Int) :
    0 ≤ bandGainFn ker ker d lp hp j k l ∧ bandGainFn ker ker d lp hp j k l ≤ 1 := by
  have m := soft_gain_mono_cutoff ker t hk d hp lp h0 h1 j k l
  have a := low_gain_range ker t hk d lp j k l
  have b := low_gain_range ker t hk d hp j k l
  rw [band_gain_difference]
  exact ⟨sub_nonneg.2 m, (sub_le_self _ b.1).trans a.2⟩

/-- for ANY two edges and ANY two cutoffs the band-pass gain lies in [-1,1] (difference of two gains in [0,1]); the
lower bound 0 of the statement needs the nesting hypotheses of `band_gain_range_nested`: see the two witnesses below -/
theorem band_gain_bounds (kl kh : Option (List (Int × K))) (t t' : Nat) (hl : ∀ k' ∈ kl, ValidKernel t k') (hh : ∀ k' ∈ kh, ValidKernel t' k')
    (d : Dims) (hd : 0 < d.nx ∧ 0 < d.ny ∧ 0 < d.nz) (lp hp : Int) (j k l : Int) :
    -1 ≤ bandGainFn kl kh d lp hp j k l ∧ bandGainFn kl kh d lp hp j k l ≤ 1 := by
  have a := low_gain_range kl t hl d lp j k l
  have b := low_gain_range kh t' hh d hp j k l
  rw [band_gain_difference]
  constructor <;> linarith [a.1, a.2, b.1, b.2]

theorem effective_gain_range (d : Dims) (g : Vol K) (h : ∀ j k l, 0 ≤ g j k l ∧ g j k l ≤ 1) (j k l : Int) :
    0 ≤ effGain d g j k l ∧ effGain d g j k l ≤ 1 := by
  simp only [effGain]
  have a := h j k l
  have b := h (negIdx d.nx j) (negIdx d.ny k) (negIdx d.nz l)
  exact ⟨div_nonneg (add_nonneg a.1 b.1) zero_le_two, (div_le_one two_pos).2 (by linarith [a.2, b.2])⟩

/-- the kernel the driver builds (for any positive `exp`) is valid over every ordered FIELD `K`, so every soft-edge theorem applies
to the model's definitions. NOT instantiable at `Float` (no ordered field): what the driver executes is the same `gaussKernel`
term at `Float` with `Float.exp`; that its weights are non-negative, of unit sum (1e-12), symmetric and non-increasing is PROBED on
every run, not proved -/
theorem model_kernel_valid [BEq K] (expf : K → K) (hexp : ∀ x, 0 < expf x) (ofI : Int → K) (trunc : K → Nat) (sigma : K) :
    ∀ k' ∈ kernelFor expf ofI trunc sigma, ValidKernel (trunc sigma) k' :=
  fun _ hk' => kernelFor_mem expf ofI trunc sigma hk' ▸ gaussKernel_valid expf hexp ofI sigma (trunc sigma)

end gains

/-- What the statement says literally about the Gaussian edge and what is NOT proved here: with the
truncated Gaussian of width `σ` the gain is 1 for radius ≤ cutoff−4σ−1, 0 for radius ≥ cutoff+4σ+1 and
non-increasing in the radius in between. In exact arithmetic the first two hold only up to the weight of
the kernel's corner offsets (`soft_gain_inside/outside` give the exact bound `tail3`, which the harness uses) and
the third is proved for the effective gain on every ray whose moving axes keep the ball off the faces of the mask
box (`soft_edge_monotone_rays_partial`) and, more generally, wherever `faceRise` vanishes (`soft_eff_gain_mono_step_reach`); on an even
axis whose upper face the ball reaches it is false in general (`soft_monotone_false_at_face`; the executed model
rises by ~4e-8 on boxes like 10×25×10, cutoff 12) and holds up to `faceRise/2` (`soft_eff_gain_step_bound`). Kept as a statement, no proof claimed. -/
def SoftEdgeFull {K : Type} [Field K] [LinearOrder K] [IsStrictOrderedRing K]
    (ker : List (Int × K)) (d : Dims) (r : Int) (fourSigmaPlusOne : Int) : Prop :=
  (∀ j k l ρ : Int, 0 ≤ ρ → freqRadius2 d j k l ≤ ρ * ρ → ρ ≤ r - fourSigmaPlusOne → lowGainFn (some ker) d r j k l = 1) ∧
  (∀ j k l ρ : Int, ρ * ρ ≤ freqRadius2 d j k l → r + fourSigmaPlusOne ≤ ρ → lowGainFn (some ker) d r j k l = 0) ∧
  (∀ j k l m : Int, 0 ≤ m → lowGainFn (some ker) d r ((m + 1) * j) ((m + 1) * k) ((m + 1) * l) ≤ lowGainFn (some ker) d r (m * j) (m * k) (m * l))

section softedge
set_option linter.unusedSectionVars false
variable {K : Type} [Field K] [LinearOrder K] [IsStrictOrderedRing K]

/-- the two margin clauses of `SoftEdgeFull` hold literally (`= 1`, `= 0`) as soon as the margin exceeds the kernel's reach `√3·t`; below it they
hold in the form of `soft_gain_inside_margin` / `soft_gain_outside_margin` -/
theorem soft_edge_exact_beyond_reach (ker : List (Int × K)) (t : Nat) (hk : ValidKernel t ker) (d : Dims)
    (hd : 0 < d.nx ∧ 0 < d.ny ∧ 0 < d.nz) (r M : Int) (hr : 0 ≤ r) (hM : 0 ≤ M)
    (hreach : 3 * ((t : Int) * (t : Int)) ≤ M * M - 1) :
    (∀ j k l ρ : Int, 0 ≤ ρ → freqRadius2 d j k l ≤ ρ * ρ → ρ ≤ r - M → lowGainFn (some ker) d r j k l = 1) ∧
    (∀ j k l ρ : Int, ρ * ρ ≤ freqRadius2 d j k l → r + M ≤ ρ → lowGainFn (some ker) d r j k l = 0) := by
  constructor
  · intro j k l ρ h0 hin hfit
    exact soft_gain_one ker t hk d hd r ρ M h0 hM j k l hin (by omega) (by omega)
  · intro j k l ρ hout hfar
    have h := soft_gain_outside_margin ker t hk d hd r ρ M hr hM j k l hout hfar
    rw [tail3_zero ker t hk.within _ hreach] at h
    exact le_antisymm h (soft_gain_range ker t hk d r j k l).1
end softedge

section monotone
set_option linter.unusedSectionVars false
variable {K : Type} [Field K] [LinearOrder K] [IsStrictOrderedRing K]

/-- `faceRise` is 0 when the ball stays off the upper face of the axis or the axis is odd -/
theorem face_rise_zero (ker : List (Int × K)) (n : Nat) (r : Int) (h : centre n + r + 1 < (n : Int) ∨ n % 2 = 1) :
    faceRise ker n r = 0 := if_pos h

/-- **the RAW gain along ANY step away from frequency 0** (each index keeps its frequency or moves one bin away from 0 —
`AnyAwayStep`, no condition on the faces; axis-parallel and diagonal): it rises by at most `faceRise` per index whose frequency goes UP.
Steps towards lower (more negative) frequencies never raise it: with the centre at `⌊n/2⌋` a row of the ball that reaches the lower
face reaches the upper one too, and `mode='nearest'` makes its blur constant. -/
theorem soft_gain_step_bound (ker : List (Int × K)) (hk : UnimodalKernel ker) (d : Dims)
    (hd : 0 < d.nx ∧ 0 < d.ny ∧ 0 < d.nz) (r : Int) (hr : 0 ≤ r) (j k l j' k' l' : Int)
    (hx : AnyAwayStep d.nx j j') (hy : AnyAwayStep d.ny k k') (hz : AnyAwayStep d.nz l l') :
    lowGainFn (some ker) d r j' k' l' ≤ lowGainFn (some ker) d r j k l
      + (upRise ker d.nx r j j' + upRise ker d.ny r k k' + upRise ker d.nz r l l') := by
  -- a diagonal step is a chain of three axis-parallel ones, each at the position reached so far
  have a1 := ((lowGain_rows_x ker hk d hd.1 r hr k' l').away_step hk.nonneg hd.1 j j' hx).1
  have a2 := ((lowGain_rows_y ker hk d hd.2.1 r hr j l').away_step hk.nonneg hd.2.1 k k' hy).1
  have a3 := ((lowGain_rows_z ker hk d hd.2.2 r hr j k).away_step hk.nonneg hd.2.2 l l' hz).1
  linarith

/-- **the EFFECTIVE gain (what the harness measures) along ANY step away from frequency 0, Nyquist landings included: monotone
unless an index moves on an even axis whose upper face the ball reaches, and then the rise is at most half the kernel weight at
offset `n/2` per such index** (`stepRise` = `faceRise` for an index that moves, 0 for one that stays). -/
theorem soft_eff_gain_step_bound (ker : List (Int × K)) (hk : UnimodalKernel ker) (d : Dims)
    (hd : 0 < d.nx ∧ 0 < d.ny ∧ 0 < d.nz) (r : Int) (hr : 0 ≤ r) (j k l j' k' l' : Int)
    (hx : AnyAwayStep d.nx j j') (hy : AnyAwayStep d.ny k k') (hz : AnyAwayStep d.nz l l') :
    effGain d (lowGainFn (some ker) d r) j' k' l' ≤ effGain d (lowGainFn (some ker) d r) j k l
      + (stepRise ker d.nx r j j' + stepRise ker d.ny r k k' + stepRise ker d.nz r l l') / 2 := by
  have a := soft_gain_step_bound ker hk d hd r hr j k l j' k' l' hx hy hz
  have b1 := ((lowGain_rows_x ker hk d hd.1 r hr (negIdx d.ny k') (negIdx d.nz l')).away_step hk.nonneg hd.1 j j' hx).2
  have b2 := ((lowGain_rows_y ker hk d hd.2.1 r hr (negIdx d.nx j) (negIdx d.nz l')).away_step hk.nonneg hd.2.1 k k' hy).2
  have b3 := ((lowGain_rows_z ker hk d hd.2.2 r hr (negIdx d.nx j) (negIdx d.ny k)).away_step hk.nonneg hd.2.2 l l' hz).2
  have e1 := up_down_rise ker d.nx r j j' hx
  have e2 := up_down_rise ker d.ny r k k' hy
  have e3 := up_down_rise ker d.nz r l l' hz
  simp only [effGain]
  rw [← add_div, div_le_div_iff_of_pos_right (by norm_num : (0 : K) < 2)]
  linarith

/-- `faceRise` is 0 (besides `face_rise_zero`) when the kernel's support `t` is shorter than `n/2` (for the model's kernel `t = int(4σ+0.5)`: every `σ ≤ 4` on axes
`n ≥ 34`, `σ ≤ 0.875` on the statement's smallest axis `n = 8`); in general it is a kernel weight, in `[0, wt ker ⌊n/2⌋]` -/
theorem face_rise_zero_short_kernel (ker : List (Int × K)) (t : Nat) (hw : KerWithin t ker) (n : Nat) (r : Int)
    (ht : (t : Int) < centre n) : faceRise ker n r = 0 := by
  unfold faceRise
  split_ifs
  · rfl
  · exact wt_zero_of_within ker t hw _ (Or.inl ht)

theorem face_rise_range (ker : List (Int × K)) (hn : KerNonneg ker) (n : Nat) (r : Int) :
    0 ≤ faceRise ker n r ∧ faceRise ker n r ≤ wt ker (centre n) := by
  refine ⟨faceRise_nonneg ker hn n r, ?_⟩
  unfold faceRise
  split_ifs
  · exact wt_nonneg ker hn _
  · exact le_refl _

/-- **exactly when "non-increasing" can fail** (`soft_monotone_false_at_face` generalised): if the raw gain rises along a step of
the x index one bin up from a frequency `≥ 0`, then the axis is even, the ball reaches its upper face (`⌊n/2⌋ + r + 1 ≥ n`) and the
kernel has weight at offset `n/2`. (Same for y, z by symmetry of the statement; `soft_monotone_false_at_face` shows such a rise
does occur: 1/128 with `faceRise = 1/8`, `soft_monotone_face_witness`.) -/
theorem soft_monotone_fails_only_if (ker : List (Int × K)) (hk : UnimodalKernel ker) (d : Dims)
    (hd : 0 < d.nx ∧ 0 < d.ny ∧ 0 < d.nz) (r : Int) (hr : 0 ≤ r) (j k l j' : Int)
    (h0 : 0 ≤ freq d.nx j) (h1 : freq d.nx j' = freq d.nx j + 1)
    (hrise : lowGainFn (some ker) d r j k l < lowGainFn (some ker) d r j' k l) :
    d.nx % 2 = 0 ∧ (d.nx : Int) ≤ centre d.nx + r + 1 ∧ 0 < wt ker (centre d.nx) := by
  have h := ((lowGain_rows_x ker hk d hd.1 r hr k l).away_step hk.nonneg hd.1 j j' (Or.inr (Or.inl ⟨h0, h1⟩))).1
  unfold upRise at h
  rw [if_pos h1] at h
  have hpos : 0 < faceRise ker d.nx r := by linarith
  unfold faceRise at hpos
  split_ifs at hpos with hc
  · exact absurd hpos (lt_irrefl _)
  · exact ⟨by omega, by omega, hpos⟩

/-- **exact monotonicity of the effective gain wherever `faceRise` vanishes on the moving axes** — in particular on every odd axis,
on every axis whose upper face the ball stays off (that is `monoAxisOk`), and on every axis longer than twice the kernel's support -/
theorem soft_eff_gain_mono_step_reach (ker : List (Int × K)) (hk : UnimodalKernel ker) (d : Dims)
    (hd : 0 < d.nx ∧ 0 < d.ny ∧ 0 < d.nz) (r : Int) (hr : 0 ≤ r) (j k l j' k' l' : Int)
    (hx : AnyAwayStep d.nx j j') (hy : AnyAwayStep d.ny k k') (hz : AnyAwayStep d.nz l l')
    (zx : freq d.nx j' = freq d.nx j ∨ faceRise ker d.nx r = 0) (zy : freq d.ny k' = freq d.ny k ∨ faceRise ker d.ny r = 0)
    (zz : freq d.nz l' = freq d.nz l ∨ faceRise ker d.nz r = 0) :
    effGain d (lowGainFn (some ker) d r) j' k' l' ≤ effGain d (lowGainFn (some ker) d r) j k l := by
  have h := soft_eff_gain_step_bound ker hk d hd r hr j k l j' k' l' hx hy hz
  rw [(rise_zero ker _ r _ _ zx).2, (rise_zero ker _ r _ _ zy).2, (rise_zero ker _ r _ _ zz).2] at h
  simpa using h

/-- **what the judge's clause `soft-monotone` evaluates on the measured gain**: for each axis, every step of that one index away
from frequency 0 (Nyquist landing included), at every position of the other two indices: the rise is at most `faceRise/2`, the
number the driver reports per axis (`face_rise`) -/
theorem soft_eff_gain_axis_step_checked (ker : List (Int × K)) (hk : UnimodalKernel ker) (d : Dims)
    (hd : 0 < d.nx ∧ 0 < d.ny ∧ 0 < d.nz) (r : Int) (hr : 0 ≤ r) (j k l i' : Int) :
    (AnyAwayStep d.nx j i' → effGain d (lowGainFn (some ker) d r) i' k l ≤ effGain d (lowGainFn (some ker) d r) j k l + faceRise ker d.nx r / 2) ∧
    (AnyAwayStep d.ny k i' → effGain d (lowGainFn (some ker) d r) j i' l ≤ effGain d (lowGainFn (some ker) d r) j k l + faceRise ker d.ny r / 2) ∧
    (AnyAwayStep d.nz l i' → effGain d (lowGainFn (some ker) d r) j k i' ≤ effGain d (lowGainFn (some ker) d r) j k l + faceRise ker d.nz r / 2) := by
  have half : ∀ (n : Nat) (a a' : Int), stepRise ker n r a a' / 2 ≤ faceRise ker n r / 2 := fun n a a' =>
    div_le_div_of_nonneg_right (stepRise_le ker hk.nonneg n r a a') two_pos.le
  refine ⟨fun h => ?_, fun h => ?_, fun h => ?_⟩
  · have := soft_eff_gain_step_bound ker hk d hd r hr j k l i' k l h (Or.inl rfl) (Or.inl rfl)
    rw [stepRise_self, stepRise_self, add_zero, add_zero] at this
    exact this.trans (add_le_add (le_refl _) (half d.nx j i'))
  · have := soft_eff_gain_step_bound ker hk d hd r hr j k l j i' l (Or.inl rfl) h (Or.inl rfl)
    rw [stepRise_self, stepRise_self, zero_add, add_zero] at this
    exact this.trans (add_le_add (le_refl _) (half d.ny k i'))
  · have := soft_eff_gain_step_bound ker hk d hd r hr j k l j k i' (Or.inl rfl) (Or.inl rfl) h
    rw [stepRise_self, stepRise_self, zero_add, zero_add] at this
    exact this.trans (add_le_add (le_refl _) (half d.nz l i'))

/-- **the third clause of `SoftEdgeFull` along all 26 axis/diagonal rays `m·s ↦ (m+1)·s`, `s ∈ {-1,0,1}³`, every box, every cutoff, NO
hypothesis on the faces, up to the last frequency of each moving axis (Nyquist bins included)**: the effective gain does not rise by
more than half of `faceRise` per moving axis — i.e. not at all unless a moving axis is even, the ball reaches its upper face and the
kernel reaches `n/2` -/
theorem soft_edge_rays_bound (ker : List (Int × K)) (hk : UnimodalKernel ker) (d : Dims)
    (hd : 0 < d.nx ∧ 0 < d.ny ∧ 0 < d.nz) (r : Int) (hr : 0 ≤ r) (sx sy sz m : Int) (hm : 0 ≤ m)
    (hx : sx = 0 ∨ (sx = 1 ∧ m + 1 < (d.nx : Int) - centre d.nx) ∨ (sx = -1 ∧ m + 1 ≤ centre d.nx))
    (hy : sy = 0 ∨ (sy = 1 ∧ m + 1 < (d.ny : Int) - centre d.ny) ∨ (sy = -1 ∧ m + 1 ≤ centre d.ny))
    (hz : sz = 0 ∨ (sz = 1 ∧ m + 1 < (d.nz : Int) - centre d.nz) ∨ (sz = -1 ∧ m + 1 ≤ centre d.nz)) :
    effGain d (lowGainFn (some ker) d r) ((m + 1) * sx) ((m + 1) * sy) ((m + 1) * sz)
      ≤ effGain d (lowGainFn (some ker) d r) (m * sx) (m * sy) (m * sz)
        + (stepRise ker d.nx r (m * sx) ((m + 1) * sx) + stepRise ker d.ny r (m * sy) ((m + 1) * sy)
            + stepRise ker d.nz r (m * sz) ((m + 1) * sz)) / 2 :=
  soft_eff_gain_step_bound ker hk d hd r hr _ _ _ _ _ _
    (anyAwayStep_ray _ hd.1 sx m hm hx) (anyAwayStep_ray _ hd.2.1 sy m hm hy) (anyAwayStep_ray _ hd.2.2 sz m hm hz)

/-- **"non-increasing in between" where the ball may touch the faces, in the form the harness checks** — effective gain, every step
away from frequency 0, explicit bound -/
def SoftMonotoneFace (ker : List (Int × K)) (d : Dims) (r : Int) : Prop :=
  ∀ j k l j' k' l' : Int, AnyAwayStep d.nx j j' → AnyAwayStep d.ny k k' → AnyAwayStep d.nz l l' →
    effGain d (lowGainFn (some ker) d r) j' k' l' ≤ effGain d (lowGainFn (some ker) d r) j k l
      + (stepRise ker d.nx r j j' + stepRise ker d.ny r k k' + stepRise ker d.nz r l l') / 2

/-- `SoftMonotoneFace` is a theorem for every symmetric unimodal kernel, every box and every cutoff `≥ 0`: nothing of the clause is left open -/
theorem soft_monotone_face_closed (ker : List (Int × K)) (hk : UnimodalKernel ker) (d : Dims)
    (hd : 0 < d.nx ∧ 0 < d.ny ∧ 0 < d.nz) (r : Int) (hr : 0 ≤ r) : SoftMonotoneFace ker d r :=
  fun j k l j' k' l' hx hy hz => soft_eff_gain_step_bound ker hk d hd r hr j k l j' k' l' hx hy hz

/-- **non-increasing along lines parallel to the x axis, moving away from the centre plane** — for every
kernel with non-negative, unit-sum weights that are symmetric and non-increasing in `|offset|`
(`UnimodalKernel`; the model's Gaussian kernel is one: `model_kernel_unimodal`), every box and every
position of the other two indices. Towards higher frequencies if the ball does not touch the upper face of the
mask box along this axis (`⌊n/2⌋ + r + 1 < n`), towards lower (more negative) ones if it does not touch the
lower face (`r < ⌊n/2⌋`); where it touches, `mode='nearest'` continues the mask with ones and the raw gain can
rise by a tail weight (seen on the executed model). -/
theorem soft_gain_mono_axis_x (ker : List (Int × K)) (hk : UnimodalKernel ker) (d : Dims)
    (hd : 0 < d.nx ∧ 0 < d.ny ∧ 0 < d.nz) (r : Int) (hr : 0 ≤ r) (j k l i' : Int) :
    (centre d.nx + r + 1 < (d.nx : Int) → 0 ≤ freq d.nx j → freq d.nx i' = freq d.nx j + 1 →
        lowGainFn (some ker) d r i' k l ≤ lowGainFn (some ker) d r j k l) ∧
    (r < centre d.nx → freq d.nx j ≤ 0 → freq d.nx i' = freq d.nx j - 1 →
        lowGainFn (some ker) d r i' k l ≤ lowGainFn (some ker) d r j k l) :=
  have h := (lowGain_rows_x ker hk d hd.1 r hr k l).mono_axis hk.nonneg hd.1 j i'
  ⟨h.1, fun _ => h.2⟩

theorem soft_gain_mono_axis_y (ker : List (Int × K)) (hk : UnimodalKernel ker) (d : Dims)
    (hd : 0 < d.nx ∧ 0 < d.ny ∧ 0 < d.nz) (r : Int) (hr : 0 ≤ r) (j k l i' : Int) :
    (centre d.ny + r + 1 < (d.ny : Int) → 0 ≤ freq d.ny k → freq d.ny i' = freq d.ny k + 1 →
        lowGainFn (some ker) d r j i' l ≤ lowGainFn (some ker) d r j k l) ∧
    (r < centre d.ny → freq d.ny k ≤ 0 → freq d.ny i' = freq d.ny k - 1 →
        lowGainFn (some ker) d r j i' l ≤ lowGainFn (some ker) d r j k l) :=
  have h := (lowGain_rows_y ker hk d hd.2.1 r hr j l).mono_axis hk.nonneg hd.2.1 k i'
  ⟨h.1, fun _ => h.2⟩

theorem soft_gain_mono_axis_z (ker : List (Int × K)) (hk : UnimodalKernel ker) (d : Dims)
    (hd : 0 < d.nx ∧ 0 < d.ny ∧ 0 < d.nz) (r : Int) (hr : 0 ≤ r) (j k l i' : Int) :
    (centre d.nz + r + 1 < (d.nz : Int) → 0 ≤ freq d.nz l → freq d.nz i' = freq d.nz l + 1 →
        lowGainFn (some ker) d r j k i' ≤ lowGainFn (some ker) d r j k l) ∧
    (r < centre d.nz → freq d.nz l ≤ 0 → freq d.nz i' = freq d.nz l - 1 →
        lowGainFn (some ker) d r j k i' ≤ lowGainFn (some ker) d r j k l) :=
  have h := (lowGain_rows_z ker hk d hd.2.2 r hr j k).mono_axis hk.nonneg hd.2.2 l i'
  ⟨h.1, fun _ => h.2⟩

/-- the third clause of `SoftEdgeFull` along the three coordinate axis rays from the centre (DFT bins
`m·e`, `m = 0, 1, …` up to the last non-negative frequency), in the form that IS proved: for a cutoff whose
ball stays off the upper faces of the mask box -/
theorem soft_edge_monotone_axes_partial (ker : List (Int × K)) (hk : UnimodalKernel ker) (d : Dims)
    (hd : 0 < d.nx ∧ 0 < d.ny ∧ 0 < d.nz) (r : Int) (hr : 0 ≤ r) (m : Int) (hm : 0 ≤ m) :
    (centre d.nx + r + 1 < (d.nx : Int) → m + 1 < (d.nx : Int) - centre d.nx →
        lowGainFn (some ker) d r ((m + 1) * 1) ((m + 1) * 0) ((m + 1) * 0) ≤ lowGainFn (some ker) d r (m * 1) (m * 0) (m * 0)) ∧
    (centre d.ny + r + 1 < (d.ny : Int) → m + 1 < (d.ny : Int) - centre d.ny →
        lowGainFn (some ker) d r ((m + 1) * 0) ((m + 1) * 1) ((m + 1) * 0) ≤ lowGainFn (some ker) d r (m * 0) (m * 1) (m * 0)) ∧
    (centre d.nz + r + 1 < (d.nz : Int) → m + 1 < (d.nz : Int) - centre d.nz →
        lowGainFn (some ker) d r ((m + 1) * 0) ((m + 1) * 0) ((m + 1) * 1) ≤ lowGainFn (some ker) d r (m * 0) (m * 0) (m * 1)) := by
  have fq : ∀ (n : Nat), 0 < n → ∀ a : Int, 0 ≤ a → a < (n : Int) - centre n → freq n a = a :=
    fun n _ a h0 h1 => Layout.sres_self (by have := centre_nonneg n; omega) h1
  simp only [mul_one, mul_zero]
  refine ⟨fun hface hlt => ?_, fun hface hlt => ?_, fun hface hlt => ?_⟩
  · have := (soft_gain_mono_axis_x ker hk d hd r hr m 0 0 (m + 1)).1 hface
    rw [fq d.nx hd.1 m hm (by omega), fq d.nx hd.1 (m + 1) (by omega) hlt] at this
    exact this hm rfl
  · have := (soft_gain_mono_axis_y ker hk d hd r hr 0 m 0 (m + 1)).1 hface
    rw [fq d.ny hd.2.1 m hm (by omega), fq d.ny hd.2.1 (m + 1) (by omega) hlt] at this
    exact this hm rfl
  · have := (soft_gain_mono_axis_z ker hk d hd r hr 0 0 m (m + 1)).1 hface
    rw [fq d.nz hd.2.2 m hm (by omega), fq d.nz hd.2.2 (m + 1) (by omega) hlt] at this
    exact this hm rfl

/-- **non-increasing along every step away from the centre planes** — axis-parallel lines, face diagonals and
space diagonals alike: if every index either keeps its frequency or, on an axis whose ball stays off both faces of
the mask box (`monoAxisOk`), moves one bin away from frequency 0 (`AwayStep`), the gain does not rise: on such an axis
`faceRise` is 0 (`awayStep_any`), so nothing is left of the bound of `soft_gain_step_bound`. -/
theorem soft_gain_mono_step (ker : List (Int × K)) (hk : UnimodalKernel ker) (d : Dims)
    (hd : 0 < d.nx ∧ 0 < d.ny ∧ 0 < d.nz) (r : Int) (hr : 0 ≤ r) (j k l j' k' l' : Int)
    (hx : AwayStep d.nx r j j') (hy : AwayStep d.ny r k k') (hz : AwayStep d.nz r l l') :
    lowGainFn (some ker) d r j' k' l' ≤ lowGainFn (some ker) d r j k l := by
  obtain ⟨ax, zx⟩ := awayStep_any ker _ r _ _ hx
  obtain ⟨ay, zy⟩ := awayStep_any ker _ r _ _ hy
  obtain ⟨az, zz⟩ := awayStep_any ker _ r _ _ hz
  have h := soft_gain_step_bound ker hk d hd r hr j k l j' k' l' ax ay az
  rw [(rise_zero ker _ r _ _ zx).1, (rise_zero ker _ r _ _ zy).1, (rise_zero ker _ r _ _ zz).1] at h
  linarith

/-- **the high-pass gain is non-DEcreasing** along the same steps (it is the complement of the low-pass gain) -/
theorem soft_high_gain_mono_step (ker : List (Int × K)) (hk : UnimodalKernel ker) (d : Dims)
    (hd : 0 < d.nx ∧ 0 < d.ny ∧ 0 < d.nz) (r : Int) (hr : 0 ≤ r) (j k l j' k' l' : Int)
    (hx : AwayStep d.nx r j j') (hy : AwayStep d.ny r k k') (hz : AwayStep d.nz r l l') :
    highGainFn (some ker) d r j k l ≤ highGainFn (some ker) d r j' k' l' := by
  rw [high_gain_complement, high_gain_complement]
  have := soft_gain_mono_step ker hk d hd r hr j k l j' k' l' hx hy hz
  linarith

/-- **the same for the EFFECTIVE gain** `(g(k) + g(−k))/2` — what `np.real` leaves of the filter and what the
harness measures as `fft(out)/fft(in)`: it does not rise along ANY step whose indices keep their frequency or move one bin away from
frequency 0 on an axis with `monoAxisOk` (`AwayStep`), landings on the Nyquist bin of an even axis included. That bin `-n/2` is its
own mirror image, so the mirrored step goes from mask voxel `n-1` to mask voxel `0`; with the ball off both faces the two blurred
rows are equally long windows of the symmetric unimodal kernel weights, the second one offset further out
(`Lemmas/C12_Mono.row_profile`). The harness's clause `soft-monotone` judges exactly these steps on the measured gain. -/
theorem soft_eff_gain_mono_step (ker : List (Int × K)) (hk : UnimodalKernel ker) (d : Dims)
    (hd : 0 < d.nx ∧ 0 < d.ny ∧ 0 < d.nz) (r : Int) (hr : 0 ≤ r) (j k l j' k' l' : Int)
    (hx : AwayStep d.nx r j j') (hy : AwayStep d.ny r k k') (hz : AwayStep d.nz r l l') :
    effGain d (lowGainFn (some ker) d r) j' k' l' ≤ effGain d (lowGainFn (some ker) d r) j k l := by
  obtain ⟨ax, zx⟩ := awayStep_any ker _ r _ _ hx
  obtain ⟨ay, zy⟩ := awayStep_any ker _ r _ _ hy
  obtain ⟨az, zz⟩ := awayStep_any ker _ r _ _ hz
  exact soft_eff_gain_mono_step_reach ker hk d hd r hr j k l j' k' l' ax ay az zx zy zz

/-- the landing on the Nyquist bin by itself: the x-index steps from frequency `-n/2+1` onto the bin `-n/2` -/
theorem soft_eff_gain_mono_nyquist_x (ker : List (Int × K)) (hk : UnimodalKernel ker) (d : Dims)
    (hd : 0 < d.nx ∧ 0 < d.ny ∧ 0 < d.nz) (r : Int) (hr : 0 ≤ r) (j k l j' : Int)
    (hok : monoAxisOk d.nx r = true) (hj' : freq d.nx j' = -centre d.nx) (hj : freq d.nx j = -centre d.nx + 1) :
    effGain d (lowGainFn (some ker) d r) j' k l ≤ effGain d (lowGainFn (some ker) d r) j k l := by
  have hc : 0 < centre d.nx := by
    have := (monoAxisOk_iff d.nx r).1 hok
    omega
  exact soft_eff_gain_mono_step ker hk d hd r hr j k l j' k l
    (Or.inr ⟨hok, Or.inr ⟨by omega, by omega⟩⟩) (Or.inl rfl) (Or.inl rfl)

/-- the third clause of `SoftEdgeFull` — along all 26 axis/diagonal rays `m·s ↦ (m+1)·s`, `s ∈ {-1,0,1}³` — in the
form that IS proved: for the effective gain, on every ray whose moving axes keep the ball off both faces of the
mask box, up to the last frequency that has a mirror bin -/
theorem soft_edge_monotone_rays_partial (ker : List (Int × K)) (hk : UnimodalKernel ker) (d : Dims)
    (hd : 0 < d.nx ∧ 0 < d.ny ∧ 0 < d.nz) (r : Int) (hr : 0 ≤ r) (sx sy sz m : Int) (hm : 0 ≤ m)
    (hx : sx = 0 ∨ ((sx = 1 ∨ sx = -1) ∧ monoAxisOk d.nx r = true ∧ m + 1 < (d.nx : Int) - centre d.nx))
    (hy : sy = 0 ∨ ((sy = 1 ∨ sy = -1) ∧ monoAxisOk d.ny r = true ∧ m + 1 < (d.ny : Int) - centre d.ny))
    (hz : sz = 0 ∨ ((sz = 1 ∨ sz = -1) ∧ monoAxisOk d.nz r = true ∧ m + 1 < (d.nz : Int) - centre d.nz)) :
    effGain d (lowGainFn (some ker) d r) ((m + 1) * sx) ((m + 1) * sy) ((m + 1) * sz)
      ≤ effGain d (lowGainFn (some ker) d r) (m * sx) (m * sy) (m * sz) :=
  soft_eff_gain_mono_step ker hk d hd r hr _ _ _ _ _ _
    (awayStep_ray _ hd.1 r sx m hm hx) (awayStep_ray _ hd.2.1 r sy m hm hy) (awayStep_ray _ hd.2.2 r sz m hm hz)

/-- the kernel the driver builds is symmetric and unimodal for every positive, monotone `exp` (with the
integer cast as `ofI`) over every ordered field, so the monotonicity theorems apply to the model's definitions (at `Float` the
same properties of the executed weights are probed on every run, see `model_kernel_valid`) -/
theorem model_kernel_unimodal [BEq K] (expf : K → K) (hexp : ∀ x, 0 < expf x) (hmono : ∀ x y, x ≤ y → expf x ≤ expf y)
    (trunc : K → Nat) (sigma : K) :
    ∀ k' ∈ kernelFor expf (fun q => (q : K)) trunc sigma, UnimodalKernel k' :=
  fun _ hk' => kernelFor_mem expf _ trunc sigma hk' ▸ gaussKernel_unimodal expf hexp hmono sigma (trunc sigma)
end monotone

/-- `SoftEdgeFull` with a margin below the kernel's reach is FALSE in exact arithmetic: kernel
`(1/4, 1/2, 1/4)` (support 1, reach √3), box 8³, cutoff 1, margin 1: the DC bin lies at radius
`0 ≤ cutoff − margin` but its gain is 1/2 (only 7 of the 27 kernel offsets stay inside the ball). -/
theorem soft_edge_full_false_below_reach :
    ¬ SoftEdgeFull ([(-1, 1/4), (0, 1/2), (1, 1/4)] : List (Int × Rat)) ⟨8, 8, 8⟩ 1 1 := by
  intro h
  have h1 := h.1 0 0 0 0 (le_refl _) (by decide) (by decide)
  revert h1
  decide +kernel

/-- "non-increasing in the integer frequency RADIUS" read literally — for ANY two bins, also in different directions -/
def SoftMonotoneRadial {K : Type} [Field K] [LinearOrder K] [IsStrictOrderedRing K]
    (ker : List (Int × K)) (d : Dims) (r : Int) : Prop :=
  ∀ j k l j' k' l' : Int, freqRadius2 d j k l ≤ freqRadius2 d j' k' l' →
    effGain d (lowGainFn (some ker) d r) j' k' l' ≤ effGain d (lowGainFn (some ker) d r) j k l

/-- **the literal radial reading is FALSE** even where the ball stays off every face of the mask box: kernel
`(1/4, 1/2, 1/4)`, box 12³, cutoff 3 (`monoAxisOk 12 3`): bin `(2,2,2)` of squared radius 12 has gain 19/64, bin
`(3,1,1)` of squared radius 11 only 17/64 — a lattice ball blurred with a separable kernel is not isotropic. Hence
"non-increasing" can only be a statement about bins ordered componentwise (`soft_eff_gain_mono_step`, the 26 rays). -/
theorem soft_monotone_radial_false :
    monoAxisOk 12 3 = true ∧ ¬ SoftMonotoneRadial ([(-1, 1/4), (0, 1/2), (1, 1/4)] : List (Int × Rat)) ⟨12, 12, 12⟩ 3 := by
  refine ⟨by decide, fun h => ?_⟩
  have h1 := h 3 1 1 2 2 2 (by decide)
  revert h1
  decide +kernel

/-- the axis-parallel step away from frequency 0 WITHOUT the face hypothesis of `soft_gain_mono_axis_x` -/
def SoftMonotoneAnyFace {K : Type} [Field K] [LinearOrder K] [IsStrictOrderedRing K]
    (ker : List (Int × K)) (d : Dims) (r : Int) : Prop :=
  ∀ j k l j' : Int, 0 ≤ freq d.nx j → freq d.nx j' = freq d.nx j + 1 →
    lowGainFn (some ker) d r j' k l ≤ lowGainFn (some ker) d r j k l

/-- **the face hypothesis (`monoAxisOk`) is necessary**: where the ball touches the upper face of the mask box,
`mode='nearest'` continues the mask with ones and the gain RISES away from frequency 0 — unimodal kernel
`(1/8, 1/4, 1/4, 1/4, 1/8)`, box 4³, cutoff 1: gain 17/128 at the DC bin, 18/128 at bin `(1,0,0)`. So on such axes
"non-increasing" is not a theorem for any checker; the rise is at most `faceRise` (`soft_gain_step_bound`, `soft_monotone_fails_only_if`:
even axis, upper face reached, kernel weight at offset `n/2`), and that is what the harness allows there. -/
theorem soft_monotone_false_at_face :
    monoAxisOk 4 1 = false ∧
    ¬ SoftMonotoneAnyFace ([(-2, 1/8), (-1, 1/4), (0, 1/4), (1, 1/4), (2, 1/8)] : List (Int × Rat)) ⟨4, 4, 4⟩ 1 := by
  refine ⟨by decide, fun h => ?_⟩
  have h1 := h 0 0 0 1 (by decide) (by decide)
  revert h1
  decide +kernel


/-- the witness of `soft_monotone_false_at_face` against the bound: box 4³ (even), cutoff 1 (`2 + 1 + 1 ≥ 4`: the ball reaches the
upper face), 5-tap kernel reaching `n/2 = 2`: `faceRise = 1/8`, the observed rise `18/128 − 17/128 = 1/128`; on the odd box 5³ and
off the face (box 8³) `faceRise = 0` -/
theorem soft_monotone_face_witness :
    faceRise ([(-2, 1/8), (-1, 1/4), (0, 1/4), (1, 1/4), (2, 1/8)] : List (Int × Rat)) 4 1 = 1/8 ∧
    lowGainFn (some ([(-2, 1/8), (-1, 1/4), (0, 1/4), (1, 1/4), (2, 1/8)] : List (Int × Rat))) ⟨4, 4, 4⟩ 1 1 0 0
      - lowGainFn (some ([(-2, 1/8), (-1, 1/4), (0, 1/4), (1, 1/4), (2, 1/8)] : List (Int × Rat))) ⟨4, 4, 4⟩ 1 0 0 0 = 1/128 ∧
    faceRise ([(-2, 1/8), (-1, 1/4), (0, 1/4), (1, 1/4), (2, 1/8)] : List (Int × Rat)) 5 2 = 0 ∧
    faceRise ([(-2, 1/8), (-1, 1/4), (0, 1/4), (1, 1/4), (2, 1/8)] : List (Int × Rat)) 8 1 = 0 := by decide +kernel

/-- **known finding C12-K1, witness.** With DIFFERENT edge widths a properly nested band (`hp = 2 < lp = 3`) has a
negative gain: outer edge `(1/8, 1/4, 1/4, 1/4, 1/8)`, inner edge `(1/16, 7/8, 1/16)`, box 8³, bin `(1,0,0)`:
the softer outer mask has dropped to 111/128 where the sharper inner one is still 1009/1024. "Gain in [0,1]" and
"band-pass = difference of its two low-passes" cannot both hold here; the model (like the code) keeps the second. -/
theorem band_gain_negative_unequal_widths :
    bandGainFn (some ([(-2, 1/8), (-1, 1/4), (0, 1/4), (1, 1/4), (2, 1/8)] : List (Int × Rat)))
      (some [(-1, 1/16), (0, 7/8), (1, 1/16)]) ⟨8, 8, 8⟩ 3 2 1 0 0 = -121/1024 := by decide +kernel

/-- An inverted band (`hp > lp`) has a negative gain even with equal (here: hard) edges: the shell between the cutoffs gets gain −1 -/
theorem band_gain_negative_inverted :
    bandGainFn (none : Option (List (Int × Rat))) none ⟨8, 8, 8⟩ 1 2 2 0 0 = -1 := by decide +kernel

/-- **C12-K1, witness** (name by convention): a nested band with unequal edge widths has a gain outside [0,1] in the model. The
kernels are TOY rational kernels (5 and 3 taps), chosen so that `decide +kernel` evaluates the gain (−121/1024 ≈ −0.118); the figure
"about −0.16" quoted in known_findings.json is the most negative gain MEASURED on the real code with the Gaussian defaults
(`lp_gaussian=3, hp_gaussian=2`) and reproduced by the driver's Float model in the correspondence run — it appears in no Lean
theorem (Gaussian weights involve `exp`, which the exact-arithmetic theorems do not evaluate). What IS proved in general is the range
[−1, 1] (`band_gain_bounds`) and [0, 1] for nested equal widths (`band_gain_range_nested`). -/
theorem band_gain_K1_witness :
    ∃ j k l : Int, bandGainFn (some ([(-2, 1/8), (-1, 1/4), (0, 1/4), (1, 1/4), (2, 1/8)] : List (Int × Rat)))
      (some [(-1, 1/16), (0, 7/8), (1, 1/16)]) ⟨8, 8, 8⟩ 3 2 j k l < 0 :=
  ⟨1, 0, 0, by rw [band_gain_negative_unequal_widths]; norm_num⟩

/-- **C12-K2, witness**: an inverted band (`hp = 2 > lp = 1`) with equal (hard) edges has gain −1 on the shell between the cutoffs -/
theorem band_gain_K2_witness :
    ∃ j k l : Int, bandGainFn (none : Option (List (Int × Rat))) none ⟨8, 8, 8⟩ 1 2 j k l < 0 :=
  ⟨2, 0, 0, by rw [band_gain_negative_inverted]; norm_num⟩

section grids
variable {α : Type} [Add α] [Mul α] [Sub α] [OfNat α 0] [OfNat α 1]

theorem lowGain_grid (ker : Option (List (Int × α))) (d : Dims) (r : Int) (j k l : Int) (hb : InBox d j k l) :
    (gainGrid d (lowMaskGrid ker d r)).get j k l = lowGainFn ker d r j k l :=
  gainGrid_get d _ _ (fun x y z h => lowMaskGrid_get ker d r x y z h) j k l hb

theorem highGain_grid (ker : Option (List (Int × α))) (d : Dims) (r : Int) (j k l : Int) (hb : InBox d j k l) :
    (gainGrid d (highMaskGrid ker d r)).get j k l = highGainFn ker d r j k l :=
  gainGrid_get d _ _ (fun x y z h => highMaskGrid_get ker d r x y z h) j k l hb

theorem bandGain_grid (kl kh : Option (List (Int × α))) (d : Dims) (lp hp : Int) (j k l : Int) (hb : InBox d j k l) :
    (gainGrid d (bandMaskGrid kl kh d lp hp)).get j k l = bandGainFn kl kh d lp hp j k l :=
  gainGrid_get d _ _ (fun x y z h => bandMaskGrid_get kl kh d lp hp x y z h) j k l hb

theorem effGain_grid [Div α] [OfNat α 2] (d : Dims) (m : Grid α) (f : Vol α)
    (hm : ∀ x y z, InBox d x y z → m.get x y z = f x y z) (j k l : Int) (hb : InBox d j k l) :
    (effGrid d (gainGrid d m)).get j k l = effGain d (shiftVol d f) j k l :=
  effGrid_get d _ _ (fun x y z h => gainGrid_get d m f hm x y z h) j k l hb
end grids

section operator
variable {R C : Type} [Field R] [AddCommGroup C] [Module R C]

variable {F Finv : (Idx → C) → (Idx → C)} {re : C → C}

/-- **linear (1)**: additive, for every gain -/
theorem filt_add (T : Transform R F Finv re) (g : Idx → R) (x y : Idx → C) :
    filt F Finv re g (x + y) = filt F Finv re g x + filt F Finv re g y := by
  funext i
  simp only [filt, Pi.add_apply, T.F_add]
  have : (fun k => g k • (F x k + F y k)) = (fun k => g k • F x k) + (fun k => g k • F y k) := by
    funext k; simp [smul_add]
  rw [this, T.Finv_add, Pi.add_apply, T.re_add]

/-- **linear (2)**: homogeneous for real scalars -/
theorem filt_smul (T : Transform R F Finv re) (g : Idx → R) (a : R) (x : Idx → C) :
    filt F Finv re g (a • x) = a • filt F Finv re g x := by
  funext i
  simp only [filt, Pi.smul_apply, T.F_smul]
  have : (fun k => g k • a • F x k) = a • (fun k => g k • F x k) := by
    funext k; simp only [Pi.smul_apply]; exact smul_comm _ _ _
  rw [this, T.Finv_smul, Pi.smul_apply, T.re_smul]

/-- **real-valued**: the output is its own real part -/
theorem filt_real (T : Transform R F Finv re) (g : Idx → R) (x : Idx → C) (i : Idx) :
    re (filt F Finv re g x i) = filt F Finv re g x i := T.re_idem _

/-- **commutes with circular shifts**: let `σ` re-index the grid (`roll`) and let the transform turn it
into a pointwise phase `φ` that commutes with real scalars (the DFT shift theorem). Then filtering the
shifted map is shifting the filtered map. -/
theorem filt_shift (T : Transform R F Finv re) (g : Idx → R) (σ : Idx → Idx) (φ : Idx → C → C)
    (hφ : ∀ k (a : R) c, φ k (a • c) = a • φ k c)
    (hF : ∀ x : Idx → C, F (fun i => x (σ i)) = fun k => φ k (F x k)) (x : Idx → C) :
    filt F Finv re g (fun i => x (σ i)) = fun i => filt F Finv re g x (σ i) := by
  have hFinv := Dft.inv_intertwine T.left_inv T.right_inv (A := fun x i => x (σ i)) (B := fun y k => φ k (y k)) hF
  funext i
  simp only [filt, hF]
  have : (fun k => g k • φ k (F x k)) = (fun k => φ k ((fun k => g k • F x k) k)) := by
    funext k; rw [hφ]
  rw [this, hFinv]

/-- **each Fourier component is scaled by its gain** (before `np.real`) -/
theorem filt_spectrum (T : Transform R F Finv re) (g : Idx → R) (x : Idx → C) (k : Idx) :
    F (Finv (fun k => g k • F x k)) k = g k • F x k := by rw [T.right_inv]

/-- for ANY real gain, `np.real` makes the filter act with the even part of the gain: the output's
spectrum is `(g(k) + g(-k))/2 × ` input spectrum (what the harness measures and compares) -/
theorem filt_effective_gain (T : Transform R F Finv re) (h2 : (2 : R) ≠ 0) (conj : C → C) (ν : Idx → Idx)
    (hconj : ∀ (a : R) c, conj (a • c) = a • conj c) (hcc : ∀ c, conj (conj c) = c)
    (hre : ∀ (y : Idx → C) i, re (Finv y i) = Finv (fun k => (1 / 2 : R) • (y k + conj (y (ν k)))) i)
    (g : Idx → R) (x : Idx → C) (hx : ∀ k, F x (ν k) = conj (F x k)) :
    filt F Finv re g x = Finv (fun k => ((g k + g (ν k)) / 2) • F x k)
    ∧ ∀ k, F (filt F Finv re g x) k = ((g k + g (ν k)) / 2) • F x k := by
  have h : filt F Finv re g x = Finv (fun k => ((g k + g (ν k)) / 2) • F x k) := by
    funext i
    simp only [filt]
    rw [hre]
    congr 1
    funext k
    rw [hconj, hx k, hcc, ← add_smul, smul_smul]
    congr 1
    field_simp
  exact ⟨h, fun k => by rw [h, T.right_inv]⟩

/-- **band-pass equals the difference of its two low-passes** -/
theorem filt_difference (T : Transform R F Finv re) (g1 g2 : Idx → R) (x : Idx → C) (i : Idx) :
    filt F Finv re (fun k => g1 k - g2 k) x i = filt F Finv re g1 x i - filt F Finv re g2 x i := by
  simp only [filt]
  have : (fun k => (g1 k - g2 k) • F x k) = (fun k => g1 k • F x k) - (fun k => g2 k • F x k) := by
    funext k; simp [sub_smul]
  rw [this, T.Finv_sub, Pi.sub_apply, T.re_sub]

/-- **high-pass is the exact complement of the low-pass with the same parameters**: for every gain `g`
the filter with gain `1 − g` returns `re x − (filter with gain g)`, i.e. `x − lowpass x` for a real map -/
theorem filt_complement (T : Transform R F Finv re) (g : Idx → R) (x : Idx → C) (i : Idx) :
    filt F Finv re (fun k => 1 - g k) x i = re (x i) - filt F Finv re g x i := by
  -- the difference of the filter with gain 1, which returns `re x`, and the filter with gain `g`
  rw [filt_difference T (fun _ => 1) g x i]
  simp only [filt, one_smul, T.left_inv]

/-- the three cryoCAT filters, with their own gains -/
theorem highpass_complement (T : Transform R F Finv re) (ker : Option (List (Int × R))) (d : Dims) (r : Int)
    (x : Idx → C) (i : Idx) :
    highpass F Finv re ker d r x i = re (x i) - lowpass F Finv re ker d r x i := by
  unfold highpass lowpass
  exact filt_complement T (atIdx (lowGainFn ker d r)) x i

theorem bandpass_difference (T : Transform R F Finv re) (kl kh : Option (List (Int × R))) (d : Dims) (lp hp : Int)
    (x : Idx → C) (i : Idx) :
    bandpass F Finv re kl kh d lp hp x i = lowpass F Finv re kl d lp x i - lowpass F Finv re kh d hp x i := by
  unfold bandpass lowpass
  exact filt_difference T (atIdx (lowGainFn kl d lp)) (atIdx (lowGainFn kh d hp)) x i

end operator

/-! The transform pair inside the model: the naive separable DFT the driver executes. `Lemmas/C12_Dft.dft3_transform`: the pair
`dft3 / idft3` satisfies every `Transform` hypothesis (additive, homogeneous, `idft3 ∘ dft3 = id`, `dft3 ∘ idft3 = id`) over every field
that has primitive roots of unity of the three edge lengths and in which the edge lengths are invertible — so `filt_add … bandpass_difference`
above hold for the transform that is executed, not for an abstract pair only. -/
section dft
variable {R C : Type} [Field R] [Field C] [Algebra R C]

/-- 1-D inversion, the heart of it: orthogonality of the characters by the geometric sum -/
theorem dft1_inversion (n : Nat) (ω : C) (h : Root n ω) (x : Int → C) :
    idft1 n (fun m => ω ^ m) (n : C)⁻¹ (dft1 n (fun m => ω ^ m) x) = x ∧
    dft1 n (fun m => ω ^ m) (idft1 n (fun m => ω ^ m) (n : C)⁻¹ x) = x :=
  ⟨dft1_left_inv h x, dft1_right_inv h x⟩
end dft

/-- **instantiated over ℂ** with numpy's twiddles `exp(-2πi/n)` and `np.real`: for every box the exact complex
DFT is a `Transform` (the hypotheses are not only consistent — the identity satisfies them, `Lemmas/C12_Dft` — but
met by the transform the filters are written with) -/
theorem dft_is_transform_complex (d : Dims) (hd : 0 < d.nx ∧ 0 < d.ny ∧ 0 < d.nz) :
    Transform ℝ (dft3 d (fun m => omegaC d.nx ^ m) (fun m => omegaC d.ny ^ m) (fun m => omegaC d.nz ^ m))
      (idft3 d (fun m => omegaC d.nx ^ m) (fun m => omegaC d.ny ^ m) (fun m => omegaC d.nz ^ m) (d.nx : ℂ)⁻¹ (d.ny : ℂ)⁻¹ (d.nz : ℂ)⁻¹)
      reC :=
  dft3_transform_complex d hd

/-- e.g. with the exact complex DFT: high-pass = `Re x −` low-pass, for every box, kernel and cutoff -/
theorem highpass_complement_complex (d : Dims) (hd : 0 < d.nx ∧ 0 < d.ny ∧ 0 < d.nz) (ker : Option (List (Int × ℝ))) (r : Int)
    (x : Idx → ℂ) (i : Idx) :
    highpass (dft3 d (fun m => omegaC d.nx ^ m) (fun m => omegaC d.ny ^ m) (fun m => omegaC d.nz ^ m))
        (idft3 d (fun m => omegaC d.nx ^ m) (fun m => omegaC d.ny ^ m) (fun m => omegaC d.nz ^ m) (d.nx : ℂ)⁻¹ (d.ny : ℂ)⁻¹ (d.nz : ℂ)⁻¹)
        reC ker d r x i
      = reC (x i) - lowpass (dft3 d (fun m => omegaC d.nx ^ m) (fun m => omegaC d.ny ^ m) (fun m => omegaC d.nz ^ m))
        (idft3 d (fun m => omegaC d.nx ^ m) (fun m => omegaC d.ny ^ m) (fun m => omegaC d.nz ^ m) (d.nx : ℂ)⁻¹ (d.ny : ℂ)⁻¹ (d.nz : ℂ)⁻¹)
        reC ker d r x i :=
  highpass_complement (dft_is_transform_complex d hd) ker d r x i

section dftsym
variable {R C : Type} [Field R] [Field C] [Algebra R C]

/-- **shift theorem, 1-D**: over every field with a primitive `n`-th root of unity `ω`, the transform of the sequence
rolled by any `s ∈ ℤ` (`roll1`: index `(i + s) mod n` on the axis range) is `ω^{-sk}` times the transform (`phase1`) -/
theorem dft1_shift_theorem (n : Nat) (ω : C) (h : Root n ω) (s : Int) (x : Int → C) (k : Int) :
    dft1 n (fun m => ω ^ m) (fun i => x (roll1 n s i)) k = phase1 n ω s k * dft1 n (fun m => ω ^ m) x k :=
  dft1_roll h s x k

/-- **Hermitian symmetry, 1-D**: for a ring homomorphism `conj` with `conj ω = ω⁻¹` (complex conjugation) and a
`conj`-fixed (real) sequence, `X_{-k} = conj X_k` (`negBox1 n k = (-k) mod n` on the axis range) -/
theorem dft1_hermitian_symmetry (n : Nat) (ω : C) (h : Root n ω) (conj : C →+* C) (hω : conj ω = ω⁻¹)
    (x : Int → C) (hx : ∀ u, conj (x u) = x u) (k : Int) :
    dft1 n (fun m => ω ^ m) x (negBox1 n k) = conj (dft1 n (fun m => ω ^ m) x k) := by
  rw [← dft1_conj conj h hω x k]
  congr 1
  funext u
  rw [hx]

/-- **shift theorem, 3-D** (lifted through `alongX/Y/Z`): `fftn(roll(x, -s)) = phase ⊙ fftn(x)` -/
theorem dft3_shift_theorem (d : Dims) (ωx ωy ωz : C) (hx : Root d.nx ωx) (hy : Root d.ny ωy) (hz : Root d.nz ωz)
    (s : Idx) (x : Idx → C) (k : Idx) :
    dft3 d (fun m => ωx ^ m) (fun m => ωy ^ m) (fun m => ωz ^ m) (fun i => x (rollIdx d s i)) k
      = phase3 d ωx ωy ωz s k * dft3 d (fun m => ωx ^ m) (fun m => ωy ^ m) (fun m => ωz ^ m) x k := by
  obtain ⟨a, b, c⟩ := k
  obtain ⟨sa, sb, sc⟩ := s
  simp only [dft3, alongZ, alongY, alongX, rollIdx, phase3]
  -- the 1-D theorem for every x row; then, its phase moved out of the y transform, for every y row of the result; then for the z row
  have e1 := fun b' c' : Int => dft1_roll hx sa (fun u => x (u, roll1 d.ny sb b', roll1 d.nz sc c')) a
  simp only [e1, dft1_mul_left]
  have e2 := fun c' : Int => dft1_roll hy sb (fun v => dft1 d.nx (fun m => ωx ^ m) (fun a' => x (a', v, roll1 d.nz sc c')) a) b
  simp only [e2, dft1_mul_left]
  rw [dft1_roll hz sc (fun w => dft1 d.ny (fun m => ωy ^ m) (fun b' => dft1 d.nx (fun m => ωx ^ m) (fun a' => x (a', b', w)) a) b) c]
  ring

/-- **Hermitian symmetry, 3-D**: the spectrum of a `conj`-fixed (real) volume at bin `-k` is the conjugate of bin `k` -/
theorem dft3_hermitian_symmetry (d : Dims) (ωx ωy ωz : C) (hx : Root d.nx ωx) (hy : Root d.ny ωy) (hz : Root d.nz ωz)
    (conj : C →+* C) (cx : conj ωx = ωx⁻¹) (cy : conj ωy = ωy⁻¹) (cz : conj ωz = ωz⁻¹)
    (x : Idx → C) (hreal : ∀ i, conj (x i) = x i) (k : Idx) :
    dft3 d (fun m => ωx ^ m) (fun m => ωy ^ m) (fun m => ωz ^ m) x (negBoxIdx d k)
      = conj (dft3 d (fun m => ωx ^ m) (fun m => ωy ^ m) (fun m => ωz ^ m) x k) := by
  rw [← dft3_conj conj hx hy hz cx cy cz x k]
  congr 1
  funext i
  rw [hreal]

/-- `roll` is a bijection of the index set (inverse: the opposite roll), `-k` an involution -/
theorem roll_neg_invol (d : Dims) (s i k : Idx) :
    rollIdx d (-s.1, -s.2.1, -s.2.2) (rollIdx d s i) = i ∧ negBoxIdx d (negBoxIdx d k) = k :=
  ⟨rollIdx_rollIdx_neg d s i, negBoxIdx_invol d k⟩

/-- **`filt_shift` with its hypothesis discharged**: with the model's DFT pair over any field with the needed roots of
unity, every multiplier filter commutes with every circular shift — no assumption on the transform left -/
theorem filt_shift_dft (d : Dims) (ωx ωy ωz : C) (hx : Root d.nx ωx) (hy : Root d.ny ωy) (hz : Root d.nz ωz)
    (re : C → C) (hre : RealPart R re) (g : Idx → R) (s : Idx) (x : Idx → C) :
    filt (dft3 d (fun m => ωx ^ m) (fun m => ωy ^ m) (fun m => ωz ^ m))
        (idft3 d (fun m => ωx ^ m) (fun m => ωy ^ m) (fun m => ωz ^ m) (d.nx : C)⁻¹ (d.ny : C)⁻¹ (d.nz : C)⁻¹) re g
        (fun i => x (rollIdx d s i))
      = fun i => filt (dft3 d (fun m => ωx ^ m) (fun m => ωy ^ m) (fun m => ωz ^ m))
        (idft3 d (fun m => ωx ^ m) (fun m => ωy ^ m) (fun m => ωz ^ m) (d.nx : C)⁻¹ (d.ny : C)⁻¹ (d.nz : C)⁻¹) re g x
        (rollIdx d s i) :=
  filt_shift (dft3_transform d ωx ωy ωz hx hy hz re hre) g (rollIdx d s) (fun k c => phase3 d ωx ωy ωz s k * c)
    (fun _ a c => mul_smul_comm a _ c) (fun x => funext fun k => dft3_shift_theorem d ωx ωy ωz hx hy hz s x k) x

end dftsym

/-! Over ℂ: `dftC d` / `idftC d` are `dft3 / idft3` with numpy's twiddles `exp(-2πi/n)` (`Lemmas/C12_DftShift`),
`reC` is `np.real`. Every operator theorem, with NO Transform / shift / Hermitian hypothesis left. -/

/-- `dftC / idftC` ARE `dft3 / idft3` with the twiddles `omegaC n ^ m` (definitional: `rfl`; an anchor that ties the corollaries
`*_complex` to the polymorphic transform the driver instantiates at `Cx Float`, not a clause of the statement) -/
theorem dftC_is_dft3 (d : Dims) :
    dftC d = dft3 d (fun m => omegaC d.nx ^ m) (fun m => omegaC d.ny ^ m) (fun m => omegaC d.nz ^ m) ∧
    idftC d = idft3 d (fun m => omegaC d.nx ^ m) (fun m => omegaC d.ny ^ m) (fun m => omegaC d.nz ^ m) (d.nx : ℂ)⁻¹ (d.ny : ℂ)⁻¹ (d.nz : ℂ)⁻¹ :=
  ⟨rfl, rfl⟩

/-- numpy's shift theorem: `fftn(roll(x, -s))[k] = exp(2πi Σ s_a k_a / n_a) · fftn(x)[k]` -/
theorem dft_shift_theorem_complex (d : Dims) (hd : 0 < d.nx ∧ 0 < d.ny ∧ 0 < d.nz) (s : Idx) (x : Idx → ℂ) (k : Idx) :
    dftC d (fun i => x (rollIdx d s i)) k = phaseC d s k * dftC d x k :=
  dft3_shift_theorem d _ _ _ (omegaC_root _ hd.1) (omegaC_root _ hd.2.1) (omegaC_root _ hd.2.2) s x k

/-- a real map has a Hermitian spectrum -/
theorem dft_hermitian_complex (d : Dims) (hd : 0 < d.nx ∧ 0 < d.ny ∧ 0 < d.nz) (x : Idx → ℂ) (hx : ∀ i, (x i).im = 0) (k : Idx) :
    dftC d x (negBoxIdx d k) = (starRingEnd ℂ) (dftC d x k) :=
  dft3_hermitian_symmetry d _ _ _ (omegaC_root _ hd.1) (omegaC_root _ hd.2.1) (omegaC_root _ hd.2.2) (starRingEnd ℂ)
    (omegaC_conj _) (omegaC_conj _) (omegaC_conj _) x (fun i => Complex.conj_eq_iff_im.2 (hx i)) k

/-- `np.real(ifftn(Y)) = ifftn(Hermitian part of Y)` -/
theorem idft_real_part_complex (d : Dims) (hd : 0 < d.nx ∧ 0 < d.ny ∧ 0 < d.nz) (y : Idx → ℂ) (i : Idx) :
    reC (idftC d y i) = idftC d (fun k => (1 / 2 : ℝ) • (y k + (starRingEnd ℂ) (y (negBoxIdx d k)))) i := by
  have T : Transform ℝ (dftC d) (idftC d) reC := dft3_transform_complex d hd
  have e : (fun k => (1 / 2 : ℝ) • (y k + (starRingEnd ℂ) (y (negBoxIdx d k))))
      = (1 / 2 : ℝ) • (y + fun k => (starRingEnd ℂ) (y (negBoxIdx d k))) := rfl
  rw [e, T.Finv_smul, T.Finv_add, idftC_conj d hd y, reC_half]
  rfl

theorem filt_add_complex (d : Dims) (hd : 0 < d.nx ∧ 0 < d.ny ∧ 0 < d.nz) (g : Idx → ℝ) (x y : Idx → ℂ) :
    filt (dftC d) (idftC d) reC g (x + y) = filt (dftC d) (idftC d) reC g x + filt (dftC d) (idftC d) reC g y :=
  filt_add (dft3_transform_complex d hd) g x y

theorem filt_smul_complex (d : Dims) (hd : 0 < d.nx ∧ 0 < d.ny ∧ 0 < d.nz) (g : Idx → ℝ) (a : ℝ) (x : Idx → ℂ) :
    filt (dftC d) (idftC d) reC g (a • x) = a • filt (dftC d) (idftC d) reC g x :=
  filt_smul (dft3_transform_complex d hd) g a x

/-- real-valued: the imaginary part of every output voxel is 0 — for ANY `F`, `Finv` in place of `dftC d`, `idftC d`, because `reC`
(`np.real`) is applied last; nothing about the transform is used -/
theorem filt_real_complex (d : Dims) (g : Idx → ℝ) (x : Idx → ℂ) (i : Idx) :
    (filt (dftC d) (idftC d) reC g x i).im = 0 := by
  simp [filt, reC]

theorem filt_spectrum_complex (d : Dims) (hd : 0 < d.nx ∧ 0 < d.ny ∧ 0 < d.nz) (g : Idx → ℝ) (x : Idx → ℂ) (k : Idx) :
    dftC d (idftC d (fun k => g k • dftC d x k)) k = g k • dftC d x k :=
  filt_spectrum (dft3_transform_complex d hd) g x k

/-- **commutes with circular shifts** — every gain, every box, every shift; nothing assumed -/
theorem filt_shift_complex (d : Dims) (hd : 0 < d.nx ∧ 0 < d.ny ∧ 0 < d.nz) (g : Idx → ℝ) (s : Idx) (x : Idx → ℂ) :
    filt (dftC d) (idftC d) reC g (fun i => x (rollIdx d s i)) = fun i => filt (dftC d) (idftC d) reC g x (rollIdx d s i) :=
  filt_shift_dft d _ _ _ (omegaC_root _ hd.1) (omegaC_root _ hd.2.1) (omegaC_root _ hd.2.2) reC reC_realPart g s x

/-- **any real gain, real map: the filter acts with the even part of the gain** (what the harness measures) -/
theorem filt_effective_gain_complex (d : Dims) (hd : 0 < d.nx ∧ 0 < d.ny ∧ 0 < d.nz) (g : Idx → ℝ)
    (x : Idx → ℂ) (hx : ∀ i, (x i).im = 0) :
    filt (dftC d) (idftC d) reC g x = idftC d (fun k => ((g k + g (negBoxIdx d k)) / 2) • dftC d x k)
    ∧ ∀ k, dftC d (filt (dftC d) (idftC d) reC g x) k = ((g k + g (negBoxIdx d k)) / 2) • dftC d x k :=
  filt_effective_gain (dft3_transform_complex d hd) two_ne_zero (starRingEnd ℂ) (negBoxIdx d) conj_real_smul Complex.conj_conj
    (fun y i => idft_real_part_complex d hd y i) g x (dft_hermitian_complex d hd x hx)

/-- **even gain (the hard filters: `hard_gain_even`), real map: `np.real` drops nothing**, the output spectrum is gain × input spectrum —
the effective gain of an even gain is the gain -/
theorem filt_even_gain_complex (d : Dims) (hd : 0 < d.nx ∧ 0 < d.ny ∧ 0 < d.nz) (g : Idx → ℝ)
    (hg : ∀ k, g (negBoxIdx d k) = g k) (x : Idx → ℂ) (hx : ∀ i, (x i).im = 0) :
    filt (dftC d) (idftC d) reC g x = idftC d (fun k => g k • dftC d x k)
    ∧ ∀ k, dftC d (filt (dftC d) (idftC d) reC g x) k = g k • dftC d x k := by
  simpa only [hg, add_self_div_two] using filt_effective_gain_complex d hd g x hx

theorem filt_complement_complex (d : Dims) (hd : 0 < d.nx ∧ 0 < d.ny ∧ 0 < d.nz) (g : Idx → ℝ) (x : Idx → ℂ) (i : Idx) :
    filt (dftC d) (idftC d) reC (fun k => 1 - g k) x i = reC (x i) - filt (dftC d) (idftC d) reC g x i :=
  filt_complement (dft3_transform_complex d hd) g x i

theorem filt_difference_complex (d : Dims) (hd : 0 < d.nx ∧ 0 < d.ny ∧ 0 < d.nz) (g1 g2 : Idx → ℝ) (x : Idx → ℂ) (i : Idx) :
    filt (dftC d) (idftC d) reC (fun k => g1 k - g2 k) x i
      = filt (dftC d) (idftC d) reC g1 x i - filt (dftC d) (idftC d) reC g2 x i :=
  filt_difference (dft3_transform_complex d hd) g1 g2 x i

theorem bandpass_difference_complex (d : Dims) (hd : 0 < d.nx ∧ 0 < d.ny ∧ 0 < d.nz) (kl kh : Option (List (Int × ℝ))) (lp hp : Int)
    (x : Idx → ℂ) (i : Idx) :
    bandpass (dftC d) (idftC d) reC kl kh d lp hp x i
      = lowpass (dftC d) (idftC d) reC kl d lp x i - lowpass (dftC d) (idftC d) reC kh d hp x i :=
  bandpass_difference (dft3_transform_complex d hd) kl kh d lp hp x i

/-- **low-, high- and band-pass commute with `np.roll`** (every kernel, cutoff, box and shift) -/
theorem filters_shift_complex (d : Dims) (hd : 0 < d.nx ∧ 0 < d.ny ∧ 0 < d.nz) (kl kh : Option (List (Int × ℝ))) (lp hp : Int)
    (s : Idx) (x : Idx → ℂ) :
    lowpass (dftC d) (idftC d) reC kl d lp (fun i => x (rollIdx d s i))
        = (fun i => lowpass (dftC d) (idftC d) reC kl d lp x (rollIdx d s i)) ∧
    highpass (dftC d) (idftC d) reC kl d lp (fun i => x (rollIdx d s i))
        = (fun i => highpass (dftC d) (idftC d) reC kl d lp x (rollIdx d s i)) ∧
    bandpass (dftC d) (idftC d) reC kl kh d lp hp (fun i => x (rollIdx d s i))
        = (fun i => bandpass (dftC d) (idftC d) reC kl kh d lp hp x (rollIdx d s i)) :=
  ⟨filt_shift_complex d hd _ s x, filt_shift_complex d hd _ s x, filt_shift_complex d hd _ s x⟩

/-- opposite bins have the same integer frequency radius, also with `-k` taken on the box only -/
theorem freqRadius2_negBox (d : Dims) (hd : 0 < d.nx ∧ 0 < d.ny ∧ 0 < d.nz) (k : Idx) :
    freqRadius2 d (negBoxIdx d k).1 (negBoxIdx d k).2.1 (negBoxIdx d k).2.2 = freqRadius2 d k.1 k.2.1 k.2.2 := by
  obtain ⟨a, b, c⟩ := k
  simp only [freqRadius2, negBoxIdx]
  rw [freq_negBox1_sq _ hd.1, freq_negBox1_sq _ hd.2.1, freq_negBox1_sq _ hd.2.2]

/-- **the hard low-pass of a real map, end to end**: Fourier component `k` of the output is the input's component
times exactly 1 (integer frequency radius² ≤ cutoff²) or 0 — `np.real` included, nothing assumed about the transform -/
theorem hard_lowpass_spectrum_complex (d : Dims) (hd : 0 < d.nx ∧ 0 < d.ny ∧ 0 < d.nz) (r : Int) (hr : 0 ≤ r)
    (x : Idx → ℂ) (hx : ∀ i, (x i).im = 0) (k : Idx) :
    dftC d (lowpass (dftC d) (idftC d) reC (none : Option (List (Int × ℝ))) d r x) k
      = (if freqRadius2 d k.1 k.2.1 k.2.2 ≤ r * r then (1 : ℝ) else 0) • dftC d x k := by
  have hg : ∀ k : Idx, atIdx (lowGainFn (none : Option (List (Int × ℝ))) d r) (negBoxIdx d k)
      = atIdx (lowGainFn (none : Option (List (Int × ℝ))) d r) k := by
    intro k
    simp only [atIdx]
    rw [hard_gain d r hr, hard_gain d r hr, freqRadius2_negBox d hd]
  have := (filt_even_gain_complex d hd _ hg x hx).2 k
  unfold lowpass
  rw [this]
  simp only [atIdx]
  rw [hard_gain d r hr]

/-- **every filter of a real map, end to end**: on the box, Fourier component `k` of the output is the input's
component times the model's effective gain `effGain` (the array the driver materialises and the harness compares
with the gain it measures on the real code) -/
theorem filter_effective_gain_complex (d : Dims) (hd : 0 < d.nx ∧ 0 < d.ny ∧ 0 < d.nz) (g : Vol ℝ)
    (x : Idx → ℂ) (hx : ∀ i, (x i).im = 0) (k : Idx) (hk : InBoxI d k) :
    dftC d (filt (dftC d) (idftC d) reC (atIdx g) x) k = atIdx (effGain d g) k • dftC d x k := by
  rw [(filt_effective_gain_complex d hd (atIdx g) x hx).2 k]
  obtain ⟨a, b, c⟩ := k
  obtain ⟨h1, h2, h3⟩ := hk
  simp only [atIdx, effGain, negBoxIdx, negBox1]
  rw [if_pos h1, if_pos h2, if_pos h3]

/-- in particular for the three cryoCAT filters with their own gains -/
theorem filters_effective_gain_complex (d : Dims) (hd : 0 < d.nx ∧ 0 < d.ny ∧ 0 < d.nz) (kl kh : Option (List (Int × ℝ))) (lp hp : Int)
    (x : Idx → ℂ) (hx : ∀ i, (x i).im = 0) (k : Idx) (hk : InBoxI d k) :
    dftC d (lowpass (dftC d) (idftC d) reC kl d lp x) k = atIdx (effGain d (lowGainFn kl d lp)) k • dftC d x k ∧
    dftC d (highpass (dftC d) (idftC d) reC kl d lp x) k = atIdx (effGain d (highGainFn kl d lp)) k • dftC d x k ∧
    dftC d (bandpass (dftC d) (idftC d) reC kl kh d lp hp x) k = atIdx (effGain d (bandGainFn kl kh d lp hp)) k • dftC d x k :=
  ⟨filter_effective_gain_complex d hd _ x hx k hk, filter_effective_gain_complex d hd _ x hx k hk,
    filter_effective_gain_complex d hd _ x hx k hk⟩

section filtergrid
variable {α C : Type} [Add α] [Mul α] [Sub α] [OfNat α 0] [OfNat α 1] [SMul α C] [Add C] [Mul C] [OfNat C 0]

/-- the driver's `filter` op, low-pass: the array it returns holds `lowpass (dft3 …) (idft3 …) re` of the
input array, voxel by voxel on the box (any number types: `Float`/`Cx Float` in the driver) -/
theorem lowpass_grid (d : Dims) (twx twy twz : Nat → C) (ix iy iz : C) (re : C → C) (ker : Option (List (Int × α))) (r : Int)
    (x : Grid C) (i : Idx) (hi : InBoxI d i) :
    atIdx (filtGrid d twx twy twz ix iy iz re (atIdx (gainGrid d (lowMaskGrid ker d r)).get) x).get i
      = lowpass (dft3 d twx twy twz) (idft3 d twx twy twz ix iy iz) re ker d r (atIdx x.get) i :=
  filtGrid_mask d twx twy twz ix iy iz re _ _ (fun a b c h => lowMaskGrid_get ker d r a b c h) x i hi

theorem highpass_grid (d : Dims) (twx twy twz : Nat → C) (ix iy iz : C) (re : C → C) (ker : Option (List (Int × α))) (r : Int)
    (x : Grid C) (i : Idx) (hi : InBoxI d i) :
    atIdx (filtGrid d twx twy twz ix iy iz re (atIdx (gainGrid d (highMaskGrid ker d r)).get) x).get i
      = highpass (dft3 d twx twy twz) (idft3 d twx twy twz ix iy iz) re ker d r (atIdx x.get) i :=
  filtGrid_mask d twx twy twz ix iy iz re _ _ (fun a b c h => highMaskGrid_get ker d r a b c h) x i hi

theorem bandpass_grid (d : Dims) (twx twy twz : Nat → C) (ix iy iz : C) (re : C → C) (kl kh : Option (List (Int × α))) (lp hp : Int)
    (x : Grid C) (i : Idx) (hi : InBoxI d i) :
    atIdx (filtGrid d twx twy twz ix iy iz re (atIdx (gainGrid d (bandMaskGrid kl kh d lp hp)).get) x).get i
      = bandpass (dft3 d twx twy twz) (idft3 d twx twy twz ix iy iz) re kl kh d lp hp (atIdx x.get) i :=
  filtGrid_mask d twx twy twz ix iy iz re _ _ (fun a b c h => bandMaskGrid_get kl kh d lp hp a b c h) x i hi

omit [Add α] [Mul α] [Sub α] [OfNat α 0] [OfNat α 1] in
/-- the driver's `filter` op with the key `roll`: the pipeline run on the rolled array `rollGrid d s x` is the filter
operator applied to the re-indexed input `x ∘ rollIdx d s` (any number types) -/
theorem filter_grid_roll (d : Dims) (twx twy twz : Nat → C) (ix iy iz : C) (re : C → C) (gain : Idx → α) (s : Idx)
    (x : Grid C) (i : Idx) (hi : InBoxI d i) :
    atIdx (filtGrid d twx twy twz ix iy iz re gain (rollGrid d s x)).get i
      = filt (dft3 d twx twy twz) (idft3 d twx twy twz ix iy iz) re gain (fun i => atIdx x.get (rollIdx d s i)) i := by
  rw [filtGrid_get d twx twy twz ix iy iz re gain _ i hi]
  exact filt_congr_box d twx twy twz ix iy iz re gain gain (fun _ _ => rfl) _ _ (fun k hk => rollGrid_get d s x k hk) i hi
end filtergrid

/-- In exact complex arithmetic the run of `filter_grid_roll` is the ROLLED output of the pipeline on the unrolled array: what the driver
returns as `out_roll` is `out` re-indexed with `rollIdx` (the harness compares it with the real code's output on
`np.roll(x, -s)`, tying `rollIdx` — the shift the theorems speak about — to `np.roll`) -/
theorem filter_grid_roll_complex (d : Dims) (hd : 0 < d.nx ∧ 0 < d.ny ∧ 0 < d.nz) (gain : Idx → ℝ) (s : Idx)
    (x : Grid ℂ) (i : Idx) (hi : InBoxI d i) :
    atIdx (filtGrid d (fun m => omegaC d.nx ^ m) (fun m => omegaC d.ny ^ m) (fun m => omegaC d.nz ^ m)
        (d.nx : ℂ)⁻¹ (d.ny : ℂ)⁻¹ (d.nz : ℂ)⁻¹ reC gain (rollGrid d s x)).get i
      = filt (dftC d) (idftC d) reC gain (atIdx x.get) (rollIdx d s i) := by
  rw [filter_grid_roll d _ _ _ _ _ _ reC gain s x i hi]
  exact congrFun (filt_shift_complex d hd gain s (atIdx x.get)) i

/-- `roundRat` (the rounding the model applies to the exact value of `box·px/res`) is round-to-nearest,
ties to even — Python's `round` — and is the only such function -/
theorem roundRat_nearest_even (q : Rat) :
    |q - (roundRat q : Rat)| ≤ 1 / 2 ∧ (|q - (roundRat q : Rat)| = 1 / 2 → roundRat q % 2 = 0) ∧
    ∀ v : Int, |q - (v : Rat)| ≤ 1 / 2 → (|q - (v : Rat)| = 1 / 2 → v % 2 = 0) → v = roundRat q :=
  ⟨(roundRat_spec q).1, (roundRat_spec q).2, fun v h1 h2 => roundRat_unique q v h1 h2⟩

/-- **a target resolution maps to round(box·pixel_size/resolution) Fourier pixels** — a definitional unfolding of `res2pix` (anchor of
the wording); its content is `roundRat_nearest_even` (which rounding), `resolution_expressions_documented` (the source computes this
expression) and the exact comparison of `resolution2pixels` with the driver's `pyRound` on the decoded double -/
theorem res2pix_round (box px res : Rat) : res2pix roundRat box px res = roundRat (box * px / res) := rfl

/-- given Fourier pixels are used as they are (also when a resolution is given too) -/
theorem filter_radius_pixels {α : Type} [Mul α] [Div α] (rnd : α → Int) (edge : α) (p : Int) (res px : Option α) :
    getFilterRadius rnd edge (some p) res px = some p := rfl

/-- a resolution with its pixel size gives `round(edge·px/res)` -/
theorem filter_radius_resolution {α : Type} [Mul α] [Div α] (rnd : α → Int) (edge res px : α) :
    getFilterRadius rnd edge none (some res) (some px) = some (rnd (edge * px / res)) := rfl

/-- neither: rejected (`ValueError`) -/
theorem filter_radius_rejects {α : Type} [Mul α] [Div α] (rnd : α → Int) (edge : α) (res px : Option α)
    (h : res = none ∨ px = none) : getFilterRadius rnd edge none res px = none := by
  rcases h with rfl | rfl
  · cases px <;> rfl
  · cases res <;> rfl

/-! Non-vacuity: the hypotheses above are satisfiable by non-trivial inputs. -/

example : ValidKernel 1 ([(-1, 1/4), (0, 1/2), (1, 1/4)] : List (Int × Rat)) :=
  ⟨by intro p hp; simp at hp; rcases hp with rfl | rfl | rfl <;> norm_num,
   by norm_num [ksum],
   by intro p hp; simp at hp; rcases hp with rfl | rfl | rfl <;> simp⟩

/-- the same kernel is symmetric and unimodal (hypothesis of `soft_gain_mono_axis_*`) -/
example : UnimodalKernel ([(-1, 1/4), (0, 1/2), (1, 1/4)] : List (Int × Rat)) := by
  refine ⟨?_, by norm_num [ksum], ?_⟩
  · intro p hp; simp at hp; rcases hp with rfl | rfl | rfl <;> norm_num
  · -- weight 1/2 at offset 0, 1/4 at the others: `a² ≤ 0` forces `a = 0`, and no weight is below 1/4
    have e : ([(-1, 1/4), (0, 1/2), (1, 1/4)] : List (Int × Rat)) = (offsets 1).map (fun q => (q, if q = 0 then 1/2 else 1/4)) := by
      decide +kernel
    rw [e]
    refine offsets_map_unimodal 1 _ (fun q => by split_ifs <;> norm_num) fun a b hab => ?_
    by_cases hb : b = 0
    · subst hb
      rw [mul_self_eq_zero.1 (le_antisymm hab (mul_self_nonneg a))]
    · rw [if_neg hb]
      split_ifs <;> norm_num
/-- `soft_gain_inside` hypotheses: cutoff 6, bin radius² = 5, reach² = 12 (√5 + √12 ≈ 5.70 ≤ 6): 5 + 12 ≤ 36 and 4·5·12 = 240 ≤ 19² -/
example : fitsInside (freqRadius2 ⟨16, 16, 16⟩ 2 1 0) 12 6 = true ∧ fitsInside (freqRadius2 ⟨16, 16, 16⟩ 2 1 0) 15 6 = false := by decide +kernel
/-- `soft_gain_outside` hypotheses: cutoff 3, bin (−7,0,0): radius² = 49, reach² = 15 (3 + √15 ≈ 6.87 < 7) -/
example : fitsOutside (freqRadius2 ⟨16, 16, 16⟩ 9 0 0) 15 3 = true ∧ fitsOutside (freqRadius2 ⟨16, 16, 16⟩ 9 0 0) 16 3 = false := by decide +kernel
/-- the tail of the kernel (1/4,1/2,1/4)³ beyond squared length 1 is 1/2, beyond 2 it is the 8 corners = 1/8, beyond 3 nothing -/
example : tail3 ([(-1, 1/4), (0, 1/2), (1, 1/4)] : List (Int × Rat)) 1 = 1/2
    ∧ tail3 ([(-1, 1/4), (0, 1/2), (1, 1/4)] : List (Int × Rat)) 2 = 1/8
    ∧ tail3 ([(-1, 1/4), (0, 1/2), (1, 1/4)] : List (Int × Rat)) 3 = 0 := by decide +kernel
/-- `soft_gain_mono_axis_x` hypotheses: box 16, cutoff 5: 8 + 5 + 1 < 16 and 5 < 8; bins 2 → 3 go up in frequency, 14 → 13 down -/
example : centre 16 + 5 + 1 < (16 : Int) ∧ (5 : Int) < centre 16 ∧ freq 16 3 = freq 16 2 + 1 ∧ 0 ≤ freq 16 2
    ∧ freq 16 13 = freq 16 14 - 1 ∧ freq 16 14 ≤ 0 := by decide +kernel
-- hypotheses of `soft_gain_mono_step` / `soft_eff_gain_mono_step` / `soft_edge_monotone_rays_partial`: box 16³, cutoff 5 keeps the ball off
-- both faces (8+5+1 < 16, 5 < 8); bin 2 ↦ 3 moves away from frequency 0, bin 14 ↦ 13 is its mirror (−2 ↦ −3); cutoff 7 touches the upper face
example : monoAxisOk 16 5 = true ∧ monoAxisOk 16 7 = false ∧ monoAxisOk 8 12 = false := by decide +kernel
example : EffStep 16 5 2 3 ∧ AwayStep 16 5 14 13 ∧ EffStep 16 5 4 4 := by
  refine ⟨Or.inr ⟨by decide, by decide, Or.inl ⟨by decide, by decide⟩⟩, Or.inr ⟨by decide, Or.inr ⟨by decide, by decide⟩⟩, Or.inl rfl⟩
-- a Nyquist landing that is an `AwayStep` but not an `EffStep`: axis 16, cutoff 5, bins 9 (frequency −7) → 8 (frequency −8)
example : AwayStep 16 5 9 8 ∧ ¬ EffStep 16 5 9 8 ∧ freq 16 8 = -centre 16 ∧ freq 16 9 = -centre 16 + 1 := by
  refine ⟨?_, ?_, by decide, by decide⟩ <;> simp [AwayStep, EffStep] <;> decide
example : ((1 : Int) = 1 ∨ (1 : Int) = -1) ∧ monoAxisOk 16 5 = true ∧ (6 : Int) + 1 < (16 : Int) - centre 16 := by decide +kernel
-- hypotheses of `soft_eff_gain_step_bound`: `AnyAwayStep` needs no face condition — axis 8 (bin 3 has frequency 3, bin 4 frequency −4): the
-- steps 2 ↦ 3 (up), 5 ↦ 4 (−3 ↦ −4, the Nyquist landing), 6 ↦ 6 (stays)
example : AnyAwayStep 8 2 3 ∧ AnyAwayStep 8 5 4 ∧ AnyAwayStep 8 6 6 ∧ monoAxisOk 8 4 = false := by
  refine ⟨Or.inr (Or.inl ⟨by decide, by decide⟩), Or.inr (Or.inr ⟨by decide, by decide⟩), Or.inl rfl, by decide⟩
-- hypotheses of `face_rise_zero` / `face_rise_zero_short_kernel`: axis 9 is odd; axis 16 with cutoff 5 is off the face; support 1 < 8/2
example : (9 : Nat) % 2 = 1 ∧ centre 16 + 5 + 1 < (16 : Int) ∧ ((1 : Nat) : Int) < centre 8 := by decide +kernel
-- hypotheses of `soft_edge_rays_bound`: box 8, ray direction −1, m = 3: the step −3 ↦ −4 lands on the Nyquist bin (3 + 1 ≤ ⌊8/2⌋)
example : ((-1 : Int) = -1 ∧ (3 : Int) + 1 ≤ centre 8) ∧ ((1 : Int) = 1 ∧ (2 : Int) + 1 < (8 : Int) - centre 8) := by decide +kernel
/-- `Root`: −1 is a primitive 2nd root of unity in ℚ, so `dft3_transform` is not vacuous even over ℚ (boxes 2×2×2, 1×2×1 …) -/
example : Root 2 (-1 : Rat) := ⟨IsPrimitiveRoot.neg_one 0 (by decide), by decide, by norm_num⟩
/-- the 2-point DFT of (x₀,x₁) is (x₀+x₁, x₀−x₁), outside 0…1 nothing moves -/
example : dft1 2 (fun m => (-1 : Rat) ^ m) (fun u => if u = 0 then 3 else if u = 1 then 5 else 7) 1 = -2
    ∧ dft1 2 (fun m => (-1 : Rat) ^ m) (fun u => if u = 0 then 3 else if u = 1 then 5 else 7) 0 = 8
    ∧ dft1 2 (fun m => (-1 : Rat) ^ m) (fun u => if u = 0 then 3 else if u = 1 then 5 else 7) 2 = 7 := by decide +kernel
-- the index maps, the shift theorem and the Hermitian symmetry on concrete inputs (n = 2, ω = −1, conj = id on ℚ)
example : roll1 5 2 4 = 1 ∧ roll1 5 (-7) 0 = 3 ∧ roll1 5 2 9 = 9 ∧ negBox1 5 2 = 3 ∧ negBox1 6 3 = 3 ∧ negBox1 5 0 = 0 ∧ negBox1 5 (-2) = -2 := by decide +kernel
example : rollIdx ⟨4, 5, 6⟩ (1, -1, 7) (3, 0, 2) = (0, 4, 3) ∧ negBoxIdx ⟨4, 5, 6⟩ (1, 0, 2) = (3, 0, 4) := by decide +kernel
example : (RingHom.id Rat) (-1 : Rat) = (-1 : Rat)⁻¹ ∧ ∀ u : Int, (RingHom.id Rat) ((fun u => if u = 0 then (3 : Rat) else 5) u) = (fun u => if u = 0 then (3 : Rat) else 5) u :=
  ⟨by norm_num, fun _ => rfl⟩
example : dft1 2 (fun m => (-1 : Rat) ^ m) (fun i => (fun u : Int => if u = 0 then (3 : Rat) else if u = 1 then 5 else 7) (roll1 2 1 i)) 1 = 2
    ∧ phase1 2 (-1 : Rat) 1 1 = -1 := by
  constructor
  · simp [dft1, sumN, roll1]; norm_num
  · simp [phase1]
example : (∀ i : Idx, ((fun _ => (3 : ℂ)) i).im = 0) ∧ InBoxI ⟨4, 5, 6⟩ (3, 0, 2) := by
  refine ⟨fun _ => by simp, ?_⟩
  simp [InBoxI, InBox]
example : ∀ k : Idx, (fun _ : Idx => (1 / 2 : ℝ)) (negBoxIdx ⟨4, 5, 6⟩ k) = (fun _ : Idx => (1 / 2 : ℝ)) k := fun _ => rfl
/-- `soft_gain_one` hypotheses: box 16³, cutoff 6, t = 1, s = 2 (3·1 ≤ 4), bin (2,1,0): radius² = 5 ≤ 3² -/
example : freqRadius2 ⟨16, 16, 16⟩ 2 1 0 ≤ 3 * 3 ∧ 3 * ((1 : Int) * 1) ≤ 2 * 2 ∧ (3 : Int) + 2 ≤ 6 := by decide +kernel
/-- `soft_gain_zero` hypotheses: same box, cutoff 3, bin (−7,0,0) = DFT index 9: radius² = 49 ≥ 6², 3 + 2 < 6 -/
example : (6 : Int) * 6 ≤ freqRadius2 ⟨16, 16, 16⟩ 9 0 0 ∧ (3 : Int) + 2 < 6 := by decide +kernel
/-- hard gain on a non-cubic odd/even box: bin (9,0,12) of 10×9×13 has frequency (−1,0,−1) -/
example : freq 10 9 = -1 ∧ freq 9 0 = 0 ∧ freq 13 12 = -1 ∧ freq 10 5 = -5 ∧ freq 9 4 = 4 ∧ freq 9 5 = -4 := by decide +kernel
example : lowGainFn (none : Option (List (Int × Rat))) ⟨10, 9, 13⟩ 1 9 0 12 = 0
    ∧ lowGainFn (none : Option (List (Int × Rat))) ⟨10, 9, 13⟩ 2 9 0 12 = 1 := by decide +kernel
/-- rounding ties go to the even integer: 2.5 ↦ 2, 3.5 ↦ 4, −0.5 ↦ 0, 39.45 ↦ 39 -/
example : roundHalfEven 5 2 = 2 ∧ roundHalfEven 7 2 = 4 ∧ roundHalfEven (-1) 2 = 0 ∧ roundHalfEven 789 20 = 39 := by decide +kernel
example : roundRat (5 / 2) = 2 ∧ res2pix roundRat 100 (789 / 100) 20 = 39 := by decide +kernel
/-- the exact value of the double 2.5 = 0x4004000000000000 -/
example : fracOfBits 0x4004000000000000 = some (5629499534213120, 2251799813685248) := by decide +kernel

end CryoCat.C12
