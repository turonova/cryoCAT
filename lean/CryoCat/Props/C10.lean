import CryoCat.Lemmas.Layout
import CryoCat.Lemmas.Sort
import CryoCat.Lemmas.C10
import CryoCat.Lemmas.C10_Svc
import CryoCat.Lemmas.C10_Parse
/-! C10 — cyclic symmetry expansion places subunits on the symmetry orbit.
Property theorems about `CryoCat.C10.expand`, for every `n`, every particle list (parent ids may repeat), every offset `s`,
over any field (orbit algebra, bookkeeping), any ordered field with a rounding service (integrality, |shift| ≤ 1/2) and
over ℝ with the true cosine/sine (the step angle is 360/n degrees); the symmetry argument as a string (`'C7'`, `'c7'`,
`'C 7'`, `'C07'`) or a number (`int()` = truncation toward zero of its exact value). The theorems are stated with the
Cartesian rotation `Rz(k·a)·s` of the statement; the code's own arithmetic (polar form of the offset, `trig(k·360/n)`;
`expandP` / `expandSymP`, what the driver executes) is proved equal to it under the identities `PolarExact` (polar
coordinates of `(x, y)`, angle addition — identities that hold for the real `sqrt` / `arg` / `cos` / `sin`:
`realPolar_exact`), so the abstract `expandP_eq` only factors the algebra; its substance is the hypothesis-free statement
over ℝ with `arctan2 = Complex.arg` (`real_expandP_eq`, `real_expandP_spec`). -/
namespace CryoCat.C10

/-! Anchors — translator obligations: what the source says is the documented convention.
One theorem per anchored item, all in this section and nowhere else, so that a changed source line breaks the theorem
named after it (the build obligation lists the failing theorem names under `failed`); the Python side names the
broken `anchor:` too. Locals are alpha-renamed before extraction: renaming a local variable changes nothing here;
type annotations and the wording of messages are dropped; a product / sum with a provably numeric operand (literal or
`np.` call) is shown in canonical operand order (sorted text: `1+n_subunits`, `inplane_step*np.arange(n_subunits)`) —
IEEE `*`/`+` commute bit for bit — while `rotations*rot.from_euler(…)` (composition) stays as written. -/
section anchors

theorem anchors_ok : Gen.C10.anchorsOk = true := rfl

/-- `inplane_step = 360 / nfold`, `n_subunits = nfold`, `phi_k = k * inplane_step` stored as the first zxz angle -/
theorem step_documented :
    Gen.C10.fullTurnDeg = 360 ∧ Gen.C10.stepExpr = "360/nfold" ∧ Gen.C10.nSubunitsExpr = "nfold" ∧
    Gen.C10.phiExpr = "inplane_step*np.arange(n_subunits)" ∧ Gen.C10.phiSlot = 0 := ⟨rfl, rfl, rfl, rfl, rfl⟩

/-- parent recorded in geom5 (from subtomo_id), subunit index in geom2, parents ordered by subtomo_id,
new ids into subtomo_id, parent orientation read from (phi, theta, psi) -/
theorem fields_documented :
    parentSrcF = .subtomo_id ∧ parentDstF = .geom5 ∧ indexDstF = .geom2 ∧ sortKeyF = .subtomo_id ∧
    idDstF = .subtomo_id ∧ angleF 0 = .phi ∧ angleF 1 = .theta ∧ angleF 2 = .psi := by decide +kernel

/-- the symmetry argument: a string gives `nfold` = its last run of digits and is cyclic when it starts with c/C;
a number (Python or numpy, int or float) is cyclic with `nfold = int(symmetry)`; cyclic is `s_type = 1` -/
theorem symmetry_argument_documented :
    Gen.C10.strNfoldExpr = "int(re.findall('\\\\d+',symmetry)[-1])" ∧
    Gen.C10.cyclicPrefixTest = "symmetry.lower().startswith('c')" ∧
    Gen.C10.numericTypes = ["int", "float", "np.integer", "np.floating"] ∧
    Gen.C10.numericNfoldExpr = "int(symmetry)" ∧ Gen.C10.cyclicTypeCode = 1 := ⟨rfl, rfl, rfl, rfl, rfl⟩

/-- subunit indices `arange(1, n_subunits+1)`, new ids `arange(1, len+1)` -/
theorem numbering_documented :
    Gen.C10.indexStart = 1 ∧ Gen.C10.indexStopExpr = "1+n_subunits" ∧
    Gen.C10.idStart = 1 ∧ Gen.C10.idStopExpr = "1+len(new_motl_df)" := ⟨rfl, rfl, rfl, rfl⟩

/-- every Euler conversion is extrinsic "zxz" in degrees; the new rotation is `rotations * from_euler(new_angles)`
(parent on the left) -/
theorem euler_convention_documented :
    Gen.C10.eulerSeqs = ["zxz", "zxz", "zxz"] ∧ Gen.C10.eulerDegrees = [true, true, true] ∧
    Gen.C10.parentAngles = ["phi", "theta", "psi"] ∧
    Gen.C10.composeLeft = "rotations" ∧ Gen.C10.composeRight = "rot.from_euler" := ⟨rfl, rfl, rfl, rfl, rfl⟩

/-- the shift added is `rotations.apply(center_shift)` with `center_shift` the polar form of `Rz(phi_k) s`; shifts and
Euler angles are assigned as whole columns (`frame[[…]] = values`, D33: `.loc[:, […]] = ` wrote into the existing columns
and raised for integer-typed columns) -/
theorem shift_expression_documented :
    Gen.C10.shiftFields = ["shift_x", "shift_y", "shift_z"] ∧
    Gen.C10.angleFieldsOut = ["phi", "theta", "psi"] ∧
    Gen.C10.shiftRhs = "new_motl_df[['shift_x','shift_y','shift_z']].to_numpy()+rotations.apply(center_shift)" ∧
    Gen.C10.rhoExpr = "np.sqrt(starting_vector[0]**2+starting_vector[1]**2)" ∧
    Gen.C10.theExpr = "np.arctan2(starting_vector[1],starting_vector[0])" ∧
    Gen.C10.repTheExpr = "np.deg2rad(phi_angles)+np.full((n_subunits,),the)" ∧
    Gen.C10.repZExpr = "np.full((n_subunits,),starting_vector[2])" ∧
    Gen.C10.polarExprs = ["np.cos(rep_the)*rot_rho", "np.sin(rep_the)*rot_rho", "rep_z"] := ⟨rfl, rfl, rfl, rfl, rfl, rfl, rfl, rfl⟩

/-- `update_coordinates` runs on the result and rounds the complete position half-up, keeping the rest as shift -/
theorem rounding_documented :
    Gen.C10.callsUpdate = true ∧ Gen.C10.roundingModes = ["ROUND_HALF_UP", "ROUND_HALF_UP", "ROUND_HALF_UP"] ∧
    Gen.C10.shiftedExprs = ["row['x']+row['shift_x']", "row['y']+row['shift_y']", "row['z']+row['shift_z']"] ∧
    Gen.C10.restExprs = ["shifted_x-new_row['x']", "shifted_y-new_row['y']", "shifted_z-new_row['z']"] := ⟨rfl, rfl, rfl, rfl⟩


/-- since 7710334: `parent_order = np.argsort(self.df["subtomo_id"].to_numpy(), kind="stable")` (a stable sort by id)
and the expanded frame is `self.df.iloc[np.repeat(parent_order, n_subunits)].copy()` (n consecutive copies per
parent), assigned once — exactly `sortParents` + `flatMap` of the model -/
theorem parent_order_documented :
    Gen.C10.sortKey = "subtomo_id" ∧ Gen.C10.sortKind = "stable" ∧
    Gen.C10.expandExpr = "self.df.iloc[np.repeat(parent_order,n_subunits)].copy()" := ⟨rfl, rfl, rfl⟩

/-- neither function has an optional argument — there is no default value the statement could depend on -/
theorem signature_documented : Gen.C10.signature = ["self", "symmetry", "xyz_shift"] := rfl

/-- the whole body of `split_in_asymmetric_subunits` (locals alpha-renamed, docstring and message wording dropped):
every statement, in order, with its nesting — so an added, removed, moved or guarded statement is seen also in
the branches no correspondence run executes (dihedral, the two non-raising `ValueError(...)` expressions) -/
theorem body_documented :
    Gen.C10.body = [
      "defsplit_in_asymmetric_subunits(self,symmetry,xyz_shift):",
      ">ifisinstance(symmetry,str):",
      ">>nfold=int(re.findall('\\\\d+',symmetry)[-1])",
      ">>ifsymmetry.lower().startswith('c'):",
      ">>>s_type=1",
      ">>elifsymmetry.lower().startswith('d'):",
      ">>>s_type=2",
      ">>else:",
      ">>>ValueError('<msg>')",
      ">elifisinstance(symmetry,(int,float,np.integer,np.floating)):",
      ">>s_type=1",
      ">>nfold=int(symmetry)",
      ">else:",
      ">>ValueError('<msg>')",
      ">inplane_step=360/nfold",
      ">ifs_type==1:",
      ">>n_subunits=nfold",
      ">>phi_angles=inplane_step*np.arange(n_subunits)",
      ">>new_angles=np.zeros((n_subunits,3))",
      ">>new_angles[:,0]=phi_angles",
      ">elifs_type==2:",
      ">>n_subunits=2*nfold",
      ">>in_plane_offset=int(inplane_step/2)",
      ">>new_angles=np.zeros((n_subunits,3))",
      ">>new_angles[0::2,0]=np.arange(0,360,int(inplane_step))",
      ">>new_angles[1::2,0]=np.arange(0+in_plane_offset,360+in_plane_offset,int(inplane_step))",
      ">>new_angles[1::2,1]=180",
      ">>phi_angles=new_angles[:,0].copy()",
      ">phi_angles=phi_angles.reshape(n_subunits)",
      ">starting_vector=np.array(xyz_shift)",
      ">rho=np.sqrt(starting_vector[0]**2+starting_vector[1]**2)",
      ">the=np.arctan2(starting_vector[1],starting_vector[0])",
      ">rot_rho=np.full((n_subunits,),rho)",
      ">rep_the=np.deg2rad(phi_angles)+np.full((n_subunits,),the)",
      ">rep_z=np.full((n_subunits,),starting_vector[2])",
      ">ifs_type==2:",
      ">>rep_z[1::2]*=-1",
      ">center_shift=np.zeros([rot_rho.shape[0],3])",
      ">center_shift[:,0]=np.cos(rep_the)*rot_rho",
      ">center_shift[:,1]=np.sin(rep_the)*rot_rho",
      ">center_shift[:,2]=rep_z",
      ">parent_order=np.argsort(self.df['subtomo_id'].to_numpy(),kind='stable')",
      ">new_motl_df=self.df.iloc[np.repeat(parent_order,n_subunits)].copy()",
      ">new_motl_df['geom5']=new_motl_df['subtomo_id']",
      ">new_motl_df['geom2']=np.tile(np.arange(1,1+n_subunits).reshape(n_subunits,1),(len(self.df),1))",
      ">euler_angles=new_motl_df[['phi','theta','psi']]",
      ">rotations=rot.from_euler(seq='zxz',angles=euler_angles,degrees=True)",
      ">center_shift=np.tile(center_shift,(len(self.df),1))",
      ">new_angles=np.tile(new_angles,(len(self.df),1))",
      ">new_motl_df[['shift_x','shift_y','shift_z']]=new_motl_df[['shift_x','shift_y','shift_z']].to_numpy()+rotations.apply(center_shift)",
      ">new_rotations=rotations*rot.from_euler(seq='zxz',angles=new_angles,degrees=True)",
      ">new_motl_df[['phi','theta','psi']]=new_rotations.as_euler(seq='zxz',degrees=True)",
      ">new_motl_df['subtomo_id']=np.arange(1,1+len(new_motl_df))",
      ">new_motl=Motl(new_motl_df)",
      ">new_motl.update_coordinates()",
      ">new_motl.df.reset_index(inplace=True,drop=True)",
      ">returnnew_motl"] := rfl

theorem update_body_documented :
    Gen.C10.updBody = [
      "defupdate_coordinates(self):",
      ">defround_and_recenter(row):",
      ">>new_row=row.copy()",
      ">>shifted_x=row['x']+row['shift_x']",
      ">>shifted_y=row['y']+row['shift_y']",
      ">>shifted_z=row['z']+row['shift_z']",
      ">>new_row['x']=float(decimal.Decimal(float(shifted_x)).to_integral_value(rounding=decimal.ROUND_HALF_UP))",
      ">>new_row['y']=float(decimal.Decimal(float(shifted_y)).to_integral_value(rounding=decimal.ROUND_HALF_UP))",
      ">>new_row['z']=float(decimal.Decimal(float(shifted_z)).to_integral_value(rounding=decimal.ROUND_HALF_UP))",
      ">>new_row['shift_x']=shifted_x-new_row['x']",
      ">>new_row['shift_y']=shifted_y-new_row['y']",
      ">>new_row['shift_z']=shifted_z-new_row['z']",
      ">>returnnew_row",
      ">self.df=self.df.apply(round_and_recenter,axis=1)",
      ">warnings.warn('<msg>')"] := rfl

end anchors

/-! counting, parents, identifiers (any field, any decidable comparisons — no order axioms needed; parent ids
may repeat: nothing below assumes them unique) -/
section counting
variable {α : Type} [_root_.Field α] [LE α] [DecidableLE α]

/-- before renumbering, the output is — up to order — exactly one subunit per (parent, k) with `k < n` -/
theorem expandCore_perm (sv : Svc α) (n : Nat) (s : V3 α) (l : List (Particle α)) :
    (expandCore sv n s l).Perm (l.flatMap (fun P => (List.range n).map (subunit sv n s P))) := by
  unfold expandCore sortParents
  exact List.Perm.flatMap_right _ (List.mergeSort_perm _ _)

private theorem expandCore_length (sv : Svc α) (n : Nat) (s : V3 α) (l : List (Particle α)) :
    (expandCore sv n s l).length = n * l.length := by
  rw [(expandCore_perm sv n s l).length_eq, Layout.length_flatMap_blocks (m := n) fun _ _ => by simp, Nat.mul_comm]

/-- n particles per input particle, for every `n` (in particular every `n` not dividing 360) -/
theorem subunit_count (sv : Svc α) (n : Nat) (s : V3 α) (l : List (Particle α)) :
    (expand sv n s l).length = n * l.length := by
  unfold expand; rw [renum_length, expandCore_length]

/-- the final renumbering gives the `j`-th output (0-based) the subtomogram number `j+1` and changes nothing else -/
theorem expand_getElem?_core (sv : Svc α) (n : Nat) (s : V3 α) (l : List (Particle α)) (j : Nat) :
    (expand sv n s l)[j]? = ((expandCore sv n s l)[j]?).map (fun u => u.setId (((j + 1 : Nat) : α))) := by
  rw [expand, renum_getElem?, Nat.zero_add]
  rfl

/-- each parent's n subunits stand together, in index order, parents in sorted order — whatever the ids are
(unique, repeated within the list, the same in two tomograms): output number `n·i + k` (0-based, `k < n`) is the
`k`-th subunit of the `i`-th parent of the stably sorted list. This is what 7710334 restored in the code. -/
theorem expandCore_getElem? (sv : Svc α) (n : Nat) (s : V3 α) (l : List (Particle α)) (i k : Nat) (hk : k < n) :
    (expandCore sv n s l)[n * i + k]? = ((sortParents l)[i]?).map (fun P => subunit sv n s P k) := by
  rw [expandCore, Nat.mul_comm, Layout.getElem?_flatMap_blocks (fun _ _ => by simp) i hk]
  cases (sortParents l)[i]? <;> simp [List.getElem?_range hk]

theorem expand_getElem? (sv : Svc α) (n : Nat) (s : V3 α) (l : List (Particle α)) (i k : Nat) (hk : k < n) :
    (expand sv n s l)[n * i + k]?
      = ((sortParents l)[i]?).map (fun P => (subunit sv n s P k).setId (((n * i + k + 1 : Nat)) : α)) := by
  rw [expand_getElem?_core, expandCore_getElem? sv n s l i k hk, Option.map_map]
  rfl

/-- every output is the `k`-th subunit (`k < n`) of some input particle, renumbered -/
theorem expand_sound (sv : Svc α) (n : Nat) (s : V3 α) (l : List (Particle α)) (u : SubU α)
    (hu : u ∈ expand sv n s l) :
    ∃ P ∈ l, ∃ k, k < n ∧ ∃ j, j < n * l.length ∧ u = (subunit sv n s P k).setId (((j + 1 : Nat) : α)) := by
  obtain ⟨j, hj⟩ := List.mem_iff_getElem?.1 hu
  rw [expand_getElem?_core] at hj
  obtain ⟨u0, h0, rfl⟩ := Option.map_eq_some_iff.1 hj
  obtain ⟨P, hP, hk⟩ := List.mem_flatMap.1 ((expandCore_perm sv n s l).mem_iff.1 (List.mem_of_getElem? h0))
  obtain ⟨k, hkn, rfl⟩ := List.mem_map.1 hk
  have hjl := (List.getElem?_eq_some_iff.1 h0).1
  rw [expandCore_length] at hjl
  exact ⟨P, hP, k, List.mem_range.1 hkn, j, hjl, rfl⟩

/-- every (input particle, `k < n`) pair occurs among the outputs -/
theorem expand_complete (sv : Svc α) (n : Nat) (s : V3 α) (l : List (Particle α)) (P : Particle α) (hP : P ∈ l)
    (k : Nat) (hk : k < n) :
    ∃ j, j < n * l.length ∧ (subunit sv n s P k).setId (((j + 1 : Nat) : α)) ∈ expand sv n s l := by
  have hm : subunit sv n s P k ∈ expandCore sv n s l :=
    (expandCore_perm sv n s l).mem_iff.2 (List.mem_flatMap.2 ⟨P, hP, List.mem_map.2 ⟨k, List.mem_range.2 hk, rfl⟩⟩)
  obtain ⟨j, hj⟩ := List.mem_iff_getElem?.1 hm
  have hjl := (List.getElem?_eq_some_iff.1 hj).1
  rw [expandCore_length] at hjl
  refine ⟨j, hjl, List.mem_of_getElem? (i := j) ?_⟩
  rw [expand_getElem?_core, hj]
  rfl

private theorem setId_id (u : SubU α) (v : α) : (u.setId v).p.subtomo_id = v := by
  rw [SubU.setId, fields_documented.2.2.2.2.1]
  rfl

private theorem renum_ids (i : Nat) (us : List (SubU α)) :
    (renum i us).map (fun u => u.p.subtomo_id) = (List.range' i us.length).map (fun j => (((j + 1 : Nat)) : α)) := by
  rw [renum_eq_map, List.map_map, ← List.zipIdx_map_snd, List.map_map]
  exact List.map_congr_left fun x _ => setId_id _ _

/-- unique subtomogram numbers: the outputs are numbered 1, 2, …, n·N in order -/
theorem expand_ids (sv : Svc α) (n : Nat) (s : V3 α) (l : List (Particle α)) :
    (expand sv n s l).map (fun u => u.p.subtomo_id) = (List.range (n * l.length)).map (fun j => (((j + 1 : Nat)) : α)) := by
  rw [expand, renum_ids, expandCore_length, List.range_eq_range']

theorem expand_ids_nodup [CharZero α] (sv : Svc α) (n : Nat) (s : V3 α) (l : List (Particle α)) :
    ((expand sv n s l).map (fun u => u.p.subtomo_id)).Nodup := by
  rw [expand_ids]
  refine (List.nodup_range).map_on ?_
  intro a _ b _ h
  have := Nat.cast_injective (R := α) h
  omega

end counting


private theorem sortKey_eq {α : Type} (p : Particle α) : p.get sortKeyF = p.subtomo_id := by
  rw [fields_documented.2.2.2.1]; rfl

/-! the parent order: `np.argsort(ids, kind="stable")` (ordered fields) -/
section order
variable {α : Type} [LinearOrder α]

theorem sortParents_sorted (l : List (Particle α)) :
    (sortParents l).Pairwise (fun p q => p.subtomo_id ≤ q.subtomo_id) :=
  (Lists.pairwise_mergeSort_key (fun p : Particle α => p.get sortKeyF) l).imp fun h => by
    rwa [sortKey_eq, sortKey_eq] at h

/-- parents that share an id keep their row order (the sort is stable): the rows with id `v`, in the order of the input
list, are a sublist of the sorted parents. With `expandCore_getElem?` this is the whole row bookkeeping of the function
for arbitrary ids -/
theorem sortParents_stable (l : List (Particle α)) (v : α) :
    (l.filter (fun p => decide (p.subtomo_id = v))).Sublist (sortParents l) :=
  Lists.filter_mergeSort_key (fun p : Particle α => p.get sortKeyF) (fun p => decide (p.subtomo_id = v))
    (fun p q hp hq => by rw [sortKey_eq, sortKey_eq, of_decide_eq_true hp, of_decide_eq_true hq]) l ▸ List.filter_sublist

theorem sortParents_perm (l : List (Particle α)) : (sortParents l).Perm l := List.mergeSort_perm _ _

end order

section orbit
variable {α : Type} [_root_.Field α]

/-- one expanded row, renumbered, with the documented field names put in: the parent's record with its id copied to
`geom5`, the index in `geom2`, the new id, the rounded complete position and what was rounded off as shift -/
theorem mkSub_setId (sv : Svc α) (P : Particle α) (k : Nat) (ak : Ang α) (c : V3 α) (v : α) :
    (mkSub sv P k ak c).setId v =
      let d := (orientOf sv P).apply c
      let vx := P.x + (P.shift_x + d.x)
      let vy := P.y + (P.shift_y + d.y)
      let vz := P.z + (P.shift_z + d.z)
      { p := { P with geom5 := P.subtomo_id, geom2 := ((k + 1 : Nat) : α), subtomo_id := v,
                      x := sv.round vx, y := sv.round vy, z := sv.round vz,
                      shift_x := vx - sv.round vx, shift_y := vy - sv.round vy, shift_z := vz - sv.round vz },
        orient := orientOf sv P * ak.rz } := by
  obtain ⟨h1, h2, h3, _, h5, _⟩ := fields_documented
  simp only [mkSub, SubU.setId, h1, h2, h3, h5, Particle.set, Particle.get]
  rfl

/-- rounding moves nothing: what is rounded off `x, y, z` stays in the shifts -/
theorem mkSub_pos (sv : Svc α) (P : Particle α) (k : Nat) (ak : Ang α) (c : V3 α) (v : α) :
    pos ((mkSub sv P k ak c).setId v).p = pos P + (orientOf sv P).apply c := by
  rw [mkSub_setId]
  ext <;> simp only [pos, V3.add_def, V3.add] <;> ring

/-- records its parent (geom5) and subunit index 1..n (geom2); the renumbering sets subtomo_id only -/
theorem subunit_bookkeeping (sv : Svc α) (n : Nat) (s : V3 α) (P : Particle α) (k : Nat) (v : α) :
    ((subunit sv n s P k).setId v).p.geom5 = P.subtomo_id ∧
    ((subunit sv n s P k).setId v).p.geom2 = (((k + 1 : Nat)) : α) ∧
    ((subunit sv n s P k).setId v).p.subtomo_id = v := by
  rw [subunit, mkSub_setId]
  exact ⟨rfl, rfl, rfl⟩

/-- carries the parent's other fields -/
theorem subunit_other_fields (sv : Svc α) (n : Nat) (s : V3 α) (P : Particle α) (k : Nat) (v : α) (f : Field)
    (hf : f ∈ [Field.score, .geom1, .tomo_id, .object_id, .subtomo_mean, .geom3, .geom4, .cls]) :
    ((subunit sv n s P k).setId v).p.get f = P.get f := by
  rw [subunit, mkSub_setId]
  simp only [List.mem_cons, List.not_mem_nil, or_false] at hf
  rcases hf with rfl | rfl | rfl | rfl | rfl | rfl | rfl | rfl <;> rfl

/-- orientation `R * Rz(k·a)` with `a` the step angle: the model's definition, in the form the proofs below rewrite
with (as a matrix power: `Ang.rz_nsmul`). That the model's orientation is the code's is what `expandP_eq` (code
arithmetic = this model) and the differential run establish, and that the angle is `360k/n` degrees is `real_orientation`. -/
theorem subunit_orient (sv : Svc α) (n : Nat) (s : V3 α) (P : Particle α) (k : Nat) (v : α) :
    ((subunit sv n s P k).setId v).orient = orientOf sv P * (Ang.nsmul k (stepAng sv n)).rz := rfl

/-- complete position = centre + that orientation applied to `s` -/
theorem subunit_position (sv : Svc α) (n : Nat) (s : V3 α) (P : Particle α) (k : Nat) (v : α) :
    pos ((subunit sv n s P k).setId v).p = pos P + ((subunit sv n s P k).setId v).orient.apply s := by
  rw [subunit_orient, M3.apply_mul]
  exact mkSub_pos sv P k _ _ v

/-- all n subunits map back to the parent's centre -/
theorem subunit_maps_back (sv : Svc α) (n : Nat) (s : V3 α) (P : Particle α) (k : Nat) (v : α) :
    pos ((subunit sv n s P k).setId v).p - ((subunit sv n s P k).setId v).orient.apply s = pos P := by
  rw [subunit_position]; exact V3.add_sub_cancel_right _ _

theorem subunit_offset (sv : Svc α) (n : Nat) (s : V3 α) (P : Particle α) (k : Nat) (v : α) :
    pos ((subunit sv n s P k).setId v).p - pos P = ((subunit sv n s P k).setId v).orient.apply s := by
  rw [subunit_position]; exact V3.add_sub_cancel_left _ _

theorem orientOf_isRot (sv : Svc α) (hU : ∀ x, (sv.trig x).IsUnit) (P : Particle α) : (orientOf sv P).IsRot :=
  zxz_isRot _ _ _ _ _ _ (hU _) (hU _) (hU _)

theorem orientOf_orth (sv : Svc α) (hU : ∀ x, (sv.trig x).IsUnit) (P : Particle α) : (orientOf sv P).Orth :=
  (orientOf_isRot sv hU P).1

/-- `ownAxisRot` is orthogonal and fixes the parent's z axis `R e_z` -/
theorem ownAxisRot_axis (sv : Svc α) (hU : ∀ x, (sv.trig x).IsUnit) (n : Nat) (P : Particle α) (j : Nat) :
    (ownAxisRot sv n P j).apply (orientOf sv P).col3 = (orientOf sv P).col3 ∧ (ownAxisRot sv n P j).Orth := by
  have hR := orientOf_orth sv hU P
  constructor
  · unfold ownAxisRot
    rw [← M3.apply_ez, hR.conj_apply, Ang.rz, rz_apply_ez]
  · unfold ownAxisRot
    exact (hR.mul (Ang.rz_orth (Ang.nsmul_isUnit (hU _) j))).mul (orientOf_isRot sv hU P).transpose_orth

/-- the subunits are related by rotations about the parent's own z axis: subunit `k+j` is subunit `k`
turned by `ownAxisRot j` about the parent's centre — orientation and complete position alike; every subunit
keeps the parent's z axis and its distance from the centre -/
theorem subunit_orbit (sv : Svc α) (hU : ∀ x, (sv.trig x).IsUnit) (n : Nat) (s : V3 α) (P : Particle α) (k j : Nat) (v w : α) :
    ((subunit sv n s P (j + k)).setId w).orient = ownAxisRot sv n P j * ((subunit sv n s P k).setId v).orient ∧
    pos ((subunit sv n s P (j + k)).setId w).p - pos P
      = (ownAxisRot sv n P j).apply (pos ((subunit sv n s P k).setId v).p - pos P) ∧
    ((subunit sv n s P k).setId v).orient.col3 = (orientOf sv P).col3 ∧
    V3.normSq (pos ((subunit sv n s P k).setId v).p - pos P) = V3.normSq s := by
  have hR := orientOf_orth sv hU P
  have hmul : orientOf sv P * (Ang.nsmul (j + k) (stepAng sv n)).rz
      = ownAxisRot sv n P j * (orientOf sv P * (Ang.nsmul k (stepAng sv n)).rz) := by
    unfold ownAxisRot
    rw [hR.conj_mul, Ang.nsmul_add, Ang.rz_add]
  refine ⟨?_, ?_, ?_, ?_⟩
  · rw [subunit_orient, subunit_orient, hmul]
  · rw [subunit_offset, subunit_offset, subunit_orient, subunit_orient, hmul, M3.apply_mul]
  · rw [subunit_orient, col3_mul_rz]
  · rw [subunit_offset, subunit_orient]
    exact (hR.mul (Ang.rz_orth (Ang.nsmul_isUnit (hU _) k))).normSq_apply s

/-- the orbit closes: when `n` steps make a full turn, `Rz(a)^n = 1`, the own-axis rotation by `n` steps is
the identity and subunit `k+n` would coincide with subunit `k` — the n outputs are one full orbit of the
cyclic group generated by the own-axis rotation by one step -/
theorem orbit_closes (sv : Svc α) (hU : ∀ x, (sv.trig x).IsUnit) (n : Nat)
    (hclose : Ang.nsmul n (stepAng sv n) = Ang.zero) (s : V3 α) (P : Particle α) (k : Nat) (v : α) :
    mpow (stepAng sv n).rz n = M3.one ∧ ownAxisRot sv n P n = M3.one ∧
    ((subunit sv n s P (n + k)).setId v).orient = ((subunit sv n s P k).setId v).orient ∧
    pos ((subunit sv n s P (n + k)).setId v).p = pos ((subunit sv n s P k).setId v).p := by
  have h1 : mpow (stepAng sv n).rz n = M3.one := by rw [← Ang.rz_nsmul, hclose, Ang.rz_zero]
  have h3 : ((subunit sv n s P (n + k)).setId v).orient = ((subunit sv n s P k).setId v).orient := by
    rw [subunit_orient, subunit_orient, Ang.nsmul_add, hclose, Ang.zero_add]
  refine ⟨h1, ?_, h3, ?_⟩
  · unfold ownAxisRot
    rw [hclose, Ang.rz_zero, M3.mul_one']
    exact (orientOf_isRot sv hU P).mul_transpose
  · rw [subunit_position, subunit_position, h3]

end orbit

/-! rounding (`update_coordinates`): any ordered field, any rounding service that returns an integer within 1/2
(`RoundSpec`; the floor formula with the floor of ℚ or ℝ is one: `roundSpec_floor`; the driver's exact rational
rounding is one: `ratRound_spec`) -/
section rounding
variable {α : Type} [_root_.Field α] [LinearOrder α] [IsStrictOrderedRing α]

/-- integer x, y, z -/
theorem subunit_integer_xyz (sv : Svc α) (hr : RoundSpec sv.round) (n : Nat) (s : V3 α) (P : Particle α) (k : Nat) (v : α) :
    IsInt ((subunit sv n s P k).setId v).p.x ∧ IsInt ((subunit sv n s P k).setId v).p.y ∧
    IsInt ((subunit sv n s P k).setId v).p.z := by
  rw [subunit, mkSub_setId]
  exact ⟨(hr _).1, (hr _).1, (hr _).1⟩

/-- |shift| ≤ 0.5 -/
theorem subunit_shift_bound (sv : Svc α) (hr : RoundSpec sv.round)
    (n : Nat) (s : V3 α) (P : Particle α) (k : Nat) (v : α) :
    |((subunit sv n s P k).setId v).p.shift_x| ≤ 1 / 2 ∧ |((subunit sv n s P k).setId v).p.shift_y| ≤ 1 / 2 ∧
    |((subunit sv n s P k).setId v).p.shift_z| ≤ 1 / 2 := by
  rw [subunit, mkSub_setId]
  exact ⟨(hr _).2, (hr _).2, (hr _).2⟩

/-- The property, for every output of `expand` (every `n`, every list, every offset — also `s` on the axis):
each output is the `k`-th subunit (`k < n`) of an input particle `P`: orientation `R·Rz(a)^k`, complete position
`centre + orientation·s` (so it maps back to the centre), obtained from the parent's pose by the rotation
`R·Rz(k a)·Rᵀ` about the parent's own z axis, parent in geom5, index `k+1` in geom2, a subtomogram number in
`1..n·N`, the parent's other fields, integer `x,y,z`, `|shift| ≤ 1/2`. -/
theorem expand_spec (sv : Svc α) (hE : sv.Exact) (n : Nat) (s : V3 α) (l : List (Particle α)) (u : SubU α)
    (hu : u ∈ expand sv n s l) :
    ∃ P ∈ l, ∃ k, k < n ∧
      u.orient = orientOf sv P * mpow (stepAng sv n).rz k ∧
      pos u.p = pos P + u.orient.apply s ∧
      pos u.p - u.orient.apply s = pos P ∧
      u.orient = ownAxisRot sv n P k * orientOf sv P ∧
      pos u.p - pos P = (ownAxisRot sv n P k).apply ((orientOf sv P).apply s) ∧
      u.p.geom5 = P.subtomo_id ∧ u.p.geom2 = (((k + 1 : Nat)) : α) ∧
      (∃ j, j < n * l.length ∧ u.p.subtomo_id = (((j + 1 : Nat)) : α)) ∧
      (∀ f ∈ [Field.score, .geom1, .tomo_id, .object_id, .subtomo_mean, .geom3, .geom4, .cls], u.p.get f = P.get f) ∧
      IsInt u.p.x ∧ IsInt u.p.y ∧ IsInt u.p.z ∧
      |u.p.shift_x| ≤ 1 / 2 ∧ |u.p.shift_y| ≤ 1 / 2 ∧ |u.p.shift_z| ≤ 1 / 2 := by
  obtain ⟨P, hP, k, hk, j, hj, rfl⟩ := expand_sound sv n s l u hu
  obtain ⟨b1, b2, b3⟩ := subunit_bookkeeping sv n s P k (((j + 1 : Nat)) : α)
  obtain ⟨i1, i2, i3⟩ := subunit_integer_xyz sv hE.round n s P k (((j + 1 : Nat)) : α)
  obtain ⟨s1, s2, s3⟩ := subunit_shift_bound sv hE.round n s P k (((j + 1 : Nat)) : α)
  have hR := orientOf_orth sv hE.unit P
  have horb : ((subunit sv n s P k).setId (((j + 1 : Nat)) : α)).orient = ownAxisRot sv n P k * orientOf sv P := by
    rw [subunit_orient, ownAxisRot, M3.mul_assoc', hR, M3.mul_one']
  refine ⟨P, hP, k, hk, by rw [subunit_orient, Ang.rz_nsmul], subunit_position sv n s P k _,
    subunit_maps_back sv n s P k _, horb, ?_, b1, b2, ⟨j, hj, b3⟩,
    subunit_other_fields sv n s P k _, i1, i2, i3, s1, s2, s3⟩
  rw [subunit_offset, horb, M3.apply_mul]

/-- subunit index 1..n (geom2) of every output: the recorded index is `(j : α)` for a natural `j` with `1 ≤ j ≤ n` -/
theorem expand_index_range (sv : Svc α) (n : Nat) (s : V3 α) (l : List (Particle α)) (u : SubU α)
    (hu : u ∈ expand sv n s l) : ∃ j : Nat, 1 ≤ j ∧ j ≤ n ∧ u.p.geom2 = (j : α) := by
  obtain ⟨P, _, k, hk, j, _, rfl⟩ := expand_sound sv n s l u hu
  exact ⟨k + 1, by omega, by omega, (subunit_bookkeeping sv n s P k _).2.1⟩

end rounding

/-! over ℝ with the true cosine and sine: the step angle is 360/n degrees -/
section real
open Real

theorem realSvc_exact : realSvc.Exact :=
  ⟨trigDeg_isUnit, roundSpec_floor⟩

/-- orientation `R*Rz(360k/n)` literally: the `k`-th subunit's orientation is the parent's times the rotation
about z by `k·360/n` degrees -/
theorem real_orientation (n : Nat) (s : V3 ℝ) (P : Particle ℝ) (k : Nat) (v : ℝ) :
    ((subunit realSvc n s P k).setId v).orient
      = orientOf realSvc P * rz (cos ((k : ℝ) * (360 / (n : ℝ)) * (π / 180))) (sin ((k : ℝ) * (360 / (n : ℝ)) * (π / 180))) := by
  rw [subunit_orient, nsmul_stepAng_real]; rfl

/-- for every `n ≥ 1` the closing hypothesis of `orbit_closes` holds: `n` steps are a full turn -/
theorem real_orbit_closes (n : Nat) (hn : 1 ≤ n) : Ang.nsmul n (stepAng realSvc n) = Ang.zero := by
  rw [nsmul_stepAng_real]
  have hn' : (n : ℝ) ≠ 0 := Nat.cast_ne_zero.2 (by omega)
  simp only [trigDeg, deg_turn, div_self hn', one_mul, cos_two_pi, sin_two_pi, Ang.zero]

/-- the `n` subunits of one parent have `n` pairwise different orientations (so, off the axis, different places) -/
theorem real_subunits_distinct (n : Nat) (s : V3 ℝ) (P : Particle ℝ) (j k : Nat) (hjk : j < k) (hk : k < n) (v w : ℝ) :
    ((subunit realSvc n s P j).setId v).orient ≠ ((subunit realSvc n s P k).setId w).orient := by
  intro h
  rw [subunit_orient, subunit_orient] at h
  have hc := Ang.rz_injective ((orientOf_orth realSvc realSvc_exact.unit P).mul_left_cancel h)
  rw [show k = j + (k - j) by omega, Ang.nsmul_add] at hc
  have hz := Ang.add_left_cancel (Ang.nsmul_isUnit (realSvc_exact.unit _) j) hc.symm
  exact nsmul_stepAng_ne_zero n (k - j) (by omega) (by omega) hz

end real


/-! the symmetry argument: `'Cn'`, `'cn'`, blanks or zero padding before the number, or a number -/
section symmetry

/-- `int(re.findall(r"\\d+", "C" + str(n))[-1]) = n`, cyclic: the string forms of the statement -/
theorem parse_padded (lead : Char) (hl : lead = 'C' ∨ lead = 'c') (blanks zeros n : Nat) :
    parseSym (.str (lead :: (List.replicate blanks ' ' ++ (List.replicate zeros '0' ++ digits n)))) = .cyclic n := by
  have hpre : ∀ c ∈ lead :: List.replicate blanks ' ', isDig c = false := by
    intro c hc
    rcases List.mem_cons.1 hc with rfl | hc
    · rcases hl with rfl | rfl <;> rfl
    · rw [(List.mem_replicate.1 hc).2]; rfl
  have hf := findallDigits_prefix _ _ hpre (padded_ne_nil zeros n) (padded_isDig zeros n)
  rw [parseSym_str_cyclic hl (run := List.replicate zeros '0' ++ digits n) (by rw [← List.cons_append, hf]; rfl),
    natOfDigits_padded]

/-- the last number counts: whatever text (digits included) stands between the letter and a non-digit `sep`,
the order is the number after it — `'C2 x11'` is 11-fold -/
theorem parse_last_number (lead : Char) (hl : lead = 'C' ∨ lead = 'c') (mid : List Char) (sep : Char)
    (hs : isDig sep = false) (zeros n : Nat) :
    parseSym (.str (lead :: (mid ++ sep :: (List.replicate zeros '0' ++ digits n)))) = .cyclic n := by
  have hf := findallDigits_last (lead :: mid) sep hs _ (padded_ne_nil zeros n) (padded_isDig zeros n)
  rw [parseSym_str_cyclic hl (cs := mid ++ sep :: (List.replicate zeros '0' ++ digits n)) hf, natOfDigits_padded]

/-- `'C7'` -/
theorem parse_C (n : Nat) : parseSym (.str ('C' :: digits n)) = .cyclic n := by
  simpa using parse_padded 'C' (Or.inl rfl) 0 0 n
/-- `'c7'` -/
theorem parse_c (n : Nat) : parseSym (.str ('c' :: digits n)) = .cyclic n := by
  simpa using parse_padded 'c' (Or.inr rfl) 0 0 n
/-- `int()` truncates: a float between `n` and `n+1` (`7.9`) is `n`-fold (outside the statement, which speaks of the
number `n` itself; this is what the code does with it) -/
theorem parse_num_trunc (q : ℚ) (n : Nat) (h1 : (n : ℚ) ≤ q) (h2 : q < (n : ℚ) + 1) : parseSym (.num q) = .cyclic n := by
  rw [parseSym_num, truncInt_of_mem q n h1 h2]
  simp

/-- a number whose value is the integer `n` (`7`, `7.0`, `np.int64(7)`, `np.float64(7)`) is cyclic of order `n`:
Python's `int()` — modelled as truncation toward zero of the exact value, `truncInt` — is the identity there -/
theorem parse_num (n : Nat) : parseSym (.num (n : ℚ)) = .cyclic n := parse_num_trunc n n le_rfl (lt_add_one _)

/-- a number `≤ -1` is refused (`np.zeros((nfold, 3))` with a negative dimension), a NaN / infinity too (`int()` raises),
and `-1 < q < 1` gives `nfold = 0` (toward zero: also `-0.9`), which `expandSym` refuses (`360 / 0`) -/
theorem parse_num_refused (q : ℚ) :
    (q ≤ -1 → parseSym (.num q) = .negative) ∧ parseSym .nonfinite = .raises ∧
    (-1 < q → q < 1 → parseSym (.num q) = .cyclic 0) := by
  refine ⟨fun h => ?_, rfl, fun h1 h2 => ?_⟩
  · rw [parseSym_num, truncInt_eq, if_pos ((Round.trunc_neg_iff q).2 h)]
  · rw [parseSym_num, truncInt_eq, Round.trunc_eq_zero h1 h2]
    rfl

/-- the concrete spellings the correspondence run uses: `digits` is `str(n)`; blanks, zero padding, both letters;
a dihedral string is not cyclic, a string without a number raises, any other first letter leaves `s_type` unbound -/
theorem parse_examples :
    parseSym (.str "C7".toList) = .cyclic 7 ∧ parseSym (.str "c49".toList) = .cyclic 49 ∧
    parseSym (.str "C 7".toList) = .cyclic 7 ∧ parseSym (.str "C07".toList) = .cyclic 7 ∧
    parseSym (.str "c 064".toList) = .cyclic 64 ∧ parseSym (.str "C2x13".toList) = .cyclic 13 ∧
    parseSym (.str "D4".toList) = .dihedral 4 ∧ parseSym (.str "C".toList) = .raises ∧
    parseSym (.str "x7".toList) = .unbound := by decide +kernel

theorem expandSym_of_cyclic {α : Type} [_root_.Field α] [LE α] [DecidableLE α] (sv : Svc α) {sym : Sym} {n : Nat}
    (h : parseSym sym = .cyclic n) (hn : 1 ≤ n) (s : V3 α) (l : List (Particle α)) :
    expandSym sv sym s l = some (expand sv n s l) := by
  rw [expandSym, h]
  exact if_neg (by omega)

/-- the whole call on the string: `'C' + str(n)` (any `n ≥ 1`) runs `expand n` -/
theorem expandSym_string {α : Type} [_root_.Field α] [LE α] [DecidableLE α] (sv : Svc α) (lead : Char)
    (hl : lead = 'C' ∨ lead = 'c') (blanks zeros n : Nat) (hn : 1 ≤ n) (s : V3 α) (l : List (Particle α)) :
    expandSym sv (.str (lead :: (List.replicate blanks ' ' ++ (List.replicate zeros '0' ++ digits n)))) s l
      = some (expand sv n s l) :=
  expandSym_of_cyclic sv (parse_padded lead hl blanks zeros n) hn s l

theorem expandSym_num {α : Type} [_root_.Field α] [LE α] [DecidableLE α] (sv : Svc α) (n : Nat) (hn : 1 ≤ n)
    (s : V3 α) (l : List (Particle α)) : expandSym sv (.num (n : ℚ)) s l = some (expand sv n s l) :=
  expandSym_of_cyclic sv (parse_num n) hn s l

end symmetry

/-! the code's own arithmetic: polar form of the offset, `trig(k·360/n)` — equal to the Cartesian model -/
section polar

/-- The property for the definition the driver executes (`expandP`: `rho = sqrt(s0²+s1²)`, `the = arctan2(s1, s0)`,
`center_shift = (rho cos(the + deg2rad phi_k), rho sin(…), s2)`, `phi_k = k·(360/n)`): under `sv.Exact` and the
identities `PolarExact` (which hold for the real functions, `realPolar_exact`) every output of `expandP` satisfies
every conjunct of `expand_spec` (the conclusion below is that of `expand_spec`, word for word) — because
`expandP = expand` (`expandP_eq`) -/
theorem expandP_spec {α : Type} [_root_.Field α] [LinearOrder α] [IsStrictOrderedRing α]
    (sv : Svc α) (pv : PolarSvc α) (hE : sv.Exact) (hP : PolarExact sv pv) (n : Nat) (s : V3 α)
    (l : List (Particle α)) (u : SubU α) (hu : u ∈ expandP sv pv n s l) :
    ∃ P ∈ l, ∃ k, k < n ∧
      u.orient = orientOf sv P * mpow (stepAng sv n).rz k ∧
      pos u.p = pos P + u.orient.apply s ∧
      pos u.p - u.orient.apply s = pos P ∧
      u.orient = ownAxisRot sv n P k * orientOf sv P ∧
      pos u.p - pos P = (ownAxisRot sv n P k).apply ((orientOf sv P).apply s) ∧
      u.p.geom5 = P.subtomo_id ∧ u.p.geom2 = (((k + 1 : Nat)) : α) ∧
      (∃ j, j < n * l.length ∧ u.p.subtomo_id = (((j + 1 : Nat)) : α)) ∧
      (∀ f ∈ [Field.score, .geom1, .tomo_id, .object_id, .subtomo_mean, .geom3, .geom4, .cls], u.p.get f = P.get f) ∧
      IsInt u.p.x ∧ IsInt u.p.y ∧ IsInt u.p.z ∧
      |u.p.shift_x| ≤ 1 / 2 ∧ |u.p.shift_y| ≤ 1 / 2 ∧ |u.p.shift_z| ≤ 1 / 2 := by
  rw [expandP_eq hP] at hu
  exact expand_spec sv hE n s l u hu

/-- over ℝ, with numpy's functions taken as the true ones (`Real.sqrt`, `arctan2 = Complex.arg`, `Real.cos/sin`), the
code's polar arithmetic is the Cartesian model, for every `n`, offset (on the axis too) and list — no hypothesis left -/
theorem real_expandP_eq (n : Nat) (s : V3 ℝ) (l : List (Particle ℝ)) :
    expandP realSvc realPolar n s l = expand realSvc n s l := expandP_eq realPolar_exact n s l

/-- … and the offset the code adds for subunit `k` is the rotation of `s` about z by `k·360/n` degrees -/
theorem real_centerShift (n k : Nat) (s : V3 ℝ) :
    centerShift realPolar s (phiDeg n k)
      = (rz (Real.cos ((k : ℝ) * (360 / (n : ℝ)) * (Real.pi / 180))) (Real.sin ((k : ℝ) * (360 / (n : ℝ)) * (Real.pi / 180)))).apply s := by
  rw [centerShift_eq realPolar_exact, trig_phiDeg realPolar_exact, nsmul_stepAng_real]; rfl

/-- hypothesis-free over ℝ: every output of the code's arithmetic (`expandP` with the true `sqrt`, `arctan2`, `cos`,
`sin`, rounding half away from zero) is the `k`-th subunit (`k < n`) of an input particle `P` with orientation
`R·Rz(k·360/n°)`, complete position `centre + orientation·s`, offset from the centre obtained by the rotation about the
parent's own z axis, parent in geom5, index `k+1` in geom2, a subtomogram number in `1..n·N`, the parent's other fields,
integer `x,y,z`, `|shift| ≤ 1/2` — for every `n`, every list, every offset (all conjuncts of `expand_spec`, the
orientation spelled out in degrees) -/
theorem real_expandP_spec (n : Nat) (s : V3 ℝ) (l : List (Particle ℝ)) (u : SubU ℝ) (hu : u ∈ expandP realSvc realPolar n s l) :
    ∃ P ∈ l, ∃ k, k < n ∧
      u.orient = orientOf realSvc P * rz (Real.cos ((k : ℝ) * (360 / (n : ℝ)) * (Real.pi / 180))) (Real.sin ((k : ℝ) * (360 / (n : ℝ)) * (Real.pi / 180))) ∧
      pos u.p = pos P + u.orient.apply s ∧
      pos u.p - u.orient.apply s = pos P ∧
      u.orient = ownAxisRot realSvc n P k * orientOf realSvc P ∧
      pos u.p - pos P = (ownAxisRot realSvc n P k).apply ((orientOf realSvc P).apply s) ∧
      u.p.geom5 = P.subtomo_id ∧ u.p.geom2 = (((k + 1 : Nat)) : ℝ) ∧
      (∃ j, j < n * l.length ∧ u.p.subtomo_id = (((j + 1 : Nat)) : ℝ)) ∧
      (∀ f ∈ [Field.score, .geom1, .tomo_id, .object_id, .subtomo_mean, .geom3, .geom4, .cls], u.p.get f = P.get f) ∧
      IsInt u.p.x ∧ IsInt u.p.y ∧ IsInt u.p.z ∧
      |u.p.shift_x| ≤ 1 / 2 ∧ |u.p.shift_y| ≤ 1 / 2 ∧ |u.p.shift_z| ≤ 1 / 2 := by
  obtain ⟨P, hPl, k, hk, h1, rest⟩ := expandP_spec realSvc realPolar realSvc_exact realPolar_exact n s l u hu
  refine ⟨P, hPl, k, hk, ?_, rest⟩
  rw [h1, ← Ang.rz_nsmul, nsmul_stepAng_real]; rfl

/-- the whole call with the symmetry argument as given -/
theorem real_expandSymP_eq (sym : Sym) (s : V3 ℝ) (l : List (Particle ℝ)) :
    expandSymP realSvc realPolar sym s l = expandSym realSvc sym s l := expandSymP_eq realPolar_exact sym s l

end polar

/-! regression witness D28: the row bookkeeping before repair 7710334 -/

/-- as it was (`pd.concat([df]*n)`, `sort_values(by="subtomo_id")`, tiled index table): with the ids `[1, 1]`
(rows 0 and 1) and `n = 2` the sort interleaves the copies and row 0 gets subunit index 1 twice, index 2 never -/
theorem old_bookkeeping_repeated_ids :
    oldBookkeeping 2 [(0, 1), (1, 1)] = [((0, 1), 1), ((1, 1), 2), ((0, 1), 1), ((1, 1), 2)] ∧
    ((oldBookkeeping 2 [(0, 1), (1, 1)]).filter (· == ((0, 1), 1))).length = 2 ∧
    ((oldBookkeeping 2 [(0, 1), (1, 1)]).filter (· == ((0, 1), 2))).length = 0 := by decide +kernel

/-- repaired: every row gets every index once; for unique ids both agree -/
theorem new_bookkeeping_repeated_ids :
    newBookkeeping 2 [(0, 1), (1, 1)] = [((0, 1), 1), ((0, 1), 2), ((1, 1), 1), ((1, 1), 2)] ∧
    oldBookkeeping 3 [(0, 5), (1, 2), (2, 9)] = newBookkeeping 3 [(0, 5), (1, 2), (2, 9)] := by decide +kernel

/-! regression witness D12: the code before repair 837c2ef -/

/-- `np.arange(0, 360, int(360/n))` has exactly `n` entries iff `n` divides 360 — for every other `n`
(7, 11, 13, 14, 16, …) the as-is code raised -/
theorem asis_runs_iff (n : Nat) (hn : 1 ≤ n) : asisRuns n = true ↔ n ∣ 360 := by
  rw [asisRuns_iff]
  constructor
  · rintro ⟨h, e⟩
    exact (arangeLen_div_eq_iff 360 n h).1 e
  · intro hd
    have h : 360 / n ≠ 0 := Nat.div_ne_zero_iff.2 ⟨by omega, Nat.le_of_dvd (by decide) hd⟩
    exact ⟨h, (arangeLen_div_eq_iff 360 n h).2 hd⟩

theorem asis_raises_for_7 : asisRuns 7 = false := by decide

/-! non-vacuity: the hypotheses used above are satisfiable, the quantified sets are inhabited -/

/-- exact services over ℚ (a constant Pythagorean angle, the rational floor) -/
example : ∃ sv : Svc ℚ, sv.Exact :=
  ⟨{ trig := fun _ => ⟨3 / 5, 4 / 5⟩, round := ratRound },
   ⟨fun _ => by norm_num [Ang.IsUnit], ratRound_spec⟩⟩
/-- … and over ℝ with the true trigonometry, for which the closing hypothesis holds for every n ≥ 1 -/
example : realSvc.Exact ∧ Ang.nsmul 7 (stepAng realSvc 7) = Ang.zero := ⟨realSvc_exact, real_orbit_closes 7 (by norm_num)⟩
/-- a quarter turn closes after 4 steps over ℚ -/
example : Ang.nsmul 4 (⟨0, 1⟩ : Ang ℚ) = Ang.zero := by
  apply Ang.ext' <;> norm_num [Ang.nsmul, Ang.add, Ang.zero]
/-- `PolarExact` is satisfiable (ℝ, the true functions) together with `Exact` -/
example : realSvc.Exact ∧ PolarExact realSvc realPolar := ⟨realSvc_exact, realPolar_exact⟩
/-- the hypotheses of `parse_num_trunc` / `parse_num_refused` are met: `int(7.9) = 7`, `int(-0.9) = 0`, `int(-3) < 0` -/
example : parseSym (.num (79 / 10)) = .cyclic 7 ∧ parseSym (.num (-9 / 10)) = .cyclic 0 ∧ parseSym (.num (-3)) = .negative := by
  decide +kernel
/-- `expand` has members: two parents, 7-fold -/
example : (expand realSvc 7 ⟨1, 2, 3⟩ [default, default]).length = 14 := by rw [subunit_count]; rfl
example : asisRuns 8 = true ∧ asisRuns 7 = false ∧ asisRuns 64 = false := by decide +kernel

end CryoCat.C10
