import CryoCat.Lemmas.C16_Filter
import CryoCat.Lemmas.C16_Dft23
import CryoCat.Lemmas.C16_DftN
/-! C16 — the property:

"Dose filtering multiplies every spatial-frequency component f (cycles per Angstrom, from pixel size and image
dimensions) of tilt image i by exp(-dose_i / (2*(0.245*f^-1.665 + 2.81))) and leaves the zero-frequency component,
hence the image mean, unchanged. Consequently zero dose is the identity, the filter is linear, power never increases
at any frequency, more dose attenuates more, and filtering with d1 and then d2 equals filtering once with d1+d2."

The model (`Model/C16`) is instantiated at `ℝ` with `Real.exp`, `Real.rpow`, `Real.sqrt` (`realOps`); the constants
are the ones regenerated from the source (`gg realOps`).  `G W H px d v u` (defined in `Lemmas/C16_Filter`, like `physFreq`, `filt`, `filtStack`) abbreviates the multiplier
the model applies to the raw DFT coefficient `[v, u]` of an `H × W` image. -/
namespace CryoCat.C16

/-! ### translator obligations: what the source says is what the statement says -/

theorem anchors_ok : Gen.C16.anchorsOk = true := rfl

/-- `a = 0.245`, `b = -1.665`, `c = 2.81` (decimal literals of the source as exact fractions) -/
theorem constants_documented :
    (Gen.C16.ggA.1 * 1000 = 245 * Gen.C16.ggA.2 ∧ 0 < Gen.C16.ggA.2) ∧
    (Gen.C16.ggB.1 * 1000 = -1665 * Gen.C16.ggB.2 ∧ 0 < Gen.C16.ggB.2) ∧
    (Gen.C16.ggC.1 * 100 = 281 * Gen.C16.ggC.2 ∧ 0 < Gen.C16.ggC.2) := by decide

/-- the signatures, in particular the DEFAULT values the statement's call patterns rely on: `output_file=None` (nothing is
written unless asked), `input_order='xyz'`, `output_order='xyz'`, and `sort_mdoc=True` of the dose loader (an `.mdoc` is
re-sorted by tilt angle before doses are paired with images).  The correspondence run omits each keyword in ~30 % of
the calls and expects exactly these values. -/
theorem defaults_documented :
    Gen.C16.stackSig = "dose_filter(tilt_stack,pixel_size,total_dose,output_file=None,input_order='xyz',output_order='xyz')" ∧
    Gen.C16.singleSig = "dose_filter_single_image(image,dose,freq_array)" ∧
    Gen.C16.doseLoadSig = "total_dose_load(input_dose,sort_mdoc=True)" ∧
    Gen.C16.tsInit = "TiltStack(tilt_stack=tilt_stack,input_order=input_order,output_order=output_order)" :=
  ⟨rfl, rfl, rfl, rfl⟩

/-- the WHOLE body of `dose_filter_single_image` (statement kinds and expressions, locals renamed to their documented
names by order of first binding, docstring and `print` dropped): no statement besides the ones `doseFilterSingle` models —
in particular no second write to `q`, `ft` (element stores, augmented assignments) -/
theorem single_image_body_documented :
    Gen.C16.singleBody =
      ["a=0.245", "b=-1.665", "c=2.81",
       "ft=np.fft.fftshift(np.fft.fft2(image))",
       "q=np.exp(-dose/(2*(a*freq_array**b+c)))",
       "filtered_image=np.fft.ifft2(np.fft.ifftshift(ft*q))",
       "return filtered_image.real"] := by rfl

/-- the WHOLE body of `dose_filter`: load, frequency array (zeros, centres, steps, double loop with ONE element store), a
private writable copy of the data (`np.array(ts.data, copy=True)`: the caller's stack is never written), the per-tilt
loop, optional write-out, return in the requested order — nothing else -/
theorem dose_filter_body_documented :
    Gen.C16.stackBody =
      ["ts=TiltStack(tilt_stack=tilt_stack,input_order=input_order,output_order=output_order)",
       "pixel_size=float(pixel_size)",
       "total_dose=ioutils.total_dose_load(total_dose)",
       "frequency_array=np.zeros((ts.height,ts.width))",
       "cen_x=ts.width//2",
       "cen_y=ts.height//2",
       "rstep_x=1/(ts.width*pixel_size)",
       "rstep_y=1/(ts.height*pixel_size)",
       "for x in range(ts.width)",
       ".for y in range(ts.height)",
       "..d=np.sqrt((x-cen_x)**2*rstep_x**2+(y-cen_y)**2*rstep_y**2)",
       "..frequency_array[y,x]=d",
       "ts.data=np.array(ts.data,copy=True)",
       "for z in range(ts.n_tilts)",
       ".image=ts.data[z,:,:]",
       ".ts.data[z,:,:]=dose_filter_single_image(image,total_dose[z],frequency_array)",
       "ts.write_out(output_file)",
       "return ts.correct_order()"] := by rfl

/-- the WHOLE body of `ioutils.total_dose_load`, including the Warp `.xml` branch:
arrays pass through, lists and tuples through `np.asarray`, `.csv` gives `CorrectedDose` of the rows not `Removed`, `.mdoc` is sorted
by tilt angle and gives `ExposureDose + PriorRecordDose` (or `ExposureDose · (rank by DateTime + 1)` restored to tilt
order), any other path is read one value per line -/
theorem total_dose_load_body_documented :
    Gen.C16.doseLoadBody =
      ["if isinstance(input_dose,np.ndarray)",
       ".return input_dose",
       "else",
       ".if isinstance(input_dose,(list,tuple))",
       "..return np.asarray(input_dose)",
       ".else",
       "..if isinstance(input_dose,str)",
       "...if input_dose.endswith('.csv')",
       "....df=pd.read_csv(input_dose,index_col=0)",
       "....if 'CorrectedDose'indf.columns",
       ".....if 'Removed'indf.columns",
       "......return df.loc[df['Removed']==False,'CorrectedDose'].astype(np.single).to_numpy()",
       ".....else",
       "......return df['CorrectedDose'].astype(np.single).to_numpy()",
       "....else",
       ".....raise ValueError",
       "...else",
       "....if input_dose.endswith('.mdoc')",
       ".....mdoc_file=mdoc.Mdoc(input_dose)",
       ".....if sort_mdoc",
       "......mdoc_file.sort_by_tilt(reset_z_value=False)",
       ".....image_dose=mdoc_file.get_image_feature('ExposureDose').values",
       ".....if 'PriorRecordDose'inmdoc_file.imgs",
       "......prior_dose=mdoc_file.get_image_feature('PriorRecordDose').values",
       "......total_dose=image_dose+prior_dose",
       "......return total_dose",
       ".....else",
       "......mdoc_file.imgs['original_order']=range(len(mdoc_file.imgs))",
       "......mdoc_file.imgs['DateTime']=pd.to_datetime(mdoc_file.imgs['DateTime'])",
       "......sorted_df=mdoc_file.imgs.sort_values('DateTime')",
       "......sorted_df.reset_index(drop=True,inplace=True)",
       "......sorted_df['total_dose']=sorted_df['ExposureDose']*(sorted_df.index+1)",
       "......result_df=sorted_df.sort_values('original_order').drop(columns=['original_order'])",
       "......return result_df['total_dose'].values",
       "....else",
       ".....if input_dose.endswith('.xml')",
       "......total_dose=get_data_from_warp_xml(input_dose,'Dose',node_level=1)",
       "......return total_dose",
       ".....else",
       "......total_dose=one_value_per_line_read(input_dose)",
       "......return total_dose",
       "..else",
       "...raise ValueError"] := by rfl

/-- the helpers on the way of the stack: `TiltStack.__init__` (an ndarray is COPIED and brought to z,y,x; a path is read without
transposition; the dtype of the data is remembered), `write_out` (writes only when `output_file` is given, with the remembered dtype),
`correct_order` (casts BACK to the remembered dtype — for an integer stack this is the identity because the filtered images were
already truncated on assignment, C16-K1 — and transposes to the requested order) -/
theorem tiltstack_helpers_documented :
    Gen.C16.tsInitSig = "__init__(self,tilt_stack,input_order='xyz',output_order='xyz')" ∧
    Gen.C16.tsInitBody =
      ["if notisinstance(tilt_stack,np.ndarray)",
       ".self.data=cryomap.read(tilt_stack,transpose=False)",
       ".if self.data.shape==2",
       "..self.data=np.expand_dims(self.data,axis=0)",
       "else",
       ".self.data=tilt_stack.copy()",
       ".if self.data.shape==2",
       "..if input_order=='xyz'",
       "...self.data=np.expand_dims(self.data,axis=2)",
       "..else",
       "...self.data=np.expand_dims(self.data,axis=0)",
       ".if input_order=='xyz'",
       "..self.data=self.data.transpose(2,1,0)",
       "self.data_type=self.data.dtype",
       "self.input_order=input_order",
       "self.current_order='zyx'",
       "self.output_order=output_order",
       "self.n_tilts,self.height,self.width=self.data.shape"] ∧
    Gen.C16.tsWriteOutSig = "write_out(self,output_file,new_data=None)" ∧
    Gen.C16.tsWriteOutBody =
      ["if output_file",
       ".data_to_write=new_dataifnew_dataisnotNoneelseself.data",
       ".cryomap.write(data_to_write,output_file,data_type=self.data_type,transpose=False)"] ∧
    Gen.C16.tsCorrectOrderSig = "correct_order(self,new_data=None)" ∧
    Gen.C16.tsCorrectOrderBody =
      ["return_data=new_dataifnew_dataisnotNoneelseself.data",
       "if return_data.dtype!=self.data_type",
       ".return_data=return_data.astype(self.data_type)",
       "if self.current_order!=self.output_order",
       ".return return_data.transpose(2,1,0)",
       "else",
       ".return return_data"] :=
  ⟨rfl, rfl, rfl, rfl, rfl, rfl⟩

/-- the helpers on the way of the doses: `one_value_per_line_read` reads with `dtype=data_type`, whose DEFAULT is `np.float32` (the
recorded assumption `float32-dose-loading`: a dose written as a decimal reaches the filter as its float32 rounding), `Mdoc.__init__`
reads the file through `_read_mdoc`, `sort_by_tilt` sorts the sections by `TiltAngle` and leaves the section ids alone unless asked,
`get_image_feature` is the column of that name -/
theorem dose_helpers_documented :
    Gen.C16.lineReadSig = "one_value_per_line_read(file_path,data_type=np.float32)" ∧
    Gen.C16.lineReadBody =
      ["if notos.path.isfile(file_path)",
       ".raise ValueError",
       "try",
       ".data_df=pd.read_csv(file_path,header=None,dtype=data_type,sep='\\\\s+')",
       ".if data_df.empty",
       "..raise ValueError",
       "except pd.errors.EmptyDataError",
       ".raise ValueError",
       "return data_df.iloc[:,0].values"] ∧
    Gen.C16.mdocInitSig = "__init__(self,file_path=None,titles=None,project_info=None,imgs=None,section_id='ZValue')" ∧
    Gen.C16.mdocInitBody =
      ["if file_pathandpath.isfile(file_path)",
       ".self.file_path=file_path",
       ".self.titles,self.project_info,self.imgs,self.section_id=self._read_mdoc(file_path)",
       "else",
       ".self.titles=titles",
       ".self.project_info=project_info",
       ".self.imgs=imgs",
       ".self.section_id=section_id"] ∧
    Gen.C16.mdocSortSig = "sort_by_tilt(self,reset_z_value=False)" ∧
    Gen.C16.mdocSortBody =
      ["self.imgs=self.imgs.sort_values(by='TiltAngle')",
       "if reset_z_value",
       ".self.imgs[self.section_id]=range(self.imgs.shape[0])"] ∧
    Gen.C16.mdocFeatureSig = "get_image_feature(self,feature)" ∧
    Gen.C16.mdocFeatureBody = ["return self.imgs[feature]"] :=
  ⟨rfl, rfl, rfl, rfl, rfl, rfl, rfl, rfl⟩

/-- Warp `.xml` doses (`total_dose_load`'s `.xml` branch calls `get_data_from_warp_xml(input_dose, "Dose", node_level=1)`): the text of
the first `<Dose>` child of the root, split into lines, every non-blank line through `float` IN FILE ORDER (no sorting, no
de-duplication) — so the i-th line is the dose of the i-th image, the pairing `doseFilter` models.  (`node_level=2`, the `<Node Value=…>`
children, is not on the dose path.) -/
theorem warp_xml_documented :
    Gen.C16.warpXmlSig = "get_data_from_warp_xml(xml_file_path,node_name,node_level=1)" ∧
    Gen.C16.warpXmlBody =
      ["if node_levelnotin[1,2]",
       ".raise ValueError",
       "try",
       ".tree=ET.parse(xml_file_path)",
       ".root=tree.getroot()",
       ".elements=root.findall(node_name)",
       ".if elements",
       "..if node_level==2",
       "...node_elements=elements[0].findall('.//Node')",
       "...data=[float(node.get('Value'))fornodeinnode_elements]",
       "..else",
       "...data_text=elements[0].text.strip()",
       "...data=[float(value)forvalueindata_text.split('\\n')ifvalue.strip()]",
       "..data=np.asarray(data)",
       "..return data",
       ".else",
       "..return None",
       "except Exception",
       ".return None"] :=
  ⟨rfl, rfl⟩

/-- the constants the model computes with, at the reals, are the statement's -/
theorem constants_real : gg realOps = { a := 0.245, b := -1.665, c := 2.81 } := gg_real

/-- the attenuation expression of `dose_filter_single_image` has the skeleton the model `atten` has -/
theorem q_expression_documented : Gen.C16.qExpr = "np.exp(-dose/(2*(a*freq_array**b+c)))" := rfl

/-- `ft = fftshift(fft2(image))`, `ifft2(ifftshift(ft * q))`, `.real` — the pipeline of `doseFilterSingle` -/
theorem single_image_pipeline_documented :
    Gen.C16.ftExpr = "np.fft.fftshift(np.fft.fft2(image))" ∧
    Gen.C16.outExpr = "np.fft.ifft2(np.fft.ifftshift(ft*q))" ∧
    Gen.C16.retExpr = "filtered_image.real" := ⟨rfl, rfl, rfl⟩

/-- centres `n // 2`, reciprocal steps `1/(n*pixel_size)`, `d = sqrt(...)`, stored at `[y, x]`, over the full ranges —
the expressions `cen`, `rstep`, `freqK`, `freqArray` model -/
theorem frequency_array_documented :
    Gen.C16.cenX = "ts.width//2" ∧ Gen.C16.cenY = "ts.height//2" ∧
    Gen.C16.rstepX = "1/(ts.width*pixel_size)" ∧ Gen.C16.rstepY = "1/(ts.height*pixel_size)" ∧
    Gen.C16.freqExpr = "np.sqrt((x-cen_x)**2*rstep_x**2+(y-cen_y)**2*rstep_y**2)" ∧
    Gen.C16.freqStore = "frequency_array[y,x]=d" ∧ Gen.C16.freqInit = "np.zeros((ts.height,ts.width))" ∧
    Gen.C16.loopRangeX = "range(ts.width)" ∧ Gen.C16.loopRangeY = "range(ts.height)" :=
  ⟨rfl, rfl, rfl, rfl, rfl, rfl, rfl, rfl, rfl⟩

/-- image `z` is filtered with `total_dose[z]`, doses given as arrays/lists/tuples pass through `total_dose_load` unchanged —
the pairing `doseFilter` models -/
theorem per_tilt_pairing_documented :
    Gen.C16.loopRangeZ = "range(ts.n_tilts)" ∧ Gen.C16.imageExpr = "ts.data[z,:,:]" ∧
    Gen.C16.pairExpr = "ts.data[z,:,:]=dose_filter_single_image(image,total_dose[z],frequency_array)" ∧
    Gen.C16.doseLoad = "ioutils.total_dose_load(total_dose)" ∧ Gen.C16.pixelCast = "float(pixel_size)" ∧
    Gen.C16.returnExpr = "ts.correct_order()" ∧
    Gen.C16.doseLoadPassthrough
      = "isinstance(input_dose,np.ndarray)->input_dose;isinstance(input_dose,(list,tuple))->np.asarray(input_dose)" :=
  ⟨rfl, rfl, rfl, rfl, rfl, rfl, rfl⟩

/-- **Frequency scaling** (even and odd sizes): the entry of `frequency_array` that meets raw DFT coefficient `[v, u]`
after `fftshift` is the physical frequency of that coefficient. -/
theorem frequency_is_physical {W H : Nat} (px : ℝ) {v u : Nat} (hv : v < H) (hu : u < W) :
    freqArray realOps W H px (ishiftSrc H v) (ishiftSrc W u) = physFreq W H px v u := by
  unfold freqArray
  rw [kOfPos_ishiftSrc hv, kOfPos_ishiftSrc hu, freqK_real]

/-- after `fftshift`, position `x` carries integer frequency `x − ⌊n/2⌋`, and `fftshift`/`ifftshift` undo each other -/
theorem fftshift_index {n : Nat} :
    (∀ k, k < n → kOfPos n (ishiftSrc n k) = sfreq n k) ∧
    (∀ k, k < n → shiftSrc n (ishiftSrc n k) = k) ∧ (∀ x, x < n → ishiftSrc n (shiftSrc n x) = x) :=
  ⟨fun _ h => kOfPos_ishiftSrc h, fun _ h => shiftSrc_ishiftSrc h, fun _ h => ishiftSrc_shiftSrc h⟩

/-- the frequency is zero exactly at the zero-frequency coefficient (justifies the model's case split) -/
theorem frequency_zero_iff_dc {W H : Nat} {px : ℝ} (hpx : 0 < px) {v u : Nat} (hv : v < H) (hu : u < W) :
    physFreq W H px v u = 0 ↔ (sfreq W u = 0 ∧ sfreq H v = 0) := by
  have := freqK_eq_zero_iff (W := W) (H := H) (by omega) (by omega) hpx (sfreq W u) (sfreq H v)
  rwa [freqK_real] at this

/-- **Grant–Grigorieff attenuation at every non-zero frequency**: coefficient `[v, u]` is multiplied by
`exp(−d / (2·(0.245·f^(−1.665) + 2.81)))`, `f` its physical frequency. -/
theorem attenuation_formula {W H : Nat} (px d : ℝ) {v u : Nat} (hv : v < H) (hu : u < W)
    (hnz : ¬ (sfreq W u = 0 ∧ sfreq H v = 0)) :
    G W H px d v u
      = Real.exp (-d / (2 * (0.245 * (physFreq W H px v u) ^ (-1.665 : ℝ) + 2.81))) := by
  unfold G
  rw [mult_eq_gainK hv hu, gainK_real_ne hnz, freqK_real, gg_real]
  rfl

/-- **zero frequency unchanged**: the factor at DFT coefficient `[0, 0]` is exactly 1, whatever the dose -/
theorem dc_gain_one {W H : Nat} (hW : 0 < W) (hH : 0 < H) (px d : ℝ) : G W H px d 0 0 = 1 := by
  unfold G
  rw [mult_eq_gainK hH hW, sfreq_zero hW, sfreq_zero hH, gainK_dc]

theorem gain_zero_dose (W H : Nat) (px : ℝ) (v u : Nat) : G W H px 0 v u = 1 :=
  gainK_zero_dose

theorem gain_mul (W H : Nat) (px d₁ d₂ : ℝ) (v u : Nat) : G W H px d₁ v u * G W H px d₂ v u = G W H px (d₁ + d₂) v u :=
  gainK_add d₁ d₂

theorem gain_pos_le_one (W H : Nat) (px : ℝ) {d : ℝ} (hd : 0 ≤ d) (v u : Nat) :
    0 < G W H px d v u ∧ G W H px d v u ≤ 1 :=
  ⟨gainK_pos d, gainK_le_one gg_a_nonneg gg_c_pos hd⟩

theorem gain_antitone (W H : Nat) (px : ℝ) {d₁ d₂ : ℝ} (h : d₁ ≤ d₂) (v u : Nat) : G W H px d₂ v u ≤ G W H px d₁ v u :=
  gainK_antitone gg_a_nonneg gg_c_pos h

/-- a coefficient and its complex-conjugate partner get the same factor, so real images stay real -/
theorem gain_hermitian_even {W H : Nat} (px d : ℝ) (v : Fin H) (u : Fin W) :
    G W H px d (negFin v).val (negFin u).val = G W H px d v.val u.val := mult_even v u

/-! ### image level: for every Fourier service obeying the DFT laws `IsDFT` -/

section image
variable {Img : Type} [Add Img] [SMul ℝ Img] {H W : Nat} {fft : FFT Img ℝ H W}

/-- **every spatial-frequency component is multiplied by the factor `G`** -/
theorem filter_spectrum (hD : IsDFT fft) (px d : ℝ) (x : Img) (v : Fin H) (u : Fin W) :
    fft.fft2 (filt fft px d x) v u = Cx.smul (G W H px d v u) (fft.fft2 x v u) := by
  rw [filt_eq]
  exact congrFun (congrFun (hD.even_mult (fun v u => G W H px d v u) (gain_hermitian_even px d) x) v) u

/-- **zero dose is the identity** -/
theorem filter_zero_dose (hD : IsDFT fft) (px : ℝ) (x : Img) : filt fft px 0 x = x := by
  simp only [filt_eq, gain_zero_dose, Cx.one_smul]
  exact hD.inv_left x

/-- **linear** (additive) -/
theorem filter_add (hD : IsDFT fft) (px d : ℝ) (x y : Img) : filt fft px d (x + y) = filt fft px d x + filt fft px d y := by
  simp only [filt_eq, hD.fft_add, Cx.smul_add, hD.ifft_add]

/-- **linear** (homogeneous) -/
theorem filter_smul (hD : IsDFT fft) (px d c : ℝ) (x : Img) : filt fft px d (c • x) = c • filt fft px d x := by
  simp only [filt_eq, hD.fft_smul, Cx.smul_comm _ c, hD.ifft_smul]

/-- **filtering with `d₁` and then `d₂` equals filtering once with `d₁ + d₂`** -/
theorem filter_compose (hD : IsDFT fft) (px d₁ d₂ : ℝ) (x : Img) :
    filt fft px d₂ (filt fft px d₁ x) = filt fft px (d₁ + d₂) x := by
  rw [filt_eq, filt_eq (d := d₁ + d₂)]
  simp only [filter_spectrum hD, Cx.smul_smul, mul_comm (G W H px d₂ _ _), gain_mul]

/-- **more dose attenuates more**, at every frequency -/
theorem filter_more_dose (hD : IsDFT fft) (px : ℝ) {d₁ d₂ : ℝ} (h : d₁ ≤ d₂) (x : Img) (v : Fin H) (u : Fin W) :
    Cx.power (fft.fft2 (filt fft px d₂ x) v u) ≤ Cx.power (fft.fft2 (filt fft px d₁ x) v u) := by
  rw [filter_spectrum hD, filter_spectrum hD, Cx.power_smul, Cx.power_smul]
  have h2 : 0 < G W H px d₂ v u := gainK_pos d₂
  exact mul_le_mul_of_nonneg_right (pow_le_pow_left₀ h2.le (gain_antitone W H px h v u) 2) (Cx.power_nonneg _)

/-- **power never increases at any frequency** (non-negative dose): more dose than none -/
theorem filter_power_le (hD : IsDFT fft) (px : ℝ) {d : ℝ} (hd : 0 ≤ d) (x : Img) (v : Fin H) (u : Fin W) :
    Cx.power (fft.fft2 (filt fft px d x) v u) ≤ Cx.power (fft.fft2 x v u) := by
  have := filter_more_dose hD px hd x v u
  rwa [filter_zero_dose hD] at this

/-- **the zero-frequency component is unchanged** -/
theorem filter_dc (hD : IsDFT fft) (px d : ℝ) (x : Img) (hH : 0 < H) (hW : 0 < W) :
    fft.fft2 (filt fft px d x) ⟨0, hH⟩ ⟨0, hW⟩ = fft.fft2 x ⟨0, hH⟩ ⟨0, hW⟩ := by
  rw [filter_spectrum hD]
  show Cx.smul (G W H px d 0 0) _ = _
  rw [dc_gain_one hW hH, Cx.one_smul]

/-- **hence the image mean is unchanged** (for any `mean` that is the zero-frequency coefficient over the pixel count,
as the DFT's is) -/
theorem filter_mean (hD : IsDFT fft) (px d : ℝ) (x : Img) (hH : 0 < H) (hW : 0 < W) (mean : Img → ℝ)
    (hmean : ∀ y, mean y = (fft.fft2 y ⟨0, hH⟩ ⟨0, hW⟩).re / ((H : ℝ) * (W : ℝ))) :
    mean (filt fft px d x) = mean x := by
  rw [hmean, hmean, filter_dc hD]

omit [Add Img] [SMul ℝ Img] in
/-- a dose list shorter than the stack is rejected (`IndexError`), anything else is accepted -/
theorem stack_rejects_iff (fft : FFT Img ℝ H W) (px : ℝ) (stack : List Img) (doses : List ℝ) :
    filtStack fft px stack doses = none ↔ doses.length < stack.length := by
  unfold filtStack doseFilter; split <;> simp_all

omit [Add Img] [SMul ℝ Img] in
theorem filtStack_eq (px : ℝ) (stack : List Img) (doses : List ℝ) (h : stack.length ≤ doses.length) :
    filtStack fft px stack doses = some (List.zipWith (fun x d => filt fft px d x) stack doses) := by
  unfold filtStack doseFilter; rw [if_neg (by omega)]

omit [Add Img] [SMul ℝ Img] in
/-- **per-image dose pairing**: the output has one image per input image, and image `i` is image `i` of the input
filtered with `doses[i]` — for every order of the doses -/
theorem stack_pairs_doses (fft : FFT Img ℝ H W) (px : ℝ) (stack : List Img) (doses : List ℝ)
    (h : stack.length ≤ doses.length) :
    ∃ out, filtStack fft px stack doses = some out ∧ out.length = stack.length ∧
      ∀ i (hi : i < stack.length), out[i]? = some (filt fft px (doses[i]'(by omega)) stack[i]) := by
  refine ⟨_, filtStack_eq px stack doses h, by rw [List.length_zipWith, Nat.min_eq_left h], fun i hi => ?_⟩
  rw [List.getElem?_eq_getElem (by rw [List.length_zipWith]; omega), List.getElem_zipWith]

/-- **the composition clause for whole stacks**: filtering a stack with the per-image doses `d₁` and the result with `d₂`
equals filtering it once with the image-wise sums `d₁[i] + d₂[i]` — every stack length, any order of the doses
(surplus doses are ignored on both sides) -/
theorem stack_compose (hD : IsDFT fft) (px : ℝ) (stack : List Img) (d₁ d₂ : List ℝ)
    (h₁ : stack.length ≤ d₁.length) (h₂ : stack.length ≤ d₂.length) :
    (filtStack fft px stack d₁).bind (fun s => filtStack fft px s d₂)
      = filtStack fft px stack (List.zipWith (· + ·) d₁ d₂) := by
  rw [filtStack_eq px stack d₁ h₁, Option.bind_some,
    filtStack_eq px _ d₂ (by simp; omega), filtStack_eq px stack _ (by simp; omega),
    List.zipWith_zipWith_left, List.zipWith_zipWith_right]
  simp only [filter_compose hD]

/-- **zero dose is the identity on stacks**: an all-zero dose list returns the stack itself, image by image -/
theorem stack_zero_dose (hD : IsDFT fft) (px : ℝ) (stack : List Img) :
    filtStack fft px stack (List.replicate stack.length 0) = some stack := by
  rw [filtStack_eq px stack _ (by simp)]
  congr 1
  induction stack with
  | nil => rfl
  | cons x xs ih => rw [List.length_cons, List.replicate_succ, List.zipWith_cons_cons, filter_zero_dose hD, ih]

end image

/-! ### every image size: the exact 2-D DFT over ℂ is such a service, so the image-level clauses hold without hypothesis

`dftN H W` (`Lemmas/C16_DftN`) is numpy's `fft2` on real `H × W` images / `ifft2(·).real`, exactly, over ℂ:
`fft2 x [v,u] = Σ_y Σ_i x[y,i] · exp(-2πi (y v / H + i u / W))` (`dftN_fft2_exp`), and `dftN_isDFT` proves the laws `IsDFT` for every
`H, W ≥ 1` (inversion, Hermitian-even multipliers keep real images real, linearity).  Images are functions `Fin H → Fin W → ℝ` with
pointwise `+` and `•`. -/

section everysize
variable {H W : Nat}

theorem dft_filter_spectrum (hH : 0 < H) (hW : 0 < W) (px d : ℝ) (x : ImgN H W) (v : Fin H) (u : Fin W) :
    (dftN H W).fft2 (filt (dftN H W) px d x) v u = Cx.smul (G W H px d v u) ((dftN H W).fft2 x v u) :=
  filter_spectrum (dftN_isDFT hH hW) px d x v u

theorem dft_filter_zero_dose (hH : 0 < H) (hW : 0 < W) (px : ℝ) (x : ImgN H W) : filt (dftN H W) px 0 x = x :=
  filter_zero_dose (dftN_isDFT hH hW) px x

theorem dft_filter_linear (hH : 0 < H) (hW : 0 < W) (px d c : ℝ) (x y : ImgN H W) :
    filt (dftN H W) px d (x + y) = filt (dftN H W) px d x + filt (dftN H W) px d y ∧
    filt (dftN H W) px d (c • x) = c • filt (dftN H W) px d x :=
  ⟨filter_add (dftN_isDFT hH hW) px d x y, filter_smul (dftN_isDFT hH hW) px d c x⟩

theorem dft_filter_compose (hH : 0 < H) (hW : 0 < W) (px d₁ d₂ : ℝ) (x : ImgN H W) :
    filt (dftN H W) px d₂ (filt (dftN H W) px d₁ x) = filt (dftN H W) px (d₁ + d₂) x :=
  filter_compose (dftN_isDFT hH hW) px d₁ d₂ x

theorem dft_filter_power (hH : 0 < H) (hW : 0 < W) (px : ℝ) {d₁ d₂ : ℝ} (h0 : 0 ≤ d₁) (h : d₁ ≤ d₂) (x : ImgN H W) (v : Fin H) (u : Fin W) :
    Cx.power ((dftN H W).fft2 (filt (dftN H W) px d₁ x) v u) ≤ Cx.power ((dftN H W).fft2 x v u) ∧
    Cx.power ((dftN H W).fft2 (filt (dftN H W) px d₂ x) v u) ≤ Cx.power ((dftN H W).fft2 (filt (dftN H W) px d₁ x) v u) :=
  ⟨filter_power_le (dftN_isDFT hH hW) px h0 x v u, filter_more_dose (dftN_isDFT hH hW) px h x v u⟩

/-- **the zero-frequency component is unchanged, hence the sum of the pixels, hence the image mean** — every size, every dose -/
theorem dft_filter_mean (hH : 0 < H) (hW : 0 < W) (px d : ℝ) (x : ImgN H W) :
    (dftN H W).fft2 (filt (dftN H W) px d x) ⟨0, hH⟩ ⟨0, hW⟩ = (dftN H W).fft2 x ⟨0, hH⟩ ⟨0, hW⟩ ∧
    (∑ y : Fin H, ∑ i : Fin W, filt (dftN H W) px d x y i) / ((H : ℝ) * (W : ℝ)) = (∑ y : Fin H, ∑ i : Fin W, x y i) / ((H : ℝ) * (W : ℝ)) := by
  have hdc := filter_dc (dftN_isDFT hH hW) px d x hH hW
  refine ⟨hdc, ?_⟩
  rw [← dftN_dc _ hH hW, ← dftN_dc _ hH hW, hdc]

/-- the `mean` hypothesis of `filter_mean` is met by the arithmetic mean of the pixels (instance: every size) -/
example (hH : 0 < H) (hW : 0 < W) (px d : ℝ) (x : ImgN H W) :
    (fun y : ImgN H W => (∑ a : Fin H, ∑ b : Fin W, y a b) / ((H : ℝ) * (W : ℝ))) (filt (dftN H W) px d x)
      = (∑ a : Fin H, ∑ b : Fin W, x a b) / ((H : ℝ) * (W : ℝ)) :=
  filter_mean (dftN_isDFT hH hW) px d x hH hW _ (fun y => by rw [dftN_dc y hH hW])

theorem dft_stack_compose (hH : 0 < H) (hW : 0 < W) (px : ℝ) (stack : List (ImgN H W)) (d₁ d₂ : List ℝ)
    (h₁ : stack.length ≤ d₁.length) (h₂ : stack.length ≤ d₂.length) :
    (filtStack (dftN H W) px stack d₁).bind (fun s => filtStack (dftN H W) px s d₂)
      = filtStack (dftN H W) px stack (List.zipWith (· + ·) d₁ d₂) :=
  stack_compose (dftN_isDFT hH hW) px stack d₁ d₂ h₁ h₂

theorem dft_stack_zero_dose (hH : 0 < H) (hW : 0 < W) (px : ℝ) (stack : List (ImgN H W)) :
    filtStack (dftN H W) px stack (List.replicate stack.length 0) = some stack :=
  stack_zero_dose (dftN_isDFT hH hW) px stack

end everysize

/-! ### integer-typed stacks: the code as it is (open finding C16-K1)

`doseFilterInt` (Model/C16) is `dose_filter` on an integer array: convert, filter, truncate every pixel toward zero.  In exact arithmetic zero dose IS
the identity there (an integer survives the round trip; numpy's rounding noise breaks even that); the clauses that fail are the ones about a positive dose: the result is not
the filtered image, the zero-frequency component and the mean change. -/

section intstack
variable {Img IntImg : Type} [Add Img] [SMul ℝ Img] {H W : Nat} {fft : FFT Img ℝ H W}

/-- IN EXACT ARITHMETIC zero dose is the identity on integer stacks too, whenever integers survive the conversion to float and back
(so the clause that fails at the reals is not this one: see `int_stack_counterexample`).  In floating point not even this survives: the
FFT returns `4.999…` for a pixel `5`, which truncation turns into `4` (seen on every random int16 stack tried) — part of C16-K1. -/
theorem int_stack_zero_dose_identity (hD : IsDFT fft) (io : IntIO Img IntImg) (hio : ∀ x, io.trunc (io.ofInt x) = x) (px : ℝ)
    (stack : List IntImg) :
    doseFilterInt realOps (gg realOps) fft io px stack (List.replicate stack.length 0) = some stack := by
  have h := stack_zero_dose hD px (stack.map io.ofInt)
  rw [List.length_map] at h
  show (filtStack fft px (stack.map io.ofInt) _).map _ = _
  rw [h, Option.map_some, List.map_map]
  exact congrArg some ((List.map_congr_left fun x _ => hio x).trans (List.map_id _))

end intstack

/-- **C16-K1, witness about the model**: for every pixel size and every POSITIVE dose the 1 × 2 integer image `(1, 0)` comes back as
`(0, 0)` — the filtered image `((1+γ)/2, (1−γ)/2)`, `0 < γ < 1`, is truncated to nothing.  So on integer stacks the output is not the
attenuated image, and its zero-frequency component (1 before, 0 after) and mean are not preserved. -/
theorem int_stack_counterexample (px : ℝ) {d : ℝ} (hd : 0 < d) :
    doseFilterInt realOps (gg realOps) dft12 io12 px [(1, 0)] [d] = some [(0, 0)] ∧
    (dft12.fft2 (io12.ofInt (1, 0)) 0 0).re = 1 ∧ (dft12.fft2 (io12.ofInt (0, 0)) 0 0).re = 0 := by
  -- the two multipliers of a 1 × 2 image: `1` at zero frequency, `γ ∈ (0, 1)` at the Nyquist column (`sfreq 2 1 = -1`)
  have m0 : G 2 1 px d 0 0 = 1 := dc_gain_one (by decide) (by decide) px d
  have m1p : 0 < G 2 1 px d 0 1 := (gain_pos_le_one 2 1 px hd.le 0 1).1
  have m1l : G 2 1 px d 0 1 < 1 := gain_lt_one px hd (by decide) (by decide) (by decide)
  refine ⟨?_, by simp only [dft12_fft2_zero, io12, Int.cast_one, Int.cast_zero, add_zero],
    by simp only [dft12_fft2_zero, io12, Int.cast_zero, add_zero]⟩
  show some [io12.trunc (filt dft12 px d (((1 : Int) : ℝ), ((0 : Int) : ℝ)))] = _
  rw [Int.cast_one, Int.cast_zero, filt12, m0]
  show some [(truncR _, truncR _)] = _
  rw [truncR_of_lt_one (by linarith) (by linarith), truncR_of_lt_one (by linarith) (by linarith)]

/-- ... while the same image in a floating-point stack keeps its zero-frequency component (`filter_dc` at the 1 × 2 DFT) -/
example (px d : ℝ) : (dft12.fft2 (filt dft12 px d (1, 0)) 0 0) = dft12.fft2 ((1 : ℝ), (0 : ℝ)) 0 0 :=
  filter_dc dft12_isDFT px d (1, 0) (by decide) (by decide)

/-! ### non-vacuity: the hypotheses are satisfiable -/

/-- a Fourier service obeying `IsDFT` exists (the 1 × 2 DFT), so the image-level theorems are not vacuous -/
example : IsDFT dft12 := dft12_isDFT
/-- ... and one with generic content: the exact 2 × 3 DFT of real images (complex coefficients, twiddle `e^{-2πi/3}`, the
Hermitian pair `u = 1 ↔ u = 2`; `Lemmas/C16_Dft23`; probe `dft23-is-numpy-fft2` compares its formula with numpy) -/
example : IsDFT dft23 := dft23_isDFT
/-- the image-level theorems instantiated there: a 2 × 3 image filtered with doses 30 and then 12 at 1.5 Å/pixel -/
example (x : Img23) : filt dft23 1.5 12 (filt dft23 1.5 30 x) = filt dft23 1.5 42 x := by
  have := filter_compose dft23_isDFT 1.5 30 12 x; norm_num at this ⊢; exact this
example (x : Img23) (v : Fin 2) (u : Fin 3) :
    dft23.fft2 (filt dft23 1.5 30 x) v u = Cx.smul (G 3 2 1.5 30 v u) (dft23.fft2 x v u) := filter_spectrum dft23_isDFT 1.5 30 x v u
/-- the twiddle tables of `dft23` are the cosines / sines of the cube roots of unity -/
example : cos3 1 = Real.cos (2 * Real.pi / 3) ∧ sin3 1 = Real.sin (2 * Real.pi / 3) := ⟨cos3_one, sin3_one⟩
example : filt dft12 2 0 (3, 5) = (3, 5) := filter_zero_dose dft12_isDFT 2 (3, 5)
/-- `filter_mean`'s hypothesis `hmean` instantiated: at the 1 × 2 DFT the mean `(a + b)/2` is the zero-frequency coefficient over the
pixel count, so the mean of the filtered image is the mean of the image -/
example (px d : ℝ) (x : ℝ × ℝ) : ((filt dft12 px d x).1 + (filt dft12 px d x).2) / 2 = (x.1 + x.2) / 2 :=
  filter_mean dft12_isDFT px d x (by decide) (by decide) (fun y => (y.1 + y.2) / 2) (fun y => by simp [dft12])
/-- a Fourier service for EVERY size: the exact complex DFT -/
example (H W : Nat) (hH : 0 < H) (hW : 0 < W) : IsDFT (dftN H W) := dftN_isDFT hH hW
/-- the integer conversions of the witness survive the round trip (hypothesis `hio` of `int_stack_zero_dose_identity`) -/
example : doseFilterInt realOps (gg realOps) dft12 io12 1.5 [(3, -5), (0, 7)] (List.replicate 2 0) = some [(3, -5), (0, 7)] :=
  int_stack_zero_dose_identity dft12_isDFT io12 io12_roundtrip 1.5 [(3, -5), (0, 7)]
/-- a non-DC coefficient of a 6 × 5 image (`u = 3` is the Nyquist column, `v = 4` has signed frequency −1) -/
example : (3 < 6 ∧ 4 < 5) ∧ ¬ (sfreq 6 3 = 0 ∧ sfreq 5 4 = 0) ∧ sfreq 6 3 = -3 ∧ sfreq 5 4 = -1 := by decide
example : ∃ out, filtStack dft12 2 [(1, 2), (3, 4)] [30, 10, 20] = some out ∧ out.length = 2 :=
  let ⟨out, h, hl, _⟩ := stack_pairs_doses dft12 2 [(1, 2), (3, 4)] [30, 10, 20] (by decide)
  ⟨out, h, hl⟩

end CryoCat.C16
