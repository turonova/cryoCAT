import CryoCat.Gen.C20
import CryoCat.Lemmas.C20
import CryoCat.Lemmas.C20_Spec
import CryoCat.Lemmas.C20_Order
import Mathlib.Analysis.SpecialFunctions.Trigonometric.Basic
import Mathlib.Analysis.SpecialFunctions.Sqrt
/-! C20 — membrane thickness pairs: one-to-one, forward, within range and cone.
Property theorems about the model `CryoCat.C20.measure` (Model/C20.lean), the verified checker
`CryoCat.C20.check`, and the translator obligations on `Gen/C20.lean`. Number type: any linearly ordered field; the
square root is a parameter. -/
set_option linter.unusedSectionVars false
namespace CryoCat.C20

/-! ### translator obligations (T): the anchored source is the documented one

`Gen/C20.lean` is regenerated from `cryocat/memthick.py` on every run. It holds DATA only: expression trees,
operators, and ordered statement lists of the canonical form of each function (parameters `a<i>` by position,
local variables `v<j>` by first binding, logging removed — so the lists do not depend on how locals are
called). The expected values below are written by hand; the Lean kernel compares them. -/

theorem anchors_ok : Gen.C20.anchorsOk = true := by decide

/-- the numba kernel and the CUDA kernel compute literally the same admissibility expressions as
`measure_thickness_cpu` (after inlining locals and renaming source/target/normal) -/
theorem sites_identical :
    Gen.C20.siteNumba = Gen.C20.siteCpu ∧ Gen.C20.siteCuda = Gen.C20.siteCpu := by decide

/-- the source's `dx*dx + dy*dy + dz*dz` is the model's squared distance — over every commutative ring -/
theorem site_dist2_eval {α : Type} [CommRing α] (ps pt n : V3 α) (m r : α) :
    Gen.C20.siteCpu.dist2.eval (envOf ps pt n m r) = d2 ps pt := by
  simp only [Gen.C20.siteCpu, Expr.eval, Env.get, envOf, d2, V3.dot, V3.sub_def, V3.sub]

/-- the source's `proj` is the model's projection on the source normal -/
theorem site_proj_eval {α : Type} [CommRing α] (ps pt n : V3 α) (m r : α) :
    Gen.C20.siteCpu.proj.eval (envOf ps pt n m r) = proj ps pt n := by
  simp only [Gen.C20.siteCpu, Expr.eval, Env.get, envOf, proj, V3.dot, V3.sub_def, V3.sub]

/-- the source's `lateral_dist_sq` is the model's squared lateral offset -/
theorem site_lat2_eval {α : Type} [CommRing α] (ps pt n : V3 α) (m r : α) :
    Gen.C20.siteCpu.lat2.eval (envOf ps pt n m r) = lat2 ps pt n := by
  simp only [Gen.C20.siteCpu, Expr.eval, Env.get, envOf, lat2, proj, V3.normSq, V3.dot, V3.smul, V3.sub_def, V3.sub]

/-- the right-hand side of the cone test is `max_angle_cos * proj * proj` -/
theorem site_coneRhs_eval {α : Type} [CommRing α] (ps pt n : V3 α) (m r : α) :
    Gen.C20.siteCpu.coneRhs.eval (envOf ps pt n m r) = m * proj ps pt n * proj ps pt n := by
  simp only [Gen.C20.siteCpu, Expr.eval, Env.get, envOf, proj, V3.dot, V3.sub_def, V3.sub]

/-- the decisions are `proj > 0` and `lateral_dist_sq < rhs` at all three sites -/
theorem site_operators :
    Gen.C20.siteCpu.projCmp = .gt ∧ Gen.C20.siteCpu.coneCmp = .lt := by decide

/-- distance pre-filter: closed-ball KD-tree query on the CPU path, `dist < max_thickness_voxels`
in the numba and CUDA kernels -/
theorem site_ball_tests :
    Gen.C20.siteCpuBall = .kdtreeClosedBall ∧ Gen.C20.siteNumbaBall = .cmp .lt ∧
    Gen.C20.siteCudaBall = .cmp .lt := by decide

/-- **what is recorded.** At each of the three sites the value stored as the distance of a match is the
square root of the same `dx*dx + dy*dy + dz*dz` that the distance test uses (not the projection, not
the lateral offset) -/
theorem stored_is_distance :
    Gen.C20.siteCpuStored = Gen.C20.siteCpu.dist2 ∧ Gen.C20.siteNumbaStored = Gen.C20.siteNumba.dist2 ∧
    Gen.C20.siteCudaStored = Gen.C20.siteCuda.dist2 := by decide

theorem site_stored_eval {α : Type} [CommRing α] (ps pt n : V3 α) (m r : α) :
    Gen.C20.siteCudaStored.eval (envOf ps pt n m r) = d2 ps pt ∧
    Gen.C20.siteNumbaStored.eval (envOf ps pt n m r) = d2 ps pt ∧
    Gen.C20.siteCpuStored.eval (envOf ps pt n m r) = d2 ps pt := by
  refine ⟨?_, ?_, ?_⟩ <;>
  simp only [Gen.C20.siteCudaStored, Gen.C20.siteNumbaStored, Gen.C20.siteCpuStored, Expr.eval, Env.get, envOf, d2,
    V3.dot, V3.sub_def, V3.sub]

/-- **guard chains.** The `if` tests (and loops) that enclose the statement recording a match, from the
function body down, with roles substituted for names (`SRC`/`TGT` = index of the source / target point,
`P`/`M1`/`M2` = points and the source / target mask parameter, `R`/`M`/`CAP` = radius, cone multiplier, cap):
every test is the bare comparison — no `or`, no test moved into an `else`, the mask tests use the source
mask for the thread / row index and the target mask for the scanned index. -/
theorem guard_chains_documented :
    Gen.C20.siteCudaChain = [
      "if SRC < P.shape[0] and M1[SRC]",
      "for TGT in range(P.shape[0])",
      "if M2[TGT]",
      "if DIST < R",
      "if PROJ > 0",
      "if LAT2 < M * PROJ * PROJ",
      "if v3 < CAP"] ∧
    Gen.C20.siteNumbaChain = [
      "for SRC in prange(v0)",
      "unless not M1[SRC]",
      "for v6 in range(len(TI))",
      "if DIST < R",
      "if PROJ > 0",
      "if LAT2 < M * PROJ * PROJ",
      "if v5 < v1"] ∧
    Gen.C20.siteCpuChain = [
      "for (v13, v14) in enumerate(v11)",
      "for v19 in v14",
      "if PROJ > 0",
      "if LAT2 < M * PROJ * PROJ"] :=
  ⟨rfl, rfl, rfl⟩

/-- **stores.** The block that records a match writes the distance `DIST` and the target index `TGT` into
the row of the source `SRC` and advances the per-source counter by one. -/
theorem stores_documented :
    Gen.C20.siteCudaStore = [
      "0|v14 = SRC * CAP + v3",
      "0|MD[v14] = DIST",
      "0|MI[v14] = TGT",
      "0|v3 += 1"] ∧
    Gen.C20.siteNumbaStore = [
      "0|MD[SRC, v5] = DIST",
      "0|MI[SRC, v5] = TGT",
      "0|v5 += 1"] ∧
    Gen.C20.siteCpuStore = [
      "0|v12.append((DIST, SRC, TGT))",
      "0|v18 += 1",
      "0|if v18 >= CAP:",
      "1|break"] :=
  ⟨rfl, rfl, rfl⟩

/-- the cone multiplier is `tan(radians(max_angle_degrees))²`: on the CPU path the scalar used by the cone
test, on the GPU path the value passed in the kernel's 9th parameter position (`max_angle_cos`); the
launch statement passes points, normals, SOURCE mask, TARGET mask, the three output buffers, radius,
multiplier and cap in exactly the kernel's parameter order (third conjunct: statement 13 of `gpu_flow_shape`
repeated here as the anchor of the argument ORDER — a restatement, not an additional fact) -/
theorem multiplier_is_tan_squared :
    Gen.C20.multCpu = .sq (.tan (.radians .deg)) ∧ Gen.C20.multGpu = .sq (.tan (.radians .deg)) ∧
    Gen.C20.bodyMeasureGpu[13]? = some
      "0|find_all_possible_matches_kernel[v10, v9](cuda.to_device(a0.astype(np.float32)), cuda.to_device(a1.astype(np.float32)), cuda.to_device(v0.astype(np.int32)), cuda.to_device(v1.astype(np.int32)), v6, v7, v8, v4, v3, v5)" :=
  ⟨by decide, by decide, rfl⟩

/-- **the anchored multiplier expressions, evaluated**: with any implementation `T` of `radians` / `tan` / `cos` /
`sin`, both extracted expressions evaluate to `tan(radians(deg))²`, which is the cone multiplier `(i.params strict).m`
of every model input whose `tanT` is `tan(radians(deg))` — the driver's `tanOfDeg` is this `T.tan (T.radians deg)` at
`Float` (`Drv.C20.floatTrig`), and it reports `multCpu.eval` / `multGpu.eval` beside the model's multiplier on every
case (compared bit for bit by the harness). What remains validated only: libm `tan` vs numpy's (probe, ≤ 4 ulp). -/
theorem multiplier_evaluates {α : Type} [Mul α] (T : Trig α) (deg : α) :
    Gen.C20.multCpu.eval T deg = some (T.tan (T.radians deg) * T.tan (T.radians deg)) ∧
    Gen.C20.multGpu.eval T deg = some (T.tan (T.radians deg) * T.tan (T.radians deg)) :=
  ⟨rfl, rfl⟩

theorem radius_is_max_over_voxel :
    Gen.C20.radiusCpu = "max_thickness_nm/voxel_size" ∧ Gen.C20.radiusGpu = "max_thickness_nm/voxel_size" :=
  ⟨rfl, rfl⟩

/-- `process_matches_cpu2cpu` / `process_matches_gpu2cpu`, statement by statement: plain ascending
`list.sort()` (no key, no reverse) of `(dist, source, target)` tuples BEFORE the loop, first-come assignment
guarded by `s not in S and t not in T` with both sets initially empty, the three result arrays written at the
source index, both sets updated, scaling by `voxel_size` afterwards, the triple returned. -/
theorem assignment_loop_shape :
    Gen.C20.bodyCpu2Cpu = [
      "0|v0 = np.zeros(a1, dtype=np.float32)",
      "0|v1 = np.zeros(a1, dtype=np.bool_)",
      "0|v2 = np.zeros(a1, dtype=np.int32)",
      "0|a0.sort()",
      "0|v3 = set()",
      "0|v4 = set()",
      "0|for (v5, v6, v7) in a0:",
      "1|if v6 not in v3 and v7 not in v4:",
      "2|v0[v6] = v5",
      "2|v1[v6] = True",
      "2|v2[v6] = v7",
      "2|v3.add(v6)",
      "2|v4.add(v7)",
      "0|v0 = v0 * a2",
      "0|return (v0, v1, v2)"] ∧
    Gen.C20.bodyGpu2Cpu = [
      "0|v0 = np.zeros(a3, dtype=np.float32)",
      "0|v1 = np.zeros(a3, dtype=np.bool_)",
      "0|v2 = np.zeros(a3, dtype=np.int32)",
      "0|v3 = []",
      "0|for v4 in range(a3):",
      "1|v5 = a2[v4]",
      "1|for v6 in range(v5):",
      "2|v7 = v4 * a4 + v6",
      "2|v3.append((a0[v7], v4, a1[v7]))",
      "0|v3.sort()",
      "0|v8 = set()",
      "0|v9 = set()",
      "0|for (v10, v11, v12) in v3:",
      "1|if v11 not in v8 and v12 not in v9:",
      "2|v0[v11] = v10",
      "2|v1[v11] = True",
      "2|v2[v11] = v12",
      "2|v8.add(v11)",
      "2|v9.add(v12)",
      "0|v0 = v0 * a5",
      "0|return (v0, v1, v2)"] :=
  ⟨rfl, rfl⟩

/-- `measure_thickness_cpu`, statement by statement: direction `'2to1'` swaps the two masks, sources /
targets are the mask members (`np.where`), the KD-tree is built on the target points and queried with the
source points and the radius, neighbour `n` is mapped back through the SAME index array the tree was built
from, tuples are `(dist, source_idx, target_idx)`, at most `max_matches_per_point = 25` admissible
candidates are kept per source (`break` at `>=`, counted in KD-tree order), the flat list goes to
`process_matches_cpu2cpu` with the number of points and the voxel size. -/
theorem cpu_flow_shape :
    Gen.C20.bodyMeasureCpu = [
      "0|if a8 is not None:",
      "1|numba.set_num_threads(a8)",
      "0|if a7 == '2to1':",
      "1|v0, v1 = (a3, a2)",
      "0|else:",
      "1|v0, v1 = (a2, a3)",
      "0|v2 = len(a0)",
      "0|v3 = np.tan(np.radians(a6)) ** 2",
      "0|v4 = a5 / a4",
      "0|v5 = np.where(v1)[0]",
      "0|v6 = a0[v5]",
      "0|v7 = np.where(v0)[0]",
      "0|v8 = a0[v7]",
      "0|v9 = ScipyKDTree(v6)",
      "0|v10 = time.time()",
      "0|v11 = v9.query_ball_point(v8, v4)",
      "0|v12 = []",
      "0|for (v13, v14) in enumerate(v11):",
      "1|v15 = v7[v13]",
      "1|v16 = a1[v15]",
      "1|v17 = a0[v15]",
      "1|v18 = 0",
      "1|for v19 in v14:",
      "2|v20 = v5[v19]",
      "2|v21 = a0[v20]",
      "2|v22 = v21[0] - v17[0]",
      "2|v23 = v21[1] - v17[1]",
      "2|v24 = v21[2] - v17[2]",
      "2|v25 = np.sqrt(v22 * v22 + v23 * v23 + v24 * v24)",
      "2|v26 = v22 * v16[0] + v23 * v16[1] + v24 * v16[2]",
      "2|if v26 > 0:",
      "3|v27 = v22 - v26 * v16[0]",
      "3|v28 = v23 - v26 * v16[1]",
      "3|v29 = v24 - v26 * v16[2]",
      "3|v30 = v27 ** 2 + v28 ** 2 + v29 ** 2",
      "3|if v30 < v3 * v26 * v26:",
      "4|v12.append((v25, v15, v20))",
      "4|v18 += 1",
      "4|if v18 >= a10:",
      "5|break",
      "0|v31, v32, v33 = process_matches_cpu2cpu(v12, v2, a4)",
      "0|return (v31, v32, v33)"] ∧
    Gen.C20.capDefault = 25 :=
  ⟨rfl, by decide⟩

/-- `measure_thickness_gpu`, statement by statement (never executed on a GPU here; executed under numba's
CUDA simulator by the correspondence run): the `'2to1'` branch assigns (surface2, surface1) and the other
branch (surface1, surface2) to (source, target); multiplier, radius, cap 25; launch arguments in the kernel's
parameter order; the host copies go to `process_matches_gpu2cpu` with the same cap and the voxel size. -/
theorem gpu_flow_shape :
    Gen.C20.bodyMeasureGpu = [
      "0|if a7 == '2to1':",
      "1|v0, v1 = (a3, a2)",
      "0|else:",
      "1|v0, v1 = (a2, a3)",
      "0|v2 = len(a0)",
      "0|v3 = math.tan(math.radians(a6)) ** 2",
      "0|v4 = a5 / a4",
      "0|v5 = 25",
      "0|v6 = cuda.to_device(np.zeros(v2 * v5, dtype=np.float32))",
      "0|v7 = cuda.to_device(np.zeros(v2 * v5, dtype=np.int32))",
      "0|v8 = cuda.to_device(np.zeros(v2, dtype=np.int32))",
      "0|v9 = 256",
      "0|v10 = (v2 + v9 - 1) // v9",
      "0|find_all_possible_matches_kernel[v10, v9](cuda.to_device(a0.astype(np.float32)), cuda.to_device(a1.astype(np.float32)), cuda.to_device(v0.astype(np.int32)), cuda.to_device(v1.astype(np.int32)), v6, v7, v8, v4, v3, v5)",
      "0|v11 = v6.copy_to_host()",
      "0|v12 = v7.copy_to_host()",
      "0|v13 = v8.copy_to_host()",
      "0|v14, v15, v16 = process_matches_gpu2cpu(v11, v12, v13, v2, v5, a4)",
      "0|return (v14, v15, v16)"] ∧
    Gen.C20.capGpu = 25 :=
  ⟨rfl, by decide⟩

/-- the CUDA kernel and the numba kernel, statement by statement (whole bodies: an added statement, a
changed store or a re-nested test changes the list) -/
theorem kernel_bodies_documented :
    Gen.C20.bodyCudaKernel = [
      "0|v0 = cuda.grid(1)",
      "0|if v0 < a0.shape[0] and a2[v0]:",
      "1|v1 = a0[v0]",
      "1|v2 = a1[v0]",
      "1|v3 = 0",
      "1|for v4 in range(a0.shape[0]):",
      "2|if a3[v4]:",
      "3|v5 = a0[v4, 0] - v1[0]",
      "3|v6 = a0[v4, 1] - v1[1]",
      "3|v7 = a0[v4, 2] - v1[2]",
      "3|v8 = math.sqrt(v5 * v5 + v6 * v6 + v7 * v7)",
      "3|if v8 < a7:",
      "4|v9 = v5 * v2[0] + v6 * v2[1] + v7 * v2[2]",
      "4|if v9 > 0:",
      "5|v10 = v5 - v9 * v2[0]",
      "5|v11 = v6 - v9 * v2[1]",
      "5|v12 = v7 - v9 * v2[2]",
      "5|v13 = v10 ** 2 + v11 ** 2 + v12 ** 2",
      "5|if v13 < a8 * v9 * v9:",
      "6|if v3 < a9:",
      "7|v14 = v0 * a9 + v3",
      "7|a4[v14] = v8",
      "7|a5[v14] = v4",
      "7|v3 += 1",
      "1|a6[v0] = v3"] ∧
    Gen.C20.bodyNumbaKernel = [
      "0|v0 = len(a0)",
      "0|v1 = a7.shape[1]",
      "0|for v2 in prange(v0):",
      "1|if not a2[v2]:",
      "2|continue",
      "1|v3 = a0[v2]",
      "1|v4 = a1[v2]",
      "1|v5 = 0",
      "1|for v6 in range(len(a4)):",
      "2|v7 = a4[v6]",
      "2|v8 = a0[v7, 0] - v3[0]",
      "2|v9 = a0[v7, 1] - v3[1]",
      "2|v10 = a0[v7, 2] - v3[2]",
      "2|v11 = np.sqrt(v8 * v8 + v9 * v9 + v10 * v10)",
      "2|if v11 < a5:",
      "3|v12 = v8 * v4[0] + v9 * v4[1] + v10 * v4[2]",
      "3|if v12 > 0:",
      "4|v13 = v8 - v12 * v4[0]",
      "4|v14 = v9 - v12 * v4[1]",
      "4|v15 = v10 - v12 * v4[2]",
      "4|v16 = v13 ** 2 + v14 ** 2 + v15 ** 2",
      "4|if v16 < a6 * v12 * v12:",
      "5|if v5 < v1:",
      "6|a7[v2, v5] = v11",
      "6|a8[v2, v5] = v7",
      "6|v5 += 1",
      "1|a9[v2] = v5"] :=
  ⟨rfl, rfl⟩

/-- **signature defaults the statement depends on**: `max_thickness_nm = 8.0`, `max_angle_degrees = 5.0`
(CPU) / `3.0` (GPU), `direction = '1to2'`, `num_threads = None`, `logger = None`, `max_matches_per_point = 25`; the public
signature of `measure_membrane_thickness` (`max_thickness = 8.0`, `max_angle = 3.0`, `direction = '1to2'`, `use_gpu = True`).
Type annotations are not part of these lists. What the top-level function DOES with its parameters is pinned by
`top_dispatch_documented` / `top_flow_shape` below, not here. -/
theorem defaults_documented :
    Gen.C20.sigMeasureCpu = [
      "points",
      "normals",
      "surface1_mask",
      "surface2_mask",
      "voxel_size",
      "max_thickness_nm=8.0",
      "max_angle_degrees=5.0",
      "direction='1to2'",
      "num_threads=None",
      "logger=None",
      "max_matches_per_point=25"] ∧
    Gen.C20.sigMeasureGpu = [
      "points",
      "normals",
      "surface1_mask",
      "surface2_mask",
      "voxel_size",
      "max_thickness_nm=8.0",
      "max_angle_degrees=3.0",
      "direction='1to2'",
      "logger=None"] ∧
    Gen.C20.sigTop = [
      "segmentation_path",
      "input_csv",
      "output_csv=None",
      "output_dir=None",
      "max_thickness=8.0",
      "max_angle=3.0",
      "save_thickness_mrc=False",
      "direction='1to2'",
      "use_gpu=True",
      "num_cpu_threads=None",
      "logger=None"] :=
  ⟨rfl, rfl, rfl⟩

/-- **the top-level dispatch**, every argument written over `measure_membrane_thickness`'s own parameters (locals replaced
by their single definition): both implementations receive, in this order, the `x_voxel, y_voxel, z_voxel` columns of the
input CSV as points (NOT the `*_physical` columns), the `normal_*` columns, the `surface1` column as first and the
`surface2` column as second mask, the voxel size read from the segmentation's MRC header (second result of
`read_segmentation`), `max_thickness`, `max_angle`, `direction` and the logger by keyword; the CPU call also
`num_threads=num_cpu_threads`. The columns `thickness`, `valid_measurement`, `paired_point_idx` of the output CSV are the
first, second and third result of that call. -/
theorem top_dispatch_documented :
    Gen.C20.dispatch = [
      "measure_thickness_gpu(pd.read_csv(input_csv)[['x_voxel', 'y_voxel', 'z_voxel']].values, pd.read_csv(input_csv)[['normal_x', 'normal_y', 'normal_z']].values, pd.read_csv(input_csv)['surface1'].values.astype(bool), pd.read_csv(input_csv)['surface2'].values.astype(bool), voxel_size=read_segmentation(segmentation_path, logger=logger)[1], max_thickness_nm=max_thickness, max_angle_degrees=max_angle, direction=direction, logger=logger)",
      "measure_thickness_cpu(pd.read_csv(input_csv)[['x_voxel', 'y_voxel', 'z_voxel']].values, pd.read_csv(input_csv)[['normal_x', 'normal_y', 'normal_z']].values, pd.read_csv(input_csv)['surface1'].values.astype(bool), pd.read_csv(input_csv)['surface2'].values.astype(bool), voxel_size=read_segmentation(segmentation_path, logger=logger)[1], max_thickness_nm=max_thickness, max_angle_degrees=max_angle, direction=direction, num_threads=num_cpu_threads, logger=logger)"] ∧
    Gen.C20.columns = [
      "paired_point_idx = result[2] of measure_thickness_cpu / measure_thickness_gpu",
      "thickness = result[0] of measure_thickness_cpu / measure_thickness_gpu",
      "valid_measurement = result[1] of measure_thickness_cpu / measure_thickness_gpu"] :=
  ⟨rfl, rfl⟩

/-- `measure_membrane_thickness` and `read_segmentation`, statement by statement (logging removed): output paths, the voxel
size `mrc.voxel_size.x / 10` (Å → nm), the CSV columns, the GPU branch only when `use_gpu` and CUDA is available, the result
columns written after the call, nothing touching points / masks between reading them and the call. -/
theorem top_flow_shape :
    Gen.C20.bodyTop = [
      "0|if a3 is None:",
      "1|a3 = os.path.dirname(a1)",
      "0|os.makedirs(a3, exist_ok=True)",
      "0|if a2 is None:",
      "1|v0 = os.path.splitext(os.path.basename(a1))[0]",
      "1|v1 = '_2to1' if a7 == '2to1' else ''",
      "1|a2 = os.path.join(a3, f'{v0}_thickness{v1}.csv')",
      "0|if a10 is None:",
      "1|a10 = setup_logger(a3)",
      "0|v2 = os.path.splitext(os.path.basename(a2))[0]",
      "0|v3 = os.path.join(a3, f'{v2}_stats.log')",
      "0|v4, v5, v6 = read_segmentation(a0, logger=a10)",
      "0|if v4 is None:",
      "1|return (None, None)",
      "0|v7 = pd.read_csv(a1)",
      "0|v8 = v7[['x_voxel', 'y_voxel', 'z_voxel']].values",
      "0|v9 = v7[['normal_x', 'normal_y', 'normal_z']].values",
      "0|v10 = v7['surface1'].values.astype(bool)",
      "0|v11 = v7['surface2'].values.astype(bool)",
      "0|v12 = False",
      "0|if a8:",
      "1|try:",
      "2|import numba.cuda",
      "2|v12 = numba.cuda.is_available()",
      "1|except ImportError:",
      "2|pass",
      "0|v13 = time.time()",
      "0|if a8 and v12:",
      "1|v14, v15, v16 = measure_thickness_gpu(v8, v9, v10, v11, voxel_size=v5, max_thickness_nm=a4, max_angle_degrees=a5, direction=a7, logger=a10)",
      "0|else:",
      "1|v14, v15, v16 = measure_thickness_cpu(v8, v9, v10, v11, voxel_size=v5, max_thickness_nm=a4, max_angle_degrees=a5, direction=a7, num_threads=a9, logger=a10)",
      "0|v17 = time.time() - v13",
      "0|v18 = generate_matching_statistics(v14, v15, v16, v8, v10, v11, v5)",
      "0|save_matching_statistics(v18, v3, a10)",
      "0|v7['thickness'] = v14",
      "0|v7['valid_measurement'] = v15",
      "0|v7['paired_point_idx'] = v16",
      "0|v7.to_csv(a2, index=False)",
      "0|if a6:",
      "1|v19 = os.path.join(a3, f'{v2}_volume.mrc')",
      "1|v20 = generate_thickness_volume(v8, v14, v15, v4, v5, v16)",
      "1|save_thickness_volume(v20, v19, v5, v6)",
      "1|v21 = v20[~np.isnan(v20)]",
      "0|return (a2, v3)"] ∧
    Gen.C20.bodyReadSeg = [
      "0|try:",
      "1|with mrcfile.mmap(a0, mode='r', permissive=True) as v0:",
      "2|v1 = v0.data",
      "2|v2 = v0.voxel_size.x / 10",
      "2|v3 = (v0.header.origin.x / 10, v0.header.origin.y / 10, v0.header.origin.z / 10)",
      "1|return (v1, v2, v3)",
      "0|except Exception as v4:",
      "1|return (None, None, None)"] :=
  ⟨rfl, rfl⟩

/-- **nothing between the measurement and the CSV edits the result arrays.** `measure_membrane_thickness` hands
`thickness_results`, `valid_mask`, `point_pairs` (and points / masks) to `generate_matching_statistics` BEFORE it stores them
into the output columns (`top_flow_shape`), and to `generate_thickness_volume` afterwards. For these helpers (and the two
writers next to them) the translator lists every statement that may modify a parameter — or a local that may be a view of one —
in place: subscript / attribute stores, augmented assignments, `del`, `out=`, mutating methods, in-place numpy routines,
handing the array on to another non-builtin function. The list is empty: what is written to the CSV is what the measurement
returned. (A syntactic obligation: aliasing through containers or `globals()` is not tracked.) -/
theorem helpers_pure :
    Gen.C20.pureHelpers = ["generate_matching_statistics", "save_matching_statistics",
      "generate_thickness_volume", "save_thickness_volume"] ∧
    Gen.C20.helperWrites = [] :=
  ⟨rfl, rfl⟩

/-- **the other entry points** (`run_full_pipeline`, the command line `main` / `parse_arguments`): defaults
`max_thickness = 8.0`, `max_angle = 3.0`, `direction = '1to2'`, GPU unless `--use_cpu`; each of them hands ITS
`max_thickness`, `max_angle`, `direction`, `use_gpu`, `num_cpu_threads` to the parameter of the same name of
`measure_membrane_thickness` (no positional arguments, nothing swapped, nothing dropped). Anchored only — these two are
never executed by the correspondence run (they need a full segmentation). -/
theorem callers_documented :
    Gen.C20.callers = [
      "run_full_pipeline(max_thickness=8.0, max_angle=3.0, direction='1to2', use_gpu=True, num_cpu_threads=None)",
      "run_full_pipeline -> measure_membrane_thickness: max_thickness=max_thickness, max_angle=max_angle, direction=direction, use_gpu=use_gpu, num_cpu_threads=num_cpu_threads",
      "main -> run_full_pipeline: max_thickness=parse_arguments().max_thickness, max_angle=parse_arguments().max_angle, direction=parse_arguments().direction, use_gpu=not parse_arguments().use_cpu, num_cpu_threads=parse_arguments().cpu_threads",
      "main -> measure_membrane_thickness: max_thickness=parse_arguments().max_thickness, max_angle=parse_arguments().max_angle, direction=parse_arguments().direction, use_gpu=not parse_arguments().use_cpu, num_cpu_threads=parse_arguments().cpu_threads",
      "option --max_thickness: type=float, default=8.0",
      "option --max_angle: type=float, default=3.0",
      "option --direction: choices=['1to2', '2to1'], default='1to2'",
      "option --use_cpu: action='store_true'",
      "option --cpu_threads: type=int"] :=
  rfl

/-- **logging is optional**: the helper every pruned `log_msg(...)` statement of `measure_thickness_cpu`,
`measure_thickness_gpu` and `read_segmentation` calls falls back to `print` when no logger is given (`a9` / `a8` / `a1` is
the `logger` parameter, `x0` the message) — with the default `logger=None` nothing dereferences `None`. -/
theorem log_helpers_documented :
    Gen.C20.helpersMeasureCpu = ["lambda x0: a9.info(x0) if a9 else print(x0)"] ∧
    Gen.C20.helpersMeasureGpu = ["lambda x0: a8.info(x0) if a8 else print(x0)"] ∧
    Gen.C20.helpersReadSeg = ["lambda x0: a1.info(x0) if a1 else print(x0)"] :=
  ⟨rfl, rfl, rfl⟩

/-- the kernels and the two assignment loops are called positionally: arity, no defaults; decorators of all seven functions
(`@cuda.jit` / `@numba.njit(parallel=True)` on the two kernels, none elsewhere — a wrapper would change what the name is
bound to; the framework's `binding:` obligations check the same against harness/bindings.json) -/
theorem kernel_signatures_documented :
    Gen.C20.sigCudaKernel = ["a0", "a1", "a2", "a3", "a4", "a5", "a6", "a7", "a8", "a9"] ∧
    Gen.C20.decoCudaKernel = ["cuda.jit"] ∧
    Gen.C20.sigNumbaKernel = ["a0", "a1", "a2", "a3", "a4", "a5", "a6", "a7", "a8", "a9"] ∧
    Gen.C20.decoNumbaKernel = ["numba.njit(parallel=True)"] ∧
    Gen.C20.sigGpu2Cpu = ["a0", "a1", "a2", "a3", "a4", "a5"] ∧
    Gen.C20.sigCpu2Cpu = ["a0", "a1", "a2"] ∧
    Gen.C20.decoGpu2Cpu = [] ∧ Gen.C20.decoCpu2Cpu = [] ∧ Gen.C20.decoMeasureGpu = [] ∧
    Gen.C20.decoMeasureCpu = [] ∧ Gen.C20.decoTop = [] :=
  ⟨rfl, rfl, rfl, rfl, rfl, rfl, rfl, rfl, rfl, rfl, rfl⟩

section spec
variable {α : Type} [Field α] [LinearOrder α] [IsStrictOrderedRing α]

/-- **The statement.** `out` is the list of (source id, target id) pairs reported for input `i`.
* `admissible`: every pair joins a source-surface point to a target-surface point that is within the
  maximum thickness, ahead of the source along its normal and inside the cone (`Adm`);
* `oneToOne`: no source and no target occurs in two pairs;
* `greedy`: pairs are chosen by increasing distance — every admissible (source, target) pair shares
  its source or its target with a reported pair that is not farther apart. -/
structure Spec (sqrt : α → α) (i : Input α) (strict : Bool) (out : List (Nat × Nat)) : Prop where
  admissible : ∀ p ∈ out, ∃ a ∈ i.sources, ∃ b ∈ i.targets,
    a.idx = p.1 ∧ b.idx = p.2 ∧ Adm sqrt (i.params strict) a b
  oneToOne : out.Pairwise (fun x y => x.1 ≠ y.1 ∧ x.2 ≠ y.2)
  greedy : ∀ a ∈ i.sources, ∀ b ∈ i.targets, Adm sqrt (i.params strict) a b →
    ∃ a' ∈ i.sources, ∃ b' ∈ i.targets, (a'.idx, b'.idx) ∈ out ∧ Adm sqrt (i.params strict) a' b' ∧
      (a'.idx = a.idx ∨ b'.idx = b.idx) ∧ dist sqrt a'.p b'.p ≤ dist sqrt a.p b.p

def pairsOf (m : List (Cand α)) : List (Nat × Nat) := m.map (fun c => (c.s, c.t))

/-- the statement read off the candidate list (the list the checker works on): a candidate IS an admissible
(source, target) pair with its distance -/
theorem spec_iff_cands (sqrt : α → α) (i : Input α) (strict : Bool) (out : List (Nat × Nat)) :
    Spec sqrt i strict out ↔
      (∀ p ∈ out, ∃ c ∈ i.cands sqrt strict, c.s = p.1 ∧ c.t = p.2) ∧
      out.Pairwise (fun x y => x.1 ≠ y.1 ∧ x.2 ≠ y.2) ∧
      ∀ c ∈ i.cands sqrt strict, ∃ o ∈ i.cands sqrt strict, (o.s, o.t) ∈ out ∧ (o.s = c.s ∨ o.t = c.t) ∧ o.d ≤ c.d := by
  unfold Input.cands
  constructor
  · rintro ⟨hA, hB, hC⟩
    refine ⟨fun p hp => ?_, hB, fun c hc => ?_⟩
    · obtain ⟨a, ha, b, hb, e1, e2, hadm⟩ := hA p hp
      exact ⟨_, (mem_cands_iff sqrt _ _ _ _).2 ⟨a, ha, b, hb, hadm, rfl⟩, e1, e2⟩
    · obtain ⟨a, ha, b, hb, hadm, rfl⟩ := (mem_cands_iff sqrt _ _ _ c).1 hc
      obtain ⟨a', ha', b', hb', hin, hadm', hshare, hle⟩ := hC a ha b hb hadm
      exact ⟨_, (mem_cands_iff sqrt _ _ _ _).2 ⟨a', ha', b', hb', hadm', rfl⟩, hin, hshare, hle⟩
  · rintro ⟨hA, hB, hC⟩
    refine ⟨fun p hp => ?_, hB, fun a ha b hb hadm => ?_⟩
    · obtain ⟨c, hc, e1, e2⟩ := hA p hp
      obtain ⟨a, ha, b, hb, hadm, rfl⟩ := (mem_cands_iff sqrt _ _ _ c).1 hc
      exact ⟨a, ha, b, hb, e1, e2, hadm⟩
    · obtain ⟨o, ho, hin, hshare, hle⟩ := hC _ ((mem_cands_iff sqrt _ _ _ _).2 ⟨a, ha, b, hb, hadm, rfl⟩)
      obtain ⟨a', ha', b', hb', hadm', rfl⟩ := (mem_cands_iff sqrt _ _ _ o).1 ho
      exact ⟨a', ha', b', hb', hin, hadm', hshare, hle⟩

/-- every pair the model assigns is an admissible (source, target) pair and carries the Euclidean
distance of its two points; its thickness is that distance times the voxel size -/
theorem model_distance (sqrt : α → α) (i : Input α) (strict : Bool) :
    ∀ c ∈ measure sqrt i strict, ∃ a ∈ i.sources, ∃ b ∈ i.targets,
      a.idx = c.s ∧ b.idx = c.t ∧ Adm sqrt (i.params strict) a b ∧
      c.d = dist sqrt a.p b.p ∧ thickness i c = dist sqrt a.p b.p * i.voxel := by
  intro c hc
  obtain ⟨a, ha, b, hb, hadm, rfl⟩ :=
    (mem_cands_iff sqrt _ _ _ c).1 (greedy_sort_sub _ c hc)
  exact ⟨a, ha, b, hb, rfl, rfl, hadm, rfl, rfl⟩

/-- the model's cone multiplier is the value of the source's multiplier expression (CPU and GPU path) -/
theorem params_multiplier_is_source_expression (T : Trig α) (deg : α) (i : Input α) (strict : Bool)
    (h : i.tanT = T.tan (T.radians deg)) :
    Gen.C20.multCpu.eval T deg = some (i.params strict).m ∧ Gen.C20.multGpu.eval T deg = some (i.params strict).m := by
  simp only [Input.params, h]
  exact multiplier_evaluates T deg

/-- **Greedy with Python's tie-break.** Every candidate is assigned, or shares its source or target
with an assigned pair that precedes it in the order `(dist, source, target)`. -/
theorem model_lex (sqrt : α → α) (i : Input α) (strict : Bool) :
    ∀ c ∈ i.cands sqrt strict, ∃ x ∈ measure sqrt i strict,
      (x.s = c.s ∨ x.t = c.t) ∧ (x = c ∨ LexLe x c) :=
  fun c hc => greedy_blocked LexLe _ (sortCands_pairwise _) c ((mem_sortCands _ c).2 hc)

/-- **Model theorem**: for every input (any number of points, any labelling, any parameters, either
direction, either ball test) the model's output satisfies the statement. -/
theorem model_spec (sqrt : α → α) (i : Input α) (strict : Bool) :
    Spec sqrt i strict (pairsOf (measure sqrt i strict)) := by
  have hsub : ∀ c ∈ measure sqrt i strict, c ∈ i.cands sqrt strict := greedy_sort_sub _
  refine (spec_iff_cands sqrt i strict _).2 ⟨fun p hp => ?_, oneToOne_map_pairs (greedy_oneToOne _), fun c hc => ?_⟩
  · obtain ⟨c, hc, rfl⟩ := List.mem_map.1 hp
    exact ⟨c, hsub c hc, rfl, rfl⟩
  · obtain ⟨x, hx, hshare, hle⟩ := model_lex sqrt i strict c hc
    exact ⟨x, hsub x hx, List.mem_map.2 ⟨x, hx, rfl⟩, hshare, hle.elim (fun e => e ▸ le_refl _) LexLe.d_le⟩

/-- the checker decides the statement: its three tests are the three clauses, over the candidate list -/
theorem check_iff (sqrt : α → α) (i : Input α) (strict : Bool) (out : List (Nat × Nat)) :
    check sqrt i strict out = true ↔ Spec sqrt i strict out := by
  rw [spec_iff_cands]
  simp only [check, checkAdm, checkGreedy, oneToOneB_iff, Bool.and_eq_true, List.all_eq_true, List.any_eq_true,
    Bool.or_eq_true, beq_iff_eq, Bool.not_eq_true', decide_eq_false_iff_not, not_lt, List.mem_filter,
    List.contains_iff_mem, and_assoc]

/-- **Checker theorem**: whatever pairing the real code reports, if `check` accepts it then it
satisfies the statement. -/
theorem check_sound (sqrt : α → α) (i : Input α) (strict : Bool) (out : List (Nat × Nat))
    (h : check sqrt i strict out = true) : Spec sqrt i strict out :=
  (check_iff sqrt i strict out).1 h

/-- **Checker completeness**: every pairing that satisfies the statement is accepted — `check` never rejects a
correct output (no spurious `spec` finding can come from the checker). -/
theorem check_complete (sqrt : α → α) (i : Input α) (strict : Bool) (out : List (Nat × Nat))
    (h : Spec sqrt i strict out) : check sqrt i strict out = true :=
  (check_iff sqrt i strict out).2 h

/-! #### the candidate buffer of 25 slots per source ("fewer than 25 candidates per source point")

`candsCapped` models what the kernels store: per source the first `cap` admissible targets in scan order.
`Input.maxRow` is the largest number of admissible targets any source has. -/

/-- **capped = uncapped.** If no source has more admissible targets than the buffer has slots, the buffer holds
exactly the candidate list and the GPU-path model `measureCapped` IS `measure`. -/
theorem capped_eq_uncapped (sqrt : α → α) (i : Input α) (strict : Bool) (cap : Nat)
    (h : i.maxRow sqrt strict ≤ cap) :
    i.candsCapped sqrt strict cap = i.cands sqrt strict ∧
    measureCapped sqrt i strict cap = measure sqrt i strict := by
  have e : i.candsCapped sqrt strict cap = i.cands sqrt strict :=
    candsCapped_eq sqrt (i.params strict) cap i.sources i.targets
      (fun a ha => Nat.le_trans (row_le_maxRow sqrt i strict a ha) h)
  exact ⟨e, by unfold measureCapped measure; rw [e]⟩

/-- in the words of the quantifier: with fewer than 25 candidates per source the buffer size the source uses
(`Gen.C20.capGpu`, `Gen.C20.capDefault`, both pinned to 25 by `gpu_flow_shape` / `cpu_flow_shape`) changes nothing,
and the pairing satisfies the statement -/
theorem fewer_than_25_candidates (sqrt : α → α) (i : Input α) (strict : Bool)
    (h : i.maxRow sqrt strict < 25) :
    measureCapped sqrt i strict Gen.C20.capGpu = measure sqrt i strict ∧
    measureCapped sqrt i strict Gen.C20.capDefault = measure sqrt i strict ∧
    Spec sqrt i strict (pairsOf (measureCapped sqrt i strict Gen.C20.capGpu)) := by
  have hm : measureCapped sqrt i strict 25 = measure sqrt i strict :=
    (capped_eq_uncapped sqrt i strict 25 (Nat.le_of_lt h)).2
  exact ⟨hm, hm, hm ▸ model_spec sqrt i strict⟩

/-- **above the cap** (outside the quantifier) the per-pair clauses still hold for the capped model: every pair
is an admissible (source, target) pair and the pairing is one-to-one; only the greedy clause can be lost,
because the buffer drops candidates by scan order, not by distance. -/
theorem capped_pairs_sound (sqrt : α → α) (i : Input α) (strict : Bool) (cap : Nat) :
    (∀ p ∈ pairsOf (measureCapped sqrt i strict cap), ∃ a ∈ i.sources, ∃ b ∈ i.targets,
      a.idx = p.1 ∧ b.idx = p.2 ∧ Adm sqrt (i.params strict) a b) ∧
    (pairsOf (measureCapped sqrt i strict cap)).Pairwise (fun x y => x.1 ≠ y.1 ∧ x.2 ≠ y.2) := by
  refine ⟨?_, oneToOne_map_pairs (greedy_oneToOne _)⟩
  intro p hp
  obtain ⟨c, hc, rfl⟩ := List.mem_map.1 hp
  have h2 := candsCapped_sub sqrt (i.params strict) cap i.sources i.targets c (greedy_sort_sub _ c hc)
  obtain ⟨a, ha, b, hb, hadm, rfl⟩ := (mem_cands_iff sqrt _ _ _ c).1 h2
  exact ⟨a, ha, b, hb, rfl, rfl, hadm⟩

/-- **the order in which candidates are produced does not matter** (the CPU path appends them in KD-tree order,
which is not specified): any permutation of the candidate list is sorted into the same list, hence assigned the
same pairs. -/
theorem measure_order_independent (sqrt : α → α) (i : Input α) (strict : Bool) (cs : List (Cand α))
    (h : cs.Perm (i.cands sqrt strict)) : greedy (sortCands cs) = measure sqrt i strict := by
  unfold measure; rw [sortCands_perm h]

/-! #### clauses of the statement, derived from `Spec` (hence valid for the model *and* for every
implementation output the checker accepts) -/

/-- no admissible pair of two unmatched points is left over -/
theorem no_leftover {sqrt : α → α} {i : Input α} {strict : Bool} {out : List (Nat × Nat)}
    (hS : Spec sqrt i strict out) (a b : Pt α) (ha : a ∈ i.sources) (hb : b ∈ i.targets)
    (hadm : Adm sqrt (i.params strict) a b) :
    (∃ p ∈ out, p.1 = a.idx) ∨ (∃ p ∈ out, p.2 = b.idx) := by
  obtain ⟨a', _, b', _, hin, _, hshare, _⟩ := hS.greedy a ha b hb hadm
  exact hshare.imp (fun h => ⟨_, hin, h⟩) (fun h => ⟨_, hin, h⟩)

/-- no matched source has a closer admissible unmatched target (points carry distinct identifiers) -/
theorem no_closer {sqrt : α → α} {i : Input α} {strict : Bool} {out : List (Nat × Nat)}
    (hS : Spec sqrt i strict out) (hid : i.pts.Pairwise (fun x y => x.idx ≠ y.idx))
    (a b b' : Pt α) (ha : a ∈ i.sources) (hb : b ∈ i.targets) (hb' : b' ∈ i.targets)
    (hpair : (a.idx, b'.idx) ∈ out) (hadm : Adm sqrt (i.params strict) a b)
    (hfree : ∀ p ∈ out, p.2 ≠ b.idx) :
    dist sqrt a.p b'.p ≤ dist sqrt a.p b.p := by
  obtain ⟨a'', ha'', b'', hb'', hin, _, hshare, hle⟩ := hS.greedy a ha b hb hadm
  rcases hshare with h | h
  · have e := pair_unique_of_src hS.oneToOne hin hpair h
    have ea : a'' = a := Lists.eq_of_pairwise_ne Pt.idx hid (List.mem_filter.1 ha'').1 (List.mem_filter.1 ha).1 h
    have eb : b'' = b' := Lists.eq_of_pairwise_ne Pt.idx hid (List.mem_filter.1 hb'').1 (List.mem_filter.1 hb').1
      (congrArg Prod.snd e)
    rw [ea, eb] at hle; exact hle
  · exact absurd h (hfree _ hin)

/-- each source is paired with at most one target, and no target is used twice -/
theorem at_most_one {sqrt : α → α} {i : Input α} {strict : Bool} {out : List (Nat × Nat)}
    (hS : Spec sqrt i strict out) (p q : Nat × Nat) (hp : p ∈ out) (hq : q ∈ out) :
    (p.1 = q.1 → p = q) ∧ (p.2 = q.2 → p = q) :=
  ⟨pair_unique_of_src hS.oneToOne hp hq, pair_unique_of_tgt hS.oneToOne hp hq⟩

theorem Spec.of_adm {sqrt : α → α} {i : Input α} {strict : Bool} {out : List (Nat × Nat)}
    (hS : Spec sqrt i strict out) (Q : Pt α → Pt α → Prop) (hQ : ∀ a b, Adm sqrt (i.params strict) a b → Q a b)
    (p : Nat × Nat) (hp : p ∈ out) : ∃ a ∈ i.sources, ∃ b ∈ i.targets, a.idx = p.1 ∧ b.idx = p.2 ∧ Q a b :=
  let ⟨a, ha, b, hb, e1, e2, hadm⟩ := hS.admissible p hp
  ⟨a, ha, b, hb, e1, e2, hQ a b hadm⟩

/-- a pair's thickness (distance × voxel size) does not exceed the maximum thickness, and the target
lies ahead of the source along the source normal -/
theorem within_range_and_forward {sqrt : α → α} {i : Input α} {strict : Bool} {out : List (Nat × Nat)}
    (hS : Spec sqrt i strict out) (hv : 0 < i.voxel) (p : Nat × Nat) (hp : p ∈ out) :
    ∃ a ∈ i.sources, ∃ b ∈ i.targets, a.idx = p.1 ∧ b.idx = p.2 ∧
      dist sqrt a.p b.p * i.voxel ≤ i.maxNm ∧ 0 < proj a.p b.p a.n := by
  exact hS.of_adm _ (fun _ _ h => ⟨(le_div_iff₀ hv).1 h.dist_le, h.2.1⟩) p hp

/-- **Cone (exactly unit normals; for float normals with `n·n ≈ 1` see `in_cone_approx`).** `c`, `t` are the cosine and the tangent of `max_angle` (abstractly: `c > 0`,
`c²(1+t²) = 1`), `i.tanT = t`. For a unit source normal every reported pair satisfies
`proj > c · dist`: the angle between (target − source) and the normal is smaller than `max_angle`. -/
theorem in_cone {sqrt : α → α} {i : Input α} {strict : Bool} {out : List (Nat × Nat)}
    (hS : Spec sqrt i strict out) (c : α) (hc : 0 < c) (hct : c * c * (1 + i.tanT * i.tanT) = 1)
    (hsq0 : ∀ x, 0 ≤ sqrt x) (hsq : ∀ x, 0 ≤ x → sqrt x * sqrt x = x)
    (p : Nat × Nat) (hp : p ∈ out) :
    ∃ a ∈ i.sources, ∃ b ∈ i.targets, a.idx = p.1 ∧ b.idx = p.2 ∧
      (V3.dot a.n a.n = 1 → c * dist sqrt a.p b.p < proj a.p b.p a.n) := by
  exact hS.of_adm _ (fun a b h hn =>
    (cone_iff_dist sqrt a.p b.p a.n c i.tanT hn hc hct (hsq0 _) (hsq _ (d2_nonneg _ _))).1 h.2) p hp

/-- **Cone, for a normal that is only approximately of unit length** (what float data gives: `in_cone` above asks for
`n·n = 1` EXACTLY, which noisy float normals do not satisfy — for them this is the applicable statement). If the source
normal satisfies `n·n ≥ 1 − ε`, every reported pair satisfies `proj > 0` and `c²·dist² < proj²·(1 + c²·ε)` where
`proj = (target − source)·n`: inside the cone up to a relative widening `c²·ε` of `proj²` (`ε = 0`: the exact cone of
`cone_iff`). No hypothesis on the square root. -/
theorem in_cone_approx {sqrt : α → α} {i : Input α} {strict : Bool} {out : List (Nat × Nat)}
    (hS : Spec sqrt i strict out) (c ε : α) (hc : 0 < c) (hct : c * c * (1 + i.tanT * i.tanT) = 1)
    (p : Nat × Nat) (hp : p ∈ out) :
    ∃ a ∈ i.sources, ∃ b ∈ i.targets, a.idx = p.1 ∧ b.idx = p.2 ∧ 0 < proj a.p b.p a.n ∧
      (1 - ε ≤ V3.dot a.n a.n →
        c * c * d2 a.p b.p < proj a.p b.p a.n * proj a.p b.p a.n * (1 + c * c * ε)) := by
  exact hS.of_adm _ (fun a b h => ⟨h.2.1, fun hn => cone_approx a.p b.p a.n c i.tanT ε hc hct hn h.2.2⟩) p hp

/-- **Cone criterion of the admissibility test itself** (both directions): with multiplier `t²`, for
a unit normal, accepted ⇔ `proj > 0 ∧ proj² > c²·dist²` — i.e. strictly inside the cone of half-angle
`θ` with `cos θ = c`, `tan θ = t`; nothing outside the cone is accepted and nothing inside is refused. -/
theorem cone_iff (u v n : V3 α) (c t : α) (hn : V3.dot n n = 1) (hc : 0 < c) (hct : c * c * (1 + t * t) = 1) :
    inCone (t * t) u v n = true ↔ (0 < proj u v n ∧ c * c * d2 u v < proj u v n * proj u v n) := by
  rw [← cone_iff_sq u v n c t hn hc hct]
  simp [inCone]

/-- **Rigid motion.** Moving all points by `x ↦ Q x + b` and all normals by `n ↦ Q n` with `Q`
orthogonal leaves the assigned pairs and their distances (hence thicknesses) unchanged. -/
theorem measure_move (sqrt : α → α) (i : Input α) (strict : Bool) (q : M3 α) (b : V3 α) (hq : q.Orth) :
    measure sqrt (i.move q b) strict = measure sqrt i strict := by
  have hd : ∀ x y : Pt α, dist sqrt (Pt.move q b x).p (Pt.move q b y).p = dist sqrt x.p y.p :=
    fun x y => congrArg sqrt (d2_move hq b x.p y.p)
  refine congrArg (fun cs => greedy (sortCands cs)) (Input.cands_map sqrt i (i.move q b) strict (Pt.move q b) rfl
    (fun _ => rfl) (fun _ => rfl) (fun _ => rfl) hd fun x y => ?_)
  unfold adm inCone
  rw [hd]
  simp only [Pt.move, proj_move hq, lat2_move hq]
  rfl

/-- **Voxel size.** Expressing the same data with voxel size `k·v` (and the maximum thickness in the
same rescaled unit) gives the same pairs, and every thickness is multiplied by `k`. -/
theorem measure_rescale (sqrt : α → α) (i : Input α) (strict : Bool) (k : α) (hk : k ≠ 0) :
    measure sqrt (i.rescale k) strict = measure sqrt i strict ∧
    ∀ c, thickness (i.rescale k) c = k * thickness i c := by
  constructor
  · unfold measure Input.cands
    have : (i.rescale k).params strict = i.params strict := by
      simp only [Input.params, Input.rescale, mul_div_mul_left _ _ hk]
    rw [this]; rfl
  · intro c; simp only [thickness, Input.rescale]; ring

/-- **What "scales with the voxel size" means, and what it does not.** `measure_rescale` above is an invariance
under a change of UNIT: the same data expressed with another voxel size AND the maximum thickness expressed in the same
rescaled unit (weaker than an unconditional reading of the statement). At a FIXED physical maximum
`max_thickness_nm` the pairing is in general NOT invariant, because the search radius
`max_thickness_nm / voxel_size` changes with the voxel size. What holds then, exactly:
(1) `cands_at_larger_voxel_iff`: at voxel size `k·v`, `k ≥ 1`, the candidates are precisely the candidates at `v`
    whose distance passes the smaller radius `max_thickness_nm / (k·v)` — candidates are only removed, never added or
    changed (`cands_of_larger_voxel` is the inclusion);
(2) `thickness_at_other_voxel`: a pair kept by both runs has the same distance in voxels, so its thickness is
    multiplied by `k`; `thickness_scales` is the same fact for two arbitrary voxel sizes (a one-line ring identity
    about `thickness c = c.d · voxel`, recorded as such — not a theorem about the pairing).
The correspondence run executes the real code at a second voxel size with the same `max_thickness_nm`
(stream `kv`) and judges it as an input of its own. -/
theorem thickness_scales (i j : Input α) (c : Cand α) :
    thickness j c * i.voxel = thickness i c * j.voxel :=
  mul_right_comm c.d j.voxel i.voxel

theorem thickness_at_other_voxel (i : Input α) (k : α) (c : Cand α) :
    thickness ({ i with voxel := k * i.voxel } : Input α) c = k * thickness i c :=
  mul_left_comm c.d k i.voxel

theorem cands_at_larger_voxel_iff (sqrt : α → α) (i : Input α) (strict : Bool) (k : α) (hk : 1 ≤ k)
    (hv : 0 < i.voxel) (hm : 0 ≤ i.maxNm) (c : Cand α) :
    c ∈ ({ i with voxel := k * i.voxel } : Input α).cands sqrt strict ↔
      (c ∈ i.cands sqrt strict ∧
        (if strict then c.d < i.maxNm / (k * i.voxel) else c.d ≤ i.maxNm / (k * i.voxel))) := by
  -- the voxel size enters the candidates through the radius `maxNm / voxel` only, and the radius gets smaller
  have hle : i.maxNm / (k * i.voxel) ≤ i.maxNm / i.voxel :=
    div_le_div_of_nonneg_left hm hv (le_mul_of_one_le_left hv.le hk)
  exact mem_cands_smaller_r sqrt (i.params strict) _ hle i.sources i.targets c

theorem cands_of_larger_voxel (sqrt : α → α) (i : Input α) (strict : Bool) (k : α) (hk : 1 ≤ k)
    (hv : 0 < i.voxel) (hm : 0 ≤ i.maxNm) :
    ∀ c ∈ ({ i with voxel := k * i.voxel } : Input α).cands sqrt strict, c ∈ i.cands sqrt strict :=
  fun c hc => ((cands_at_larger_voxel_iff sqrt i strict k hk hv hm c).1 hc).1

/-- **Direction.** `'2to1'` is `'1to2'` with the roles of the two surfaces exchanged. -/
theorem direction_swap (sqrt : α → α) (i : Input α) (strict : Bool) :
    measure sqrt { i with rev := true } strict
      = measure sqrt { i.swapSurfaces with rev := false } strict :=
  congrArg (fun cs => greedy (sortCands cs)) (Input.cands_map sqrt { i with rev := true }
    { i.swapSurfaces with rev := false } strict Pt.swap rfl (fun _ => rfl) (fun _ => rfl) (fun _ => rfl)
    (fun _ _ => rfl) (fun _ _ => rfl)).symm

end spec

/-- the abstract half-angle `(c, t)` of the cone theorems is realised by `(cos θ, tan θ)` -/
theorem real_angle (θ : ℝ) (h0 : 0 < θ) (h1 : θ < Real.pi / 2) :
    0 < Real.cos θ ∧ Real.cos θ * Real.cos θ * (1 + Real.tan θ * Real.tan θ) = 1 := by
  have hc : 0 < Real.cos θ := Real.cos_pos_of_mem_Ioo ⟨by linarith [Real.pi_pos], h1⟩
  refine ⟨hc, ?_⟩
  rw [← sq, ← sq, ← Real.inv_one_add_tan_sq hc.ne']
  exact inv_mul_cancel₀ (add_pos_of_pos_of_nonneg one_pos (sq_nonneg _)).ne'

/-- **Cone, over the reals** (hypothesis `n·n = 1` exact, as in `in_cone`; `in_cone_real_approx` drops it). With the real square root and `tanT = tan θ` for a half-angle
`0 < θ < π/2` (`max_angle` in radians), every reported pair whose source normal has length 1 satisfies
`cos θ · ‖target − source‖ < (target − source)·normal`: the angle between the connecting vector and
the normal is smaller than `θ`. -/
theorem in_cone_real {i : Input ℝ} {strict : Bool} {out : List (Nat × Nat)} (θ : ℝ) (h0 : 0 < θ) (h1 : θ < Real.pi / 2)
    (htan : i.tanT = Real.tan θ) (hS : Spec Real.sqrt i strict out) (p : Nat × Nat) (hp : p ∈ out) :
    ∃ a ∈ i.sources, ∃ b ∈ i.targets, a.idx = p.1 ∧ b.idx = p.2 ∧
      (V3.dot a.n a.n = 1 → Real.cos θ * dist Real.sqrt a.p b.p < proj a.p b.p a.n) := by
  obtain ⟨hc, hct⟩ := real_angle θ h0 h1
  exact in_cone hS (Real.cos θ) hc (htan ▸ hct) Real.sqrt_nonneg (fun _ => Real.mul_self_sqrt) p hp

/-- the real instance of `in_cone_approx`: `tanT = tan θ`, `0 < θ < π/2`, normal with `n·n ≥ 1 − ε` -/
theorem in_cone_real_approx {i : Input ℝ} {strict : Bool} {out : List (Nat × Nat)} (θ ε : ℝ) (h0 : 0 < θ)
    (h1 : θ < Real.pi / 2) (htan : i.tanT = Real.tan θ) (hS : Spec Real.sqrt i strict out) (p : Nat × Nat) (hp : p ∈ out) :
    ∃ a ∈ i.sources, ∃ b ∈ i.targets, a.idx = p.1 ∧ b.idx = p.2 ∧ 0 < proj a.p b.p a.n ∧
      (1 - ε ≤ V3.dot a.n a.n → Real.cos θ * Real.cos θ * d2 a.p b.p
        < proj a.p b.p a.n * proj a.p b.p a.n * (1 + Real.cos θ * Real.cos θ * ε)) := by
  obtain ⟨hc, hct⟩ := real_angle θ h0 h1
  exact in_cone_approx hS (Real.cos θ) ε hc (htan ▸ hct) p hp

/-! ### regression witness (defect D17, repaired by `fix:` df49b17) -/

/-- With `cos θ` as multiplier (the code before the repair) the test accepts a target 38.7° off the
normal at a half-angle of 12.7° (`cos θ = 40/41`, `tan θ = 9/40`), which the cone criterion refuses. -/
theorem cone_counterexample :
    let u : V3 Rat := ⟨0, 0, 0⟩
    let v : V3 Rat := ⟨4/5, 0, 1⟩
    let n : V3 Rat := ⟨0, 0, 1⟩
    let c : Rat := 40/41
    let t : Rat := 9/40
    c * c * (1 + t * t) = 1 ∧ V3.dot n n = 1 ∧
    inCone c u v n = true ∧ inCone (t * t) u v n = false ∧
    ¬ (c * c * d2 u v < proj u v n * proj u v n) := by
  decide +kernel

/-! ### non-vacuity: the hypotheses used above are satisfiable by non-trivial data -/

/-- an orthogonal matrix that is not the identity -/
example : (rz (3/5 : Rat) (4/5)).Orth := rz_orth _ _ (by decide +kernel)
/-- an abstract angle: `cos = 4/5`, `tan = 3/4` -/
example : (0 : Rat) < 4/5 ∧ (4/5 : Rat) * (4/5) * (1 + (3/4) * (3/4)) = 1 := by decide +kernel
/-- a normal that is NOT of unit length but within `ε = 1/100` (hypothesis of `in_cone_approx`) -/
example : (1 : Rat) - 1/100 ≤ V3.dot (⟨3/5, 0, 399/500⟩ : V3 Rat) ⟨3/5, 0, 399/500⟩ := by decide +kernel
/-- a unit normal that is not an axis -/
example : V3.dot (⟨3/5, 0, 4/5⟩ : V3 Rat) ⟨3/5, 0, 4/5⟩ = 1 := by decide +kernel

/-- a concrete input on which the model assigns two pairs and refuses a third candidate: sources 0, 1;
targets 2, 3, 4 (integer distances 3, 5, 12 so that `sqrt` can be a table) -/
def exSqrt (x : Rat) : Rat := if x = 9 then 3 else if x = 16 then 4 else if x = 25 then 5 else if x = 144 then 12 else x
def exInput : Input Rat :=
  { pts := [⟨0, ⟨0,0,0⟩, ⟨0,0,1⟩, true, false⟩, ⟨1, ⟨10,0,0⟩, ⟨0,0,1⟩, true, false⟩,
            ⟨2, ⟨0,0,3⟩, ⟨0,0,-1⟩, false, true⟩, ⟨3, ⟨10,0,12⟩, ⟨0,0,-1⟩, false, true⟩,
            ⟨4, ⟨0,0,5⟩, ⟨0,0,-1⟩, false, true⟩],
    voxel := 2, maxNm := 30, tanT := 1/4, rev := false }
theorem exInput_cands : exInput.cands exSqrt false = [⟨3, 0, 2⟩, ⟨5, 0, 4⟩, ⟨12, 1, 3⟩] := by decide +kernel
example : measure exSqrt exInput false = [⟨3, 0, 2⟩, ⟨12, 1, 3⟩] := by
  unfold measure sortCands
  rw [exInput_cands, List.mergeSort_of_pairwise (by decide +kernel)]
  decide +kernel
example : (exInput.cands exSqrt false).length = 3 := by rw [exInput_cands]; rfl
example : check exSqrt exInput false [(1, 3), (0, 2)] = true := by decide +kernel
example : check exSqrt exInput false [(0, 4), (1, 3)] = false := by decide +kernel
example : exInput.pts.Pairwise (fun x y => x.idx ≠ y.idx) := by decide +kernel
example : (0 : Rat) < exInput.voxel := by decide +kernel
/-- hypotheses of `cands_of_larger_voxel`, and the inclusion is strict on this input: at voxel size 4 (radius 7.5)
the pair at distance 12 is no candidate any more -/
example : (1 : Rat) ≤ 2 ∧ (0 : Rat) < exInput.voxel ∧ (0 : Rat) ≤ exInput.maxNm := by decide +kernel
example : (({ exInput with voxel := 2 * exInput.voxel } : Input Rat).cands exSqrt false).length = 2 := by decide +kernel

/-- hypotheses of `capped_eq_uncapped` / `fewer_than_25_candidates` on the example: at most 2 admissible targets per source -/
example : exInput.maxRow exSqrt false = 2 := by decide +kernel
example : exInput.candsCapped exSqrt false 25 = exInput.cands exSqrt false := by decide +kernel
/-- a permutation of the candidate list (hypothesis of `measure_order_independent`) that is not the list itself -/
example : ([⟨12, 1, 3⟩, ⟨3, 0, 2⟩, ⟨5, 0, 4⟩] : List (Cand Rat)).Perm (exInput.cands exSqrt false) := by
  rw [exInput_cands]; decide
/-- an output satisfying the statement (hypothesis of `check_complete`): the model's own, by `model_spec` -/
example : Spec exSqrt exInput false (pairsOf (measure exSqrt exInput false)) := model_spec _ _ _

/-! ### why the quantifier says "fewer than 25 candidates per source": witness above the cap -/

/-- one source, two admissible targets; the FARTHER one (distance 5) comes first in scan order -/
def capInput : Input Rat :=
  { pts := [⟨0, ⟨0,0,0⟩, ⟨0,0,1⟩, true, false⟩, ⟨1, ⟨0,0,5⟩, ⟨0,0,-1⟩, false, true⟩,
            ⟨2, ⟨0,0,3⟩, ⟨0,0,-1⟩, false, true⟩],
    voxel := 2, maxNm := 30, tanT := 1/4, rev := false }

/-- With a buffer of ONE slot per source (2 admissible targets > 1 slot) the capped model keeps the first target in
scan order, at distance 5, although the target at distance 3 is admissible and free: its output violates the greedy
clause of the statement. So above the cap the statement does not hold for the code as written — the quantifier's
"fewer than 25 candidates per source" is necessary, not a convenience. -/
theorem cap_counterexample :
    capInput.maxRow exSqrt false = 2 ∧
    measureCapped exSqrt capInput false 1 = [⟨5, 0, 1⟩] ∧
    ¬ Spec exSqrt capInput false (pairsOf (measureCapped exSqrt capInput false 1)) := by
  have h : capInput.candsCapped exSqrt false 1 = [⟨5, 0, 1⟩] := by decide +kernel
  have hm : measureCapped exSqrt capInput false 1 = [⟨5, 0, 1⟩] := by
    unfold measureCapped sortCands
    rw [h, List.mergeSort_of_pairwise (by simp)]
    decide +kernel
  refine ⟨by decide +kernel, hm, ?_⟩
  rw [hm]
  intro hS
  have hc := check_complete exSqrt capInput false _ hS
  revert hc
  decide +kernel

end CryoCat.C20
