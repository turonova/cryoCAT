import CryoCat.Model.C05
import CryoCat.Lemmas.C05
import CryoCat.Lemmas.C05_Real
import CryoCat.Lemmas.C05_History
import CryoCat.Lemmas.List
/-! C05 — pose bookkeeping: property theorems (only theorems and non-vacuity examples).

`S : Svc α` bundles the numeric services the code takes from scipy / decimal (cos/sin in degrees,
`as_euler`, rounding). What is assumed about them is always an explicit hypothesis:
`CsOdd S` (cos even, sin odd — used by `flip_handedness` only), `EulerOK S m` (the triple `as_euler`
returns for the ONE matrix `m` reproduces it — used by `apply_rotation` only) and, for the bound
|shift| ≤ 1/2, that `S.rnd` is within 1/2 of its argument (proved for `roundHalfUp`). -/
namespace CryoCat.C05
open CryoCat
set_option linter.unusedSectionVars false

/-! ### translator obligations: the anchored source expressions are the documented ones -/

theorem anchors_ok : Gen.C05.anchorsOk = true := rfl

/-- `get_coordinates` adds the shift columns to x, y, z -/
theorem coordinates_are_x_plus_shift :
    Gen.C05.coordColumns = ["x", "y", "z"] ∧ Gen.C05.shiftColumns = ["shift_x", "shift_y", "shift_z"] := ⟨rfl, rfl⟩

/-- `update_coordinates` rounds x+shift_x, y+shift_y, z+shift_z, each with ROUND_HALF_UP … -/
theorem update_rounds_half_up :
    Gen.C05.updateRounded = [("x", "x", "shift_x", "ROUND_HALF_UP"), ("y", "y", "shift_y", "ROUND_HALF_UP"),
                             ("z", "z", "shift_z", "ROUND_HALF_UP")] := rfl

/-- … and stores (sum − new coordinate) as the new shift -/
theorem update_keeps_residual :
    Gen.C05.updateResidual = [("shift_x", "x", "shift_x", "x", true), ("shift_y", "y", "shift_y", "y", true),
                              ("shift_z", "z", "shift_z", "z", true)] := rfl

theorem scale_columns : Gen.C05.scaleCoords = ["x", "y", "z"] ∧ Gen.C05.scaleShiftPrefix = "shift_" := ⟨rfl, rfl⟩

/-- every Euler conversion is extrinsic "zxz" in degrees -/
theorem euler_convention :
    Gen.C05.eulerCalls = [("apply_rotation.from_euler", "zxz", "degrees"), ("apply_rotation.as_euler", "zxz", "degrees"),
                          ("shift_positions.from_euler", "zxz", "degrees"), ("get_rotations.from_euler", "zxz", "degrees")] := rfl

theorem angle_columns : Gen.C05.angleColumns = List.replicate 5 ["phi", "theta", "psi"] := rfl

/-- `apply_rotation` forms `from_euler(angles) * rotation` -/
theorem rotation_on_right : Gen.C05.rotationOnRight = true := rfl

theorem shift_targets : Gen.C05.shiftTargets = [("shift_x", 0), ("shift_y", 1), ("shift_z", 2)] := rfl

/-- `flip_handedness`: theta negated; in both branches z_dim = dim_z + 1, z ↦ z_dim − z, shift_z ↦ −shift_z -/
theorem flip_source_form :
    Gen.C05.flipOffset = 1 ∧ Gen.C05.flipNegatesTheta = true ∧ Gen.C05.flipMirrorBranches = 2 ∧
    Gen.C05.flipShiftBranches = 2 := ⟨rfl, rfl, rfl, rfl⟩

/-- with dimensions, `flip_handedness` converts the z column to floating point exactly once, before either mirror branch
(the mirrored coordinate is a float; a `.loc[…, "z"] = floats` assignment into an integer-typed column raises under pandas 3) -/
theorem flip_makes_z_float : Gen.C05.flipFloatCasts = 1 := rfl

/-- names and default values of the parameters of every function the adapter calls: `shift_positions(shift, inplace=True)`,
`flip_handedness(tomo_dimensions=None)`, `get_coordinates/get_angles/get_rotations(tomo_number=None)`,
`dimensions_load(input_dims, tomo_idx=None)` — the correspondence run omits these keywords in a share of its calls -/
theorem signatures_documented : Gen.C05.signatures =
    [("Motl.get_coordinates", "tomo_number", "None"), ("Motl.get_angles", "tomo_number", "None"),
     ("Motl.get_rotations", "tomo_number", "None"), ("Motl.update_coordinates", "", ""),
     ("Motl.scale_coordinates", "scaling_factor", ""), ("Motl.shift_positions", "shift", ""),
     ("Motl.shift_positions", "inplace", "True"), ("Motl.apply_rotation", "rotation", ""),
     ("Motl.flip_handedness", "tomo_dimensions", "None"), ("dimensions_load", "input_dims", ""),
     ("dimensions_load", "tomo_idx", "None"), ("imod_com_read", "filename", "")] := rfl

/-! whole bodies of the anchored functions in canonical form (anchors, not clauses of the statement): docstrings, decorators and
type annotations dropped, the texts of exception / warning messages replaced by `<message>`, `not (a is None)` written
`a is not None`, local names replaced by v0, v1, … in the order of their first binding occurrence in the source. An added early
return, a hoisted statement, a swapped branch changes these; renaming a local, adding a type hint or rewording a message does not. -/
/-- `get_coordinates`: x y z values + shift values, for all particles or those of one tomogram -/
theorem get_coordinates_body_documented : Gen.C05.getCoordinatesBody = [
  "def get_coordinates(self, v0=None):",
  "    if v0 is None:",
  "        v1 = self.df.loc[:, ['x', 'y', 'z']].values + self.df.loc[:, ['shift_x', 'shift_y', 'shift_z']].values",
  "    else:",
  "        v1 = self.df.loc[self.df.loc[:, 'tomo_id'] == v0, ['x', 'y', 'z']].values + self.df.loc[self.df.loc[:, 'tomo_id'] == v0, ['shift_x', 'shift_y', 'shift_z']].values",
  "    return v1"] := rfl

/-- `get_angles`: the phi, theta, psi columns, for all particles or those of one tomogram -/
theorem get_angles_body_documented : Gen.C05.getAnglesBody = [
  "def get_angles(self, v0=None):",
  "    if v0 is None:",
  "        v1 = self.df.loc[:, ['phi', 'theta', 'psi']].values",
  "    else:",
  "        v1 = self.df.loc[self.df.loc[:, 'tomo_id'] == v0, ['phi', 'theta', 'psi']].values",
  "    return np.atleast_2d(v1)"] := rfl

/-- `get_rotations`: from_euler("zxz", get_angles, degrees) (empty list for an empty selection) -/
theorem get_rotations_body_documented : Gen.C05.getRotationsBody = [
  "def get_rotations(self, v0=None):",
  "    v1 = self.get_angles(v0)",
  "    if v1.shape[0] == 0:",
  "        return []",
  "    v2 = rot.from_euler('zxz', v1, degrees=True)",
  "    return v2"] := rfl

/-- `update_coordinates`: the whole body (no early return, no extra statement) -/
theorem update_body_documented : Gen.C05.updateBody = [
  "def update_coordinates(self):",
  "    def v0(v1):",
  "        v2 = v1.copy()",
  "        v3 = v1['x'] + v1['shift_x']",
  "        v4 = v1['y'] + v1['shift_y']",
  "        v5 = v1['z'] + v1['shift_z']",
  "        v2['x'] = float(decimal.Decimal(float(v3)).to_integral_value(rounding=decimal.ROUND_HALF_UP))",
  "        v2['y'] = float(decimal.Decimal(float(v4)).to_integral_value(rounding=decimal.ROUND_HALF_UP))",
  "        v2['z'] = float(decimal.Decimal(float(v5)).to_integral_value(rounding=decimal.ROUND_HALF_UP))",
  "        v2['shift_x'] = v3 - v2['x']",
  "        v2['shift_y'] = v4 - v2['y']",
  "        v2['shift_z'] = v5 - v2['z']",
  "        return v2",
  "    self.df = self.df.apply(v0, axis=1)",
  "    warnings.warn('<message>')"] := rfl

theorem scale_body_documented : Gen.C05.scaleBody = [
  "def scale_coordinates(self, v0):",
  "    for v1 in ('x', 'y', 'z'):",
  "        self.df[v1] = self.df[v1] * v0",
  "        v2 = 'shift_' + v1",
  "        self.df[v2] = self.df[v2] * v0"] := rfl

/-- `shift_positions`: the whole body — row function (row made floating point first), both entry points, index reset -/
theorem shift_body_documented : Gen.C05.shiftBody = [
  "def shift_positions(self, v0, v1=True):",
  "    def v2(v3):",
  "        v3 = v3.astype(float)",
  "        v4 = np.array(v0)",
  "        v5 = np.array([[v3['phi'], v3['theta'], v3['psi']]])",
  "        v6 = rot.from_euler(seq='zxz', angles=v5, degrees=True)",
  "        v7 = v6.apply(v4)",
  "        v3['shift_x'] = v3['shift_x'] + v7[0][0]",
  "        v3['shift_y'] = v3['shift_y'] + v7[0][1]",
  "        v3['shift_z'] = v3['shift_z'] + v7[0][2]",
  "        return v3",
  "    if v1:",
  "        self.df = self.df.apply(v2, axis=1).reset_index(drop=True)",
  "    else:",
  "        v8 = copy.deepcopy(self)",
  "        v8.df = v8.df.apply(v2, axis=1).reset_index(drop=True)",
  "        return v8"] := rfl

/-- `apply_rotation`: the whole body; the three angle columns are assigned as a whole (integer-typed columns become float) -/
theorem rotate_body_documented : Gen.C05.rotateBody = [
  "def apply_rotation(self, v0):",
  "    if not isinstance(v0, rot):",
  "        raise ValueError('<message>')",
  "    v1 = self.df.loc[:, ['phi', 'theta', 'psi']].to_numpy()",
  "    v2 = rot.from_euler('zxz', v1, degrees=True)",
  "    v3 = v2 * v0",
  "    v1 = v3.as_euler('zxz', degrees=True)",
  "    self.df[['phi', 'theta', 'psi']] = v1"] := rfl

/-- `flip_handedness`: the whole body — theta, z made floating point, then per branch mirror plane, z and shift_z -/
theorem flip_body_documented : Gen.C05.flipBody = [
  "def flip_handedness(self, v0=None):",
  "    self.df.loc[:, 'theta'] = -self.df.loc[:, 'theta']",
  "    if v0 is not None:",
  "        v1 = ioutils.dimensions_load(v0)",
  "        self.df['z'] = self.df['z'].astype(float)",
  "        if v1.shape == (1, 3):",
  "            v2 = float(v1['z'].iloc[0]) + 1",
  "            self.df.loc[:, 'z'] = v2 - self.df.loc[:, 'z']",
  "            self.df.loc[:, 'shift_z'] = -self.df.loc[:, 'shift_z']",
  "        else:",
  "            v3 = v1['tomo_id'].unique()",
  "            for v4 in v3:",
  "                v2 = float(v1.loc[v1['tomo_id'] == v4, 'z'].iloc[0]) + 1",
  "                self.df.loc[self.df['tomo_id'] == v4, 'z'] = v2 - self.df.loc[self.df['tomo_id'] == v4, 'z']",
  "                self.df.loc[self.df['tomo_id'] == v4, 'shift_z'] = -self.df.loc[self.df['tomo_id'] == v4, 'shift_z']"] := rfl

/-- `ioutils.dimensions_load`: every input form (DataFrame as is, .com, text file, any array-like through np.asarray) and the column naming -/
theorem dimensions_load_body_documented : Gen.C05.dimensionsLoadBody = [
  "def dimensions_load(v0, v1=None):",
  "    if isinstance(v0, pd.DataFrame):",
  "        v2 = v0",
  "    elif isinstance(v0, str):",
  "        if v0.endswith('.com'):",
  "            v3 = imod_com_read(v0)",
  "            v2 = np.zeros((1, 3))",
  "            v2[0, 0:2] = v3['FULLIMAGE']",
  "            v2[0, 2] = v3['THICKNESS'][0]",
  "            v2 = pd.DataFrame(v2)",
  "        elif os.path.isfile(v0):",
  "            v2 = pd.read_csv(v0, sep='\\\\s+', header=None, dtype=float)",
  "        else:",
  "            raise ValueError('<message>')",
  "    else:",
  "        v0 = np.asarray(v0)",
  "        if v0.ndim == 1:",
  "            v0 = np.reshape(v0, (1, v0.shape[0]))",
  "        v2 = pd.DataFrame(v0)",
  "    if v2.shape == (1, 3):",
  "        v2.columns = ['x', 'y', 'z']",
  "    elif v2.shape[1] == 4:",
  "        v2.columns = ['tomo_id', 'x', 'y', 'z']",
  "    else:",
  "        raise ValueError('<message>')",
  "    if v1 is not None:",
  "        v4 = tlt_load(v1).astype(int)",
  "        if 'tomo_id' not in v2.columns:",
  "            v5 = np.repeat(v2[['x', 'y', 'z']].values, len(v4), axis=0)",
  "            v2 = pd.DataFrame(v5, columns=['x', 'y', 'z'])",
  "            v2['tomo_id'] = v4",
  "    return v2"] := rfl

/-- `ioutils.imod_com_read` (the .com path of `dimensions_load`): comment / command lines skipped, first word = key, numbers typed -/
theorem imod_com_read_body_documented : Gen.C05.imodComReadBody = [
  "def imod_com_read(v0):",
  "    v1 = {}",
  "    with open(v0, 'r') as v2:",
  "        for v3 in v2:",
  "            if v3.startswith('#') or v3.startswith('$'):",
  "                continue",
  "            v4 = v3.split()",
  "            v5 = v4[0]",
  "            v6 = [int(v7) if v7.isdigit() else float(v7) if is_float(v7) else v7 for v7 in v4[1:]]",
  "            v1[v5] = v6",
  "    return v1"] := rfl

section ring
variable {α : Type} [CommRing α] [DecidableEq α] (S : Svc α)

theorem update_pos (p : Particle α) : pos (updateP S p) = pos p := by
  simp only [pos, updateP, add_sub_cancel]

theorem update_pose (p : Particle α) : absPose S (updateP S p) = absPose S p := by
  simp only [absPose, update_pos]; rfl

theorem update_idem (p : Particle α) : updateP S (updateP S p) = updateP S p := by
  simp only [updateP, add_sub_cancel]

end ring

section ordered
variable {α : Type} [_root_.Field α] [LinearOrder α] [IsStrictOrderedRing α] (S : Svc α)

/-- the clause for any rounding that stays within 1/2 of its argument: complete position unchanged, x y z integers (the
rounded values themselves), |shift| ≤ 1/2 (the shifts are the rounding residuals) -/
theorem update_clause (hr : ∀ v : α, |v - ((S.rnd v : Int) : α)| ≤ 1/2) (p : Particle α) :
    pos (updateP S p) = pos p ∧
    (∃ i j k : Int, (updateP S p).x = (i : α) ∧ (updateP S p).y = (j : α) ∧ (updateP S p).z = (k : α)) ∧
    |(updateP S p).shift_x| ≤ 1/2 ∧ |(updateP S p).shift_y| ≤ 1/2 ∧ |(updateP S p).shift_z| ≤ 1/2 :=
  ⟨update_pos S p, ⟨_, _, _, rfl, rfl, rfl⟩, hr _, hr _, hr _⟩

end ordered

/-- ROUND_HALF_UP (half away from zero) stays within 1/2: both signs, ties included -/
theorem roundHalfUp_within_half (q : Rat) : |q - (roundHalfUp q : Rat)| ≤ 1/2 :=
  roundHalfUp_eq q ▸ Round.abs_sub_roundAway q

theorem roundHalfUp_ties (n : Int) (hn : 0 ≤ n) :
    roundHalfUp ((n : Rat) + 1/2) = n + 1 ∧ roundHalfUp (-((n : Rat) + 1/2)) = -(n + 1) ∧ roundHalfUp (n : Rat) = n :=
  ⟨by rw [roundHalfUp_eq, Round.roundAway_add_half hn], by rw [roundHalfUp_eq, Round.roundAway_neg, Round.roundAway_add_half hn],
    by rw [roundHalfUp_eq, Round.roundAway_intCast]⟩

/-- **update_coordinates with the rounding the code uses**: complete position unchanged, x y z
integers, |shift| ≤ 1/2 — all particles, positions and shifts of either sign, ties included. -/
theorem update_spec (S : Svc Rat) (hS : S.rnd = roundHalfUp) (p : Particle Rat) :
    pos (updateP S p) = pos p ∧
    (∃ i j k : Int, (updateP S p).x = (i : Rat) ∧ (updateP S p).y = (j : Rat) ∧ (updateP S p).z = (k : Rat)) ∧
    |(updateP S p).shift_x| ≤ 1/2 ∧ |(updateP S p).shift_y| ≤ 1/2 ∧ |(updateP S p).shift_z| ≤ 1/2 :=
  update_clause S (fun v => hS ▸ roundHalfUp_within_half v) p

section ring2
variable {α : Type} [CommRing α] [DecidableEq α] (S : Svc α)

theorem scale_pos (f : α) (p : Particle α) : pos (scaleP f p) = V3.smul f (pos p) := by
  ext <;> simp only [pos, scaleP, V3.smul] <;> ring

theorem scale_orient (f : α) (p : Particle α) : orient S (scaleP f p) = orient S p := rfl

/-- each particle moves by its own orientation applied to the shift vector -/
theorem shift_pos (v : V3 α) (p : Particle α) : pos (shiftP S v p) = pos p + (orient S p).apply v := by
  simp only [pos, shiftP, V3.add_def, V3.add, add_assoc]

theorem shift_orient (v : V3 α) (p : Particle α) : orient S (shiftP S v p) = orient S p := rfl

/-- s₁ then s₂ is s₁ + s₂ (equality of the whole particle records) -/
theorem shift_shift (v₁ v₂ : V3 α) (p : Particle α) : shiftP S v₂ (shiftP S v₁ p) = shiftP S (v₁ + v₂) p := by
  have ho : ∀ a b c : α, orient S { p with shift_x := a, shift_y := b, shift_z := c } = orient S p := fun _ _ _ => rfl
  unfold shiftP
  simp only [ho, M3.apply_add]
  simp only [V3.add_def, V3.add, add_assoc]

theorem rotate_pos (q : M3 α) (p : Particle α) : pos (rotateP S q p) = pos p := rfl

/-- `apply_rotation(Q)` replaces the orientation R by R·Q (Q first), provided the Euler triple
scipy returns for this one product reproduces it -/
theorem rotate_orient (q : M3 α) (p : Particle α) (h : EulerOK S (orient S p * q)) :
    orient S (rotateP S q p) = orient S p * q := by
  have : orient S (rotateP S q p) = eulerMat S (S.euler (composeRot (orient S p) q)) := rfl
  rw [this]
  simp only [composeRot, rotation_on_right, if_true]
  exact h

/-- Q₁ then Q₂ is Q₁·Q₂ (equality of the whole particle records) -/
theorem rotate_rotate (q₁ q₂ : M3 α) (p : Particle α) (h : EulerOK S (orient S p * q₁)) :
    rotateP S q₂ (rotateP S q₁ p) = rotateP S (q₁ * q₂) p := by
  have ho := rotate_orient S q₁ p h
  unfold rotateP at *
  simp only [ho]
  simp only [composeRot, rotation_on_right, if_true, M3.mul_assoc']

/-- storing (phi, −theta, psi) of another particle is conjugating its orientation by the z-mirror -/
theorem orient_neg_theta (hc : CsOdd S) {a b : Particle α} (hphi : a.phi = b.phi) (ht : a.theta = -b.theta)
    (hpsi : a.psi = b.psi) : orient S a = Mz * orient S b * Mz := by
  simp only [orient, hphi, ht, hpsi, hc b.theta, Mz_zxz]

theorem flip_orient (hc : CsOdd S) (d : Dims α) (p : Particle α) :
    orient S (flipP d p) = Mz * orient S p * Mz :=
  have ⟨hphi, ht, hpsi⟩ := flipP_angles d p
  orient_neg_theta S hc hphi ht hpsi

/-- with a dimension for the particle's tomogram: complete z ↦ dim_z + 1 − z, x and y untouched -/
theorem flip_pos (d : Dims α) (p : Particle α) (dz : α) (h : dimOf d p.tomo_id = some dz) :
    pos (flipP d p) = ⟨(pos p).x, (pos p).y, dz + 1 - (pos p).z⟩ := by
  unfold flipP
  rw [h]
  ext
  · rfl
  · rfl
  · simp only [pos, flip_source_form.1, Nat.cast_one, Int.cast_one]; ring

/-- without one (no dimensions given, or the tomogram is not in the table) nothing moves -/
theorem flip_pos_none (d : Dims α) (p : Particle α) (h : dimOf d p.tomo_id = none) : pos (flipP d p) = pos p := by
  unfold flipP; rw [h]; rfl

/-- applying `flip_handedness` twice restores the particle list entry — an identity of EXACT arithmetic (any commutative
ring: ℚ, ℝ): it uses `(dz + 1) − ((dz + 1) − z) = z`, which binary64 subtraction does not satisfy for every z (the float
result can differ in the last bit), so at `Float` the restored z is validated within tolerance by the correspondence run
(`flip-twice-restores-the-list`), not proved -/
theorem flip_flip (d : Dims α) (p : Particle α) : flipP d (flipP d p) = p := flipP_flipP d p

/-! ### refinement: every operation, hence every history, acts on the pose as the property says

`specOp`/`specRun` are PARTIAL: they are `none` where the statement says nothing (a `flip_handedness`
call whose dimensions do not cover the particle's tomogram — `covers`). Inside the quantifier the model's
pose IS what the statement gives; outside it the model still follows the code (`flip_uncovered_pose`),
which is used by the correspondence run only. -/

/-- the dimension the statement uses is the one the code looks up -/
theorem specDim_dimOf (d : Dims α) (t dz : α) (h : specDim d t = some dz) : dimOf d t = some dz := by
  cases d with
  | none => cases h
  | single z => exact h
  | table rows =>
    -- `specDim` is the looked-up row's z, or nothing when the tomogram's rows disagree
    simp only [specDim] at h
    split at h
    · cases h
    · rename_i z hl
      split at h
      · exact hl.trans h
      · cases h

theorem applyOpP_tomo (op : Op α) (p : Particle α) : (applyOpP S op p).tomo_id = p.tomo_id := by
  cases op with
  | flip d => exact flipP_tomo d p
  | _ => rfl

theorem runOpsP_tomo (ops : List (Op α)) (p : Particle α) : (runOpsP S ops p).tomo_id = p.tomo_id := by
  induction ops generalizing p with
  | nil => rfl
  | cons op ops ih => simp only [runOpsP, List.foldl_cons] at *; rw [ih, applyOpP_tomo]

/-- one operation, inside the quantifier -/
theorem absPose_applyOpP (hc : CsOdd S) (op : Op α) (p : Particle α) (h : StepOK S op p)
    (hcov : covers op p.tomo_id = true) :
    specOp op (absPose S p) = some (absPose S (applyOpP S op p)) := by
  cases op with
  | update => simp only [specOp, applyOpP, update_pose S p]
  | scale f => simp only [applyOpP, specOp, absPose, scale_pos]; rfl
  | shift v => simp only [applyOpP, specOp, absPose, shift_pos]; rfl
  | rotate q =>
    simp only [applyOpP, specOp, absPose, rotate_orient S q p h]; rfl
  | flip d =>
    simp only [covers, Option.isSome_iff_exists] at hcov
    obtain ⟨dz, hdz⟩ := hcov
    simp only [applyOpP, specOp, absPose, flip_orient S hc, flipP_tomo, hdz]
    rw [flip_pos d p dz (specDim_dimOf d _ dz hdz)]

/-- where the statement is silent it really is: `specOp` is defined exactly on the covered calls -/
theorem specOp_isSome (op : Op α) (P : Pose α) : (specOp op P).isSome = covers op P.tomo := by
  cases op with
  | flip d => simp only [specOp, covers]; cases specDim d P.tomo <;> rfl
  | _ => rfl

/-- MODEL-ONLY fact (not a clause of the property): for a particle whose tomogram has no row in the table
(or when no dimensions are given) the code negates theta and leaves the position alone -/
theorem flip_uncovered_pose (hc : CsOdd S) (d : Dims α) (p : Particle α) (h : dimOf d p.tomo_id = none) :
    absPose S (flipP d p) = { absPose S p with R := Mz * orient S p * Mz } := by
  simp only [absPose, flip_orient S hc, flip_pos_none d p h, flipP_tomo]

/-- **any history (any length)**, one particle, every call inside the quantifier -/
theorem absPose_runOpsP (hc : CsOdd S) (ops : List (Op α)) (p : Particle α) (h : RunOK S ops p)
    (hcov : ∀ op ∈ ops, covers op p.tomo_id = true) :
    specRun ops (absPose S p) = some (absPose S (runOpsP S ops p)) := by
  induction ops generalizing p with
  | nil => rfl
  | cons op ops ih =>
    obtain ⟨h1, h2⟩ := h
    have e := absPose_applyOpP S hc op p h1 (hcov op (List.mem_cons_self ..))
    simp only [specRun, e, runOpsP, List.foldl_cons]
    exact ih (applyOpP S op p) h2 (fun o ho => by rw [applyOpP_tomo]; exact hcov o (List.mem_cons_of_mem _ ho))

/-- every operation acts row by row, so does every history: what holds of `runOpsP` for each particle holds of `runOps` -/
theorem runOps_eq_map (ops : List (Op α)) (m : Motl α) : runOps S ops m = m.map (runOpsP S ops) := by
  induction ops generalizing m with
  | nil => exact (List.map_id' m).symm
  | cons op ops ih =>
    simp only [runOps, List.foldl_cons] at *
    rw [ih]; simp only [applyOp, List.map_map]; rfl

/-- **any history on any particle list**: the list of poses after the history is the list of poses
the specification gives, particle by particle and in the same order -/
theorem absPose_runOps (hc : CsOdd S) (ops : List (Op α)) (m : Motl α) (h : ∀ p ∈ m, RunOK S ops p)
    (hcov : ∀ p ∈ m, ∀ op ∈ ops, covers op p.tomo_id = true) :
    m.map (fun p => specRun ops (absPose S p)) = (runOps S ops m).map (fun p => some (absPose S p)) := by
  rw [runOps_eq_map, List.map_map]
  apply List.map_congr_left
  intro p hp
  exact absPose_runOpsP S hc ops p (h p hp) (hcov p hp)

theorem orient_isRot (hu : ∀ a, (S.cs a).1 * (S.cs a).1 + (S.cs a).2 * (S.cs a).2 = 1) (p : Particle α) :
    IsRot (orient S p) :=
  zxz_isRot _ _ _ _ _ _ (hu _) (hu _) (hu _)

/-- **the per-history hypothesis `RunOK` follows from the usual global reading of the scipy
assumption**: if cos² + sin² = 1 and `as_euler` reproduces every proper rotation matrix, then every
history whose `apply_rotation` arguments are proper rotations satisfies `RunOK` (for every particle). -/
theorem runOK_of_global (hu : ∀ a, (S.cs a).1 * (S.cs a).1 + (S.cs a).2 * (S.cs a).2 = 1)
    (hE : ∀ m : M3 α, IsRot m → EulerOK S m) (ops : List (Op α))
    (hq : ∀ q, Op.rotate q ∈ ops → IsRot q) (p : Particle α) : RunOK S ops p := by
  induction ops generalizing p with
  | nil => trivial
  | cons op ops ih =>
    refine ⟨?_, ih (fun q hq' => hq q (List.mem_cons_of_mem _ hq')) _⟩
    cases op with
    | rotate q => exact hE _ (M3.IsRot.mul (orient_isRot S hu p) (hq q (List.mem_cons_self ..)))
    | _ => trivial

theorem absPose_runOps_global (hc : CsOdd S) (hu : ∀ a, (S.cs a).1 * (S.cs a).1 + (S.cs a).2 * (S.cs a).2 = 1)
    (hE : ∀ m : M3 α, IsRot m → EulerOK S m) (ops : List (Op α)) (hq : ∀ q, Op.rotate q ∈ ops → IsRot q) (m : Motl α)
    (hcov : ∀ p ∈ m, ∀ op ∈ ops, covers op p.tomo_id = true) :
    m.map (fun p => specRun ops (absPose S p)) = (runOps S ops m).map (fun p => some (absPose S p)) :=
  absPose_runOps S hc ops m (fun p _ => runOK_of_global S hu hE ops hq p) hcov

/-- rigidity: `shift_positions(s)` displaces every particle by a vector of the same length as s -/
theorem shift_rigid (hu : ∀ a, (S.cs a).1 * (S.cs a).1 + (S.cs a).2 * (S.cs a).2 = 1) (v : V3 α) (p : Particle α) :
    V3.normSq (pos (shiftP S v p) - pos p) = V3.normSq v := by
  rw [shift_pos, V3.add_sub_cancel_left]
  exact (orient_isRot S hu p).1.normSq_apply v

theorem applyOp_applyOp (a b c : Op α) (m : Motl α) (h : ∀ p ∈ m, applyOpP S b (applyOpP S a p) = applyOpP S c p) :
    applyOp S b (applyOp S a m) = applyOp S c m := by
  simp only [applyOp, List.map_map]
  exact List.map_congr_left h

theorem shift_shift_list (v₁ v₂ : V3 α) (m : Motl α) :
    applyOp S (.shift v₂) (applyOp S (.shift v₁) m) = applyOp S (.shift (v₁ + v₂)) m :=
  applyOp_applyOp S _ _ _ m (fun p _ => shift_shift S v₁ v₂ p)

theorem rotate_rotate_list (q₁ q₂ : M3 α) (m : Motl α) (h : ∀ p ∈ m, EulerOK S (orient S p * q₁)) :
    applyOp S (.rotate q₂) (applyOp S (.rotate q₁) m) = applyOp S (.rotate (q₁ * q₂)) m :=
  applyOp_applyOp S _ _ _ m (fun p hp => rotate_rotate S q₁ q₂ p (h p hp))

theorem flip_flip_list (d : Dims α) (m : Motl α) : applyOp S (.flip d) (applyOp S (.flip d) m) = m := by
  simp only [applyOp, List.map_map]
  exact (List.map_congr_left fun p _ => flip_flip d p).trans (List.map_id _)

theorem update_list (m : Motl α) :
    (applyOp S .update m).map (absPose S) = m.map (absPose S) ∧
    applyOp S .update (applyOp S .update m) = applyOp S .update m := by
  refine ⟨?_, applyOp_applyOp S _ _ _ m (fun p _ => update_idem S p)⟩
  simp only [applyOp, List.map_map]
  exact List.map_congr_left (fun p _ => update_pose S p)

/-! the composition clauses at the level of the statement itself -/

theorem spec_shift_shift (v₁ v₂ : V3 α) (P : Pose α) :
    (specOp (.shift v₁) P).bind (specOp (.shift v₂)) = specOp (.shift (v₁ + v₂)) P := by
  simp only [specOp, Option.bind_some, M3.apply_add]
  simp only [V3.add_def, V3.add, add_assoc]

theorem spec_rotate_rotate (q₁ q₂ : M3 α) (P : Pose α) :
    (specOp (.rotate q₁) P).bind (specOp (.rotate q₂)) = specOp (.rotate (q₁ * q₂)) P := by
  simp only [specOp, Option.bind_some, M3.mul_assoc']

/-- where the statement speaks about the first flip it speaks about the second, and the two restore the pose -/
theorem spec_flip_flip (d : Dims α) (P P' : Pose α) (h : specOp (.flip d) P = some P') : specOp (.flip d) P' = some P := by
  rw [specOp_flip] at h ⊢
  obtain ⟨dz, hd, rfl⟩ := Option.map_eq_some_iff.1 h
  show Option.map _ (specDim d P.tomo) = _
  rw [hd, Option.map_some, mirrorPose_mirrorPose]

end ring2

/-! ### verified checkers (exact rationals) for the operations without trigonometry

`checkUpdate`, `checkScale` and `checkFlipPos` DECIDE their clauses (the `_iff` theorems): what the harness reads off the
driver's verdict on the real code's tables is the clause itself, nothing stronger. `checkFlip` is sufficient only. -/

theorem checkUpdate_iff (b a : Particle Rat) :
    checkUpdate b a = true ↔
    (pos a = pos b ∧ (∃ i j k : Int, a.x = (i : Rat) ∧ a.y = (j : Rat) ∧ a.z = (k : Rat)) ∧
      |a.shift_x| ≤ 1/2 ∧ |a.shift_y| ≤ 1/2 ∧ |a.shift_z| ≤ 1/2) := by
  simp only [checkUpdate, Bool.and_eq_true, beq_iff_eq, decide_eq_true_eq, absR_eq_abs, isInt_iff]
  constructor
  · rintro ⟨⟨⟨⟨⟨⟨hp, i, hi⟩, j, hj⟩, k, hk⟩, h1⟩, h2⟩, h3⟩
    exact ⟨hp, ⟨i, j, k, hi, hj, hk⟩, h1, h2, h3⟩
  · rintro ⟨hp, ⟨i, j, k, hi, hj, hk⟩, h1, h2, h3⟩
    exact ⟨⟨⟨⟨⟨⟨hp, i, hi⟩, j, hj⟩, k, hk⟩, h1⟩, h2⟩, h3⟩

/-- the model's own output passes the checker (the checker is not vacuous) -/
theorem checkUpdate_complete (S : Svc Rat) (hS : S.rnd = roundHalfUp) (p : Particle Rat) :
    checkUpdate p (updateP S p) = true :=
  (checkUpdate_iff p (updateP S p)).2 (update_spec S hS p)

theorem checkScale_iff (f : Rat) (b a : Particle Rat) : checkScale f b a = true ↔ pos a = V3.smul f (pos b) := by
  simp only [checkScale, beq_iff_eq]

theorem checkScale_sound (f : Rat) (b a : Particle Rat) (h : checkScale f b a = true) :
    pos a = V3.smul f (pos b) :=
  (checkScale_iff f b a).1 h

theorem checkFlipPos_iff (d : Dims Rat) (b a : Particle Rat) :
    checkFlipPos d b a = true ↔
    ∀ dz, specDim d b.tomo_id = some dz →
      pos a = ⟨(pos b).x, (pos b).y, dz + 1 - (pos b).z⟩ ∧ a.tomo_id = b.tomo_id := by
  unfold checkFlipPos
  cases specDim d b.tomo_id with
  | none => simp only [reduceCtorEq, false_imp_iff, implies_true]
  | some dz =>
    simp only [Bool.and_eq_true, beq_iff_eq, Option.some.injEq, forall_eq']
    exact and_comm

/-- an accepted output of `flip_handedness` has, for every particle the dimensions cover, the mirrored
pose under every admissible cos/sin (and nothing is claimed for the others) -/
theorem checkFlip_sound (S : Svc Rat) (hc : CsOdd S) (d : Dims Rat) (b a : Particle Rat) (h : checkFlip d b a = true)
    (P' : Pose Rat) (hs : specOp (.flip d) (absPose S b) = some P') : absPose S a = P' := by
  rw [specOp_flip] at hs
  obtain ⟨dz, hd, rfl⟩ := Option.map_eq_some_iff.1 hs
  change specDim d b.tomo_id = some dz at hd
  simp only [checkFlip, hd, Bool.and_eq_true, beq_iff_eq] at h
  obtain ⟨⟨⟨ht, hphi⟩, hpsi⟩, hpos⟩ := h
  obtain ⟨hpos, htomo⟩ := (checkFlipPos_iff d b a).1 hpos dz hd
  simp only [absPose, mirrorPose, orient_neg_theta S hc hphi ht hpsi, htomo, hpos]

/-- the model's own output passes both flip checkers (they are not vacuous) -/
theorem checkFlip_complete (d : Dims Rat) (p : Particle Rat) :
    checkFlip d p (flipP d p) = true ∧ checkFlipPos d p (flipP d p) = true := by
  have hp : checkFlipPos d p (flipP d p) = true :=
    (checkFlipPos_iff d p _).2 (fun dz hd => ⟨flip_pos d p dz (specDim_dimOf d _ dz hd), flipP_tomo d p⟩)
  refine ⟨?_, hp⟩
  unfold checkFlip
  cases specDim d p.tomo_id with
  | none => rfl
  | some dz =>
    have ⟨hphi, ht, hpsi⟩ := flipP_angles d p
    simp only [hp, Bool.and_true, Bool.and_eq_true, beq_iff_eq]
    exact ⟨⟨ht, hphi⟩, hpsi⟩

/-! ### the global scipy assumptions are satisfiable: true cosine/sine, Euler extraction and rounding over ℝ

`absPose_runOps_global` assumes `CsOdd`, cos² + sin² = 1 and `EulerOK` for EVERY proper rotation. Over `Rat`
no service can meet the last one (cos and sin of most angles are irrational); over ℝ `realSvc`
(`Lemmas/C05_Real`: cos/sin of degrees, an explicit zxz extraction via `sqrt` and `Complex.arg`, rounding
half away from zero via the floor) meets all of them, so the theorem is not vacuous and becomes hypothesis-free. -/

/-- **every proper rotation has zxz Euler angles**, purely algebraically: in any ordered field in which
`1 − m₃₃²` has a square root there are three points of the unit circle (the middle one with sine ≥ 0, i.e.
theta in [0°, 180°]) whose `zxz` is the matrix — gimbal lock included (`Lemmas/Rot`) -/
theorem zxz_angles_exist {α : Type} [_root_.Field α] [LinearOrder α] [IsStrictOrderedRing α] (m : M3 α) (h : IsRot m)
    (hsq : ∃ s : α, 0 ≤ s ∧ s * s = 1 - m.a33 * m.a33) :
    ∃ cp sp ct st cs ss : α, cp * cp + sp * sp = 1 ∧ ct * ct + st * st = 1 ∧ cs * cs + ss * ss = 1 ∧ 0 ≤ st ∧
      zxz cp sp ct st cs ss = m :=
  exists_zxz_of_rot h hsq

theorem euler_angles_exist (m : M3 ℝ) (h : IsRot m) : ∃ e : ℝ × ℝ × ℝ, eulerMat realSvc e = m :=
  ⟨realSvc.euler m, realSvc_eulerOK m h⟩

/-- all service hypotheses used anywhere in this file hold for `realSvc` — i.e. the contract (`CsOdd`, cos² + sin² = 1, `EulerOK`
for every proper rotation, rounding within 1/2) is SATISFIABLE over ℝ. `realSvc.euler = eulerR` (`Lemmas/C05_Real`: `sqrt` and
`Complex.arg`) is a different function from the extractor the driver executes (`Drv/C05.eulerF`: `Float.atan2` on binary64) and from
scipy's `as_euler`; that THOSE meet `EulerOK` is not proved anywhere: it is measured on every correspondence run (`resid`, probes) -/
theorem realSvc_meets_all :
    CsOdd realSvc ∧ (∀ a, (realSvc.cs a).1 * (realSvc.cs a).1 + (realSvc.cs a).2 * (realSvc.cs a).2 = 1) ∧
    (∀ m : M3 ℝ, IsRot m → EulerOK realSvc m) ∧ (∀ v : ℝ, |v - ((realSvc.rnd v : Int) : ℝ)| ≤ 1 / 2) :=
  ⟨realSvc_csOdd, realSvc_unit, realSvc_eulerOK, rndR_close⟩

/-- **any history on any particle list, over ℝ, for the ideal services `realSvc`** (true cos/sin, the Euler extraction `eulerR`,
exact rounding — no hypothesis on them is left): if the `apply_rotation` arguments are proper rotations and every
`flip_handedness` call covers the list's tomograms, the poses after the history are exactly what the statement gives.
This shows that the service contract can be met and what follows from it; it is NOT a statement about the `Float` extractor
`Drv/C05.eulerF` the driver runs, nor about scipy (those are validated numerically, see `realSvc_meets_all`) -/
theorem absPose_runOps_real (ops : List (Op ℝ)) (hq : ∀ q, Op.rotate q ∈ ops → IsRot q) (m : Motl ℝ)
    (hcov : ∀ p ∈ m, ∀ op ∈ ops, covers op p.tomo_id = true) :
    m.map (fun p => specRun ops (absPose realSvc p)) = (runOps realSvc ops m).map (fun p => some (absPose realSvc p)) :=
  absPose_runOps_global realSvc realSvc_csOdd realSvc_unit realSvc_eulerOK ops hq m hcov

theorem update_spec_real (p : Particle ℝ) :
    pos (updateP realSvc p) = pos p ∧
    (∃ i j k : Int, (updateP realSvc p).x = (i : ℝ) ∧ (updateP realSvc p).y = (j : ℝ) ∧ (updateP realSvc p).z = (k : ℝ)) ∧
    |(updateP realSvc p).shift_x| ≤ 1 / 2 ∧ |(updateP realSvc p).shift_y| ≤ 1 / 2 ∧ |(updateP realSvc p).shift_z| ≤ 1 / 2 :=
  update_clause realSvc rndR_close p

/-- Q₁ then Q₂ = Q₁·Q₂ over ℝ for all proper rotations and all particles, no side condition left -/
theorem rotate_rotate_real (q₁ q₂ : M3 ℝ) (h₁ : IsRot q₁) (p : Particle ℝ) :
    rotateP realSvc q₂ (rotateP realSvc q₁ p) = rotateP realSvc (q₁ * q₂) p :=
  rotate_rotate realSvc q₁ q₂ p (realSvc_eulerOK _ (M3.IsRot.mul (orient_isRot realSvc realSvc_unit p) h₁))


/-! ### `dimensions_load`: the shape dispatch that decides which branch of `flip_handedness` runs

`loadDims` is executed by the driver on the raw table of every `flip_handedness` call of the correspondence run (the
harness hands the argument over as the caller gave it) and compared with `ioutils.dimensions_load` called directly. -/

/-- a 1 × 3 table is one `x y z` triple: every particle is mirrored at `z + 1` -/
theorem loadDims_triple {α : Type} (x y z : α) : loadDims [[x, y, z]] = some (Dims.single z) := rfl

/-- every table that is neither empty nor a single triple is read row by row as `tomo_id x y z` -/
theorem loadDims_rows {α : Type} (rows : List (List α)) (hne : rows ≠ []) (h3 : ∀ x y z, rows ≠ [[x, y, z]]) :
    loadDims rows = (rows.mapM row4?).map .table := by
  unfold loadDims
  split
  · exact absurd rfl hne
  · exact absurd rfl (h3 _ _ _)
  · rfl

/-- an N × 4 table (N ≥ 1) is rows `tomo_id x y z`, kept in order (so `dimOf` finds the FIRST row of a tomogram) -/
theorem loadDims_table {α : Type} (r : α × α × α × α) (rows : List (α × α × α × α)) :
    loadDims ((r :: rows).map (fun q => [q.1, q.2.1, q.2.2.1, q.2.2.2])) =
      some (Dims.table ((r :: rows).map (fun q => (q.1, q.2.2.2)))) := by
  rw [loadDims_rows _ (by simp) (by simp), Lists.mapM_map_some _ row4? _ (fun q => (q.1, q.2.2.2)) fun _ _ => rfl]
  rfl

/-- every other shape is refused (`ValueError` in the code): no rows at all, or a row that has not exactly four entries
while the table is not a single triple -/
theorem loadDims_refuses {α : Type} (rows : List (List α)) (h3 : ∀ x y z, rows ≠ [[x, y, z]])
    (hbad : ∃ r ∈ rows, r.length ≠ 4) : loadDims rows = none := by
  obtain ⟨r, hr, hlen⟩ := hbad
  rw [loadDims_rows rows (List.ne_nil_of_mem hr) h3]
  cases h : rows.mapM row4? with
  | none => rfl
  | some out =>
    obtain ⟨v, _, hv⟩ := Lists.mapM_mem_left _ _ _ h r hr
    exact absurd (by match r, hv with | [_, _, _, _], _ => rfl) hlen

example : loadDims [[(512 : Rat), 480, 300]] = some (Dims.single 300) := rfl
example : loadDims [[(2 : Rat), 512, 480, 300], [1, 512, 480, 200]] = some (Dims.table [(2, 300), (1, 200)]) := rfl
example : loadDims [[(2 : Rat), 512, 480, 300]] = some (Dims.table [(2, 300)]) := rfl
example : loadDims [[(512 : Rat), 480]] = none ∧ loadDims [[(1 : Rat), 2, 3], [4, 5, 6]] = none ∧ loadDims ([] : List (List Rat)) = none := ⟨rfl, rfl, rfl⟩

/-! ### histories with flips: two successive flips cancel, the parity of the number of flips decides the handedness

`Lemmas/C05_History`: `pushFlips` removes the flips of a history and replaces every operation that follows an odd number
of them by its mirror image `conjOp` (shift s ↦ shift (Mz s), rotate Q ↦ rotate (Mz Q Mz), update unchanged). -/
section history
variable {α : Type} [CommRing α] [DecidableEq α] (S : Svc α)

/-- **flip ∘ flip = id inside any history** (whole 20-field records, no hypothesis beyond exact arithmetic — a commutative ring; see the caveat at `flip_flip` for `Float`): two successive `flip_handedness` calls with
the same dimensions can be deleted wherever they stand -/
theorem flip_flip_in_history (a b : List (Op α)) (d : Dims α) (m : Motl α) :
    runOps S (a ++ Op.flip d :: Op.flip d :: b) m = runOps S (a ++ b) m := by
  rw [runOps_eq_map, runOps_eq_map, funext (runOpsP_flip_flip_cancel S a b d)]

/-- n flips in a row: the list itself for even n, one flip for odd n (whole records, no hypothesis) -/
theorem flips_parity (n : Nat) (d : Dims α) (m : Motl α) :
    runOps S (List.replicate n (Op.flip d)) m = if n % 2 = 0 then m else applyOp S (.flip d) m := by
  match n with
  | 0 => rfl
  | 1 => rfl
  | n + 2 =>
    rw [Nat.add_mod_right, ← flips_parity n d m]
    exact flip_flip_in_history S [] _ d m

/-- statement level: "flip then op" is "mirror-image op then flip" for every op that is neither a flip nor a scaling -/
theorem spec_flip_then_op (d : Dims α) (op : Op α) (P : Pose α) (hf : isFlip op = false) (hs : isScale op = false) :
    (specOp (.flip d) P).bind (specOp op) = (specOp (conjOp op) P).bind (specOp (.flip d)) :=
  spec_flip_conj d op P hf hs

/-- scaling is excluded for a reason: the mirror plane `dim_z + 1` does not scale with the coordinates, so flip and scale do
not commute already at the level of the statement (a concrete instance, not a general law): flip then scale 2 sends z = 0 to
2·(1+1−0) = 4, scale 2 then flip to 1+1−0 = 2 -/
theorem spec_flip_scale_counterexample :
    (specOp (.flip (.single (1 : Rat))) ⟨⟨0, 0, 0⟩, M3.one, 0⟩).bind (specOp (.scale 2)) ≠
    (specOp (.scale (2 : Rat)) ⟨⟨0, 0, 0⟩, M3.one, 0⟩).bind (specOp (.flip (.single 1))) := by
  decide +kernel

/-- **composition law for histories with flips** (statement level): in a history without scalings whose flips all use the same
mirror plane `dz` for the particle's tomogram, every flip can be moved to the end; what remains is the flip-free history
`pushFlips false ops`, followed by ONE flip if the number of flips is odd and by nothing if it is even -/
theorem spec_history_flip_parity (ops : List (Op α)) (P : Pose α) (dz : α)
    (hflip : ∀ d', Op.flip d' ∈ ops → specDim d' P.tomo = some dz) (hns : ∀ op ∈ ops, isScale op = false)
    (d : Dims α) (hd : specDim d P.tomo = some dz) :
    specRun ops P = (specRun (pushFlips false ops) P).bind
      (fun P' => if flipCount ops % 2 = 0 then some P' else specOp (.flip d) P') :=
  specRun_flips_to_end ops P dz hflip hns d hd

/-- **the same for the model** (corollary of the refinement theorem `absPose_runOpsP`): the pose of a particle after such a
history is the pose the flip-free history `pushFlips false ops` gives, mirrored iff the number of flips is odd.
Hypotheses: cos even / sin odd, the Euler round trip for the products the history forms (`RunOK`), no scaling, one mirror plane. -/
theorem history_flip_parity (hc : CsOdd S) (ops : List (Op α)) (p : Particle α) (h : RunOK S ops p) (dz : α)
    (hflip : ∀ d', Op.flip d' ∈ ops → specDim d' p.tomo_id = some dz) (hns : ∀ op ∈ ops, isScale op = false)
    (d : Dims α) (hd : specDim d p.tomo_id = some dz) :
    some (absPose S (runOpsP S ops p)) = (specRun (pushFlips false ops) (absPose S p)).bind
      (fun P' => if flipCount ops % 2 = 0 then some P' else specOp (.flip d) P') := by
  have href := absPose_runOpsP S hc ops p h (by
    intro op hop
    cases op with
    | flip d' => simp only [covers, hflip d' hop, Option.isSome_some]
    | _ => rfl)
  rw [← href]
  exact specRun_flips_to_end ops (absPose S p) dz hflip hns d hd

/-- **the same for a whole particle list** (any number of particles in any number of tomograms, each tomogram with its own
mirror plane `dzOf t`): the poses after the history are, particle by particle and in the same order, the poses of the
flip-free history, mirrored iff the number of flips is odd -/
theorem history_flip_parity_list (hc : CsOdd S) (ops : List (Op α)) (m : Motl α) (h : ∀ p ∈ m, RunOK S ops p) (dzOf : α → α)
    (hflip : ∀ p ∈ m, ∀ d', Op.flip d' ∈ ops → specDim d' p.tomo_id = some (dzOf p.tomo_id))
    (hns : ∀ op ∈ ops, isScale op = false) (d : Dims α) (hd : ∀ p ∈ m, specDim d p.tomo_id = some (dzOf p.tomo_id)) :
    (runOps S ops m).map (fun p => some (absPose S p)) =
      m.map (fun p => (specRun (pushFlips false ops) (absPose S p)).bind
        (fun P' => if flipCount ops % 2 = 0 then some P' else specOp (.flip d) P')) := by
  rw [runOps_eq_map, List.map_map]
  apply List.map_congr_left
  intro p hp
  exact history_flip_parity S hc ops p (h p hp) (dzOf p.tomo_id) (hflip p hp) hns d (hd p hp)

/-- a history that consists of flips only (possibly with different tables that agree on the plane): identity for an even
number, one flip for an odd number — at the level of the statement -/
theorem spec_only_flips (ops : List (Op α)) (P : Pose α) (dz : α) (hall : ∀ op ∈ ops, isFlip op = true)
    (hflip : ∀ d', Op.flip d' ∈ ops → specDim d' P.tomo = some dz) (d : Dims α) (hd : specDim d P.tomo = some dz) :
    specRun ops P = if ops.length % 2 = 0 then some P else specOp (.flip d) P :=
  specRun_only_flips ops P dz hall hflip d hd

end history

/-- over ℝ, for the ideal services `realSvc`, the history law needs no further assumption: proper rotations as `apply_rotation`
arguments suffice (as for `absPose_runOps_real`: a satisfiability instance of the contract, not a theorem about the executed
`Float` extractor `eulerF` or scipy) -/
theorem history_flip_parity_real (ops : List (Op ℝ)) (hq : ∀ q, Op.rotate q ∈ ops → IsRot q) (p : Particle ℝ) (dz : ℝ)
    (hflip : ∀ d', Op.flip d' ∈ ops → specDim d' p.tomo_id = some dz) (hns : ∀ op ∈ ops, isScale op = false)
    (d : Dims ℝ) (hd : specDim d p.tomo_id = some dz) :
    some (absPose realSvc (runOpsP realSvc ops p)) = (specRun (pushFlips false ops) (absPose realSvc p)).bind
      (fun P' => if flipCount ops % 2 = 0 then some P' else specOp (.flip d) P') :=
  history_flip_parity realSvc realSvc_csOdd ops p (runOK_of_global realSvc realSvc_unit realSvc_eulerOK ops hq p) dz hflip hns d hd

/-- the hypotheses of `spec_history_flip_parity` are met by a history with two flips (a triple and a table giving the same plane),
shifts, a rotation and an update; its normal form has no flip left and the operations between the flips are mirrored -/
example : (∀ d', Op.flip d' ∈ exHist → specDim d' exP.tomo_id = some (40 : Rat)) ∧ (∀ op ∈ exHist, isScale op = false) ∧
    flipCount exHist = 2 :=
  ⟨exHist_flips, by decide +kernel, by decide +kernel⟩

/-! ### non-vacuity: concrete services and inputs meeting every hypothesis above -/

/-- `CsOdd` is satisfiable -/
example : CsOdd exS := by
  intro a
  -- `-a = b` is `a = -b`: the four special angles of `-a` are those of `a` with the signs swapped
  simp only [exS, neg_eq_iff_eq_neg, neg_neg]
  by_cases h1 : a = 90
  · subst h1; norm_num
  by_cases h2 : a = -90
  · subst h2; norm_num
  by_cases h3 : a = 180 ∨ a = -180
  · simp only [h1, h2, h3, h3.symm, if_true, if_false, neg_zero]
  · have h3' : ¬ (a = -180 ∨ a = 180) := fun h => h3 h.symm
    simp only [h1, h2, h3, h3', if_false, neg_zero]

/-- `EulerOK` is satisfiable for a non-trivial rotation of a particle with a non-trivial orientation … -/
example : EulerOK exS (orient exS exP * rz 0 1) := by unfold EulerOK; decide +kernel
/-- … and a history with every kind of operation meets `RunOK` -/
example : RunOK exS [.rotate (rz 0 1), .update, .scale 2, .shift ⟨1, 2, 3⟩, .flip (.table [(1, 50), (2, 60)]), .flip (.single 40)] exP := by
  refine ⟨?_, trivial, trivial, trivial, trivial, trivial, trivial⟩
  unfold StepOK EulerOK; decide +kernel
/-- … every call of which is inside the quantifier for the particle (its tomogram 2 has a row / a single triple is given) -/
example : ∀ op ∈ ([.rotate (rz 0 1), .update, .scale 2, .shift ⟨1, 2, 3⟩, .flip (.table [(1, 50), (2, 60)]), .flip (.single 40)] : List (Op Rat)),
    covers op exP.tomo_id = true := by decide +kernel
/-- the statement folded over that history is defined and is the model's pose (instance of `absPose_runOpsP`) -/
example : specRun [.rotate (rz 0 1), .update, .scale 2, .shift ⟨1, 2, 3⟩, .flip (.table [(1, 50), (2, 60)]), .flip (.single 40)] (absPose exS exP)
    = some (absPose exS (runOpsP exS [.rotate (rz 0 1), .update, .scale 2, .shift ⟨1, 2, 3⟩, .flip (.table [(1, 50), (2, 60)]), .flip (.single 40)] exP)) := by
  decide +kernel
example : exS.rnd = roundHalfUp := rfl
/-- ties in both directions: 5 + 1/2 ↦ 6, −7 − 5/2 = −19/2 ↦ −10 -/
example : (updateP exS exP).x = 6 ∧ (updateP exS exP).y = -10 ∧ (updateP exS exP).shift_x = -1/2 ∧ (updateP exS exP).shift_y = 1/2 := by
  decide +kernel
example : dimOf (.table [(1, 50), (2, 60)]) exP.tomo_id = some (60 : Rat) := by decide +kernel
example : checkUpdate exP (updateP exS exP) = true := by decide +kernel
example : checkFlip (.single 40) exP (flipP (.single 40) exP) = true := by decide +kernel
/-- the rotated example particle really has the orientation R·Q -/
example : orient exS (rotateP exS (rz 0 1) exP) = orient exS exP * rz 0 1 := by decide +kernel

/-- the hypotheses of `absPose_runOps_real` are met by a history with a genuine rotation, a covered
per-tomogram flip and every other kind of operation on a two-tomogram list -/
example : (∀ q, Op.rotate q ∈ ([.rotate (rz 0 1), .update, .scale 2, .shift ⟨1, 2, 3⟩, .flip (.table [(1, 50), (2, 60)])] : List (Op ℝ)) → IsRot q) ∧
    (∀ t ∈ [(1 : ℝ), 2], covers (.flip (.table [(1, 50), (2, 60)]) : Op ℝ) t = true) := by
  refine ⟨?_, ?_⟩
  · intro q hq
    simp only [List.mem_cons, Op.rotate.injEq, reduceCtorEq, List.not_mem_nil, or_false] at hq
    subst hq
    exact rz_isRot 0 1 (by norm_num)
  · intro t ht
    simp only [List.mem_cons, List.not_mem_nil, or_false] at ht
    rcases ht with rfl | rfl
    · norm_num [covers, specDim, List.lookup]
    · have h21 : ((2 : ℝ) == 1) = false := by rw [beq_eq_false_iff_ne]; norm_num
      simp [covers, specDim, List.lookup, h21]
/-- outside the quantifier the specification is silent: a table without the particle's tomogram, and one
with two different z sizes for it -/
example : specOp (.flip (.table [(1, 50)])) (absPose exS exP) = none ∧
    specOp (.flip (.table [(2, 50), (2, 60)])) (absPose exS exP) = none ∧
    (specOp (.flip (.table [(2, 60), (1, 50), (2, 60)])) (absPose exS exP)).isSome = true := by decide +kernel
example : checkFlipPos (.table [(1, 50), (2, 60)]) exP (flipP (.table [(1, 50), (2, 60)]) exP) = true := by decide +kernel
end CryoCat.C05
