import CryoCat.Lemmas.C14
import CryoCat.Lemmas.C14_Sym
import CryoCat.Lemmas.C14_Cube
import CryoCat.Lemmas.C14_Start
import Mathlib.Algebra.Field.Rat
import Mathlib.Tactic.NormNum
/-! C14 — property theorems: map rotation, windowing, placement and symmetrisation share one active convention. -/
namespace CryoCat.C14
variable {α : Type}

/-! translator obligations: the statements the model mirrors are the ones in the source -/

theorem anchors_ok : Gen.C14.anchorsOk = true := by decide

/-- `rotate`: centre `shape // 2`; the matrix given to `affine_transform` is `T·M·T⁻¹` with `M = R.as_matrix().T` both for
`rotation_angles` and for `rotation=…, transpose_rotation=True` (and `R.as_matrix()` only for `transpose_rotation=False`);
Euler convention `"zxz"` in degrees, cubic splines -/
theorem rotate_source_documented :
    Gen.C14.rotCentre = ["np.asarray(input_map.shape)//2"] ∧
    Gen.C14.rotTranslationColumn = ["structure_center"] ∧
    Gen.C14.rotMatrixBranches = ["rotation.as_matrix().T", "rotation.as_matrix()", "rot.as_matrix().T"] ∧
    Gen.C14.rotIfTests = ["rotationisnotNone", "transpose_rotation", "rotation_anglesisnotNone", "output_nameisnotNone"] ∧
    Gen.C14.rotFromEuler = ["srot.from_euler(coord_space,rotation_angles,degrees=degrees)"] ∧
    Gen.C14.rotFinalMatrix = ["T@rot_matrix@np.linalg.inv(T)"] ∧
    Gen.C14.rotAffineCall = ["input=input_map", "matrix=final_matrix", "order=spline_order", "output=rot_struct"] ∧
    Gen.C14.rotSeqDefault = "zxz" ∧ Gen.C14.rotDegreesDefault = true ∧ Gen.C14.rotTransposeDefault = false ∧
    Gen.C14.rotSplineOrder = 3 := by repeat' constructor

/-- `get_start_end_indices`, statement by statement (mirrored by `startOf` and `clip1`) -/
theorem window_source_documented :
    Gen.C14.windowStatements =
      ["subvolume_shape=np.asarray(subvolume_shape)", "subvolume_half=subvolume_shape/2",
       "volume_start=np.floor(coord-subvolume_half).astype(int)", "volume_end=(volume_start+subvolume_shape).astype(int)",
       "volume_start_clip=np.minimum(np.maximum([0,0,0],volume_start),np.asarray(volume_shape))",
       "volume_end_clip=np.maximum(np.minimum(np.asarray(volume_shape),volume_end),[0,0,0])",
       "subvolume_start=volume_start_clip-volume_start", "subvolume_end=volume_end-volume_start",
       "subvolume_end=volume_end_clip-volume_end+subvolume_end",
       "subvolume_start=np.minimum(np.maximum([0,0,0],subvolume_start),subvolume_shape)",
       "subvolume_end=np.maximum(np.minimum(subvolume_shape,subvolume_end),[0,0,0])",
       "return (volume_start_clip,volume_end_clip,subvolume_start,subvolume_end)"] := by repeat' constructor

/-- `extract_subvolume` fills with the volume mean and copies `volume[vs:ve]` into `[ss:se]`; `crop` returns `map[vs:ve]` -/
theorem extract_source_documented :
    Gen.C14.extractItems =
      ["get_start_end_indices(coordinates,volume.shape,subvolume_shape)", "np.full(volume.shape,np.mean(volume))",
       "np.full(subvolume_shape,np.mean(volume))",
       "subvolume[vs[0]:ve[0],vs[1]:ve[1],vs[2]:ve[2]]=volume[vs[0]:ve[0],vs[1]:ve[1],vs[2]:ve[2]]",
       "subvolume[ss[0]:se[0],ss[1]:se[1],ss[2]:se[2]]=volume[vs[0]:ve[0],vs[1]:ve[1],vs[2]:ve[2]]"] ∧
    Gen.C14.cropItems =
      ["get_start_end_indices(crop_coord,input_map.shape,new_size)", "input_map[vs[0]:ve[0],vs[1]:ve[1],vs[2]:ve[2]]",
       "cryomask.get_correct_format(input_map.shape)//2", "cryomask.get_correct_format(crop_coord)"] := by repeat' constructor

/-- `place_object`: orientations from `get_rotations()`, complete positions minus 1, colours by position, the template
rotated with `transpose_rotation=True`, thresholded `> 0.1` to 1/0, stamped through `get_start_end_indices` about the
position moved up by half a voxel on axes of odd template size (the repair of defect D33) -/
theorem place_source_documented :
    Gen.C14.placeRotations = ["motl.get_rotations()"] ∧
    Gen.C14.placeCoordinates = ["motl.get_coordinates()-1.0"] ∧
    Gen.C14.placeColors = ["motl.df[feature_to_color].to_numpy()"] ∧
    Gen.C14.placeObjectMap = ["rotate(input_object[i],rotation=rotations[i],transpose_rotation=True)",
       "rotate(input_object,rotation=rotations[i],transpose_rotation=True)", "np.where(object_map>0.1,1.0,0.0)"] ∧
    Gen.C14.placeCentreCoord = ["coord+np.asarray(object_map.shape)%2/2"] ∧
    Gen.C14.placeIndexCall = ["get_start_end_indices(centre_coord,object_container.shape,object_map.shape)"] ∧
    Gen.C14.placeObjectShape = ["object_map[os[0]:oe[0],os[1]:oe[1],os[2]:oe[2]]"] ∧
    Gen.C14.placeLoop = ["(i,coord) in enumerate(coordinates)"] ∧
    Gen.C14.placeAssignment = ["object_container[ls[0]:le[0],ls[1]:le[1],ls[2]:le[2]]=np.where(object_shape==1.0,colors[i],object_container[ls[0]:le[0],ls[1]:le[1],ls[2]:le[2]])"] ∧
    Gen.C14.placeThresholdCmp = "Gt" ∧ Gen.C14.placeOnOff = ["1.0", "0.0"] := by repeat' constructor

theorem place_threshold_documented : Gen.C14.placeThreshold = mkRat 1 10 := by decide

/-- `symmetrize_volume`: zeros, `+= rotate(vol, [0, 0, (k·360/n) % 360])` for k = 1..n, divided by n -/
theorem symmetrize_source_documented :
    Gen.C14.symStep = ["360/nfold"] ∧
    Gen.C14.symSum = ["np.zeros(vol.shape)", "np.add(rotated_sum,rotated_volume)"] ∧
    Gen.C14.symRotated = ["rotate(vol,rotation_angles=[0,0,inplane*inplane_step%360])"] ∧
    Gen.C14.symLoop = ["inplane in range(1,nfold+1)"] ∧
    Gen.C14.symOut = ["np.divide(rotated_sum,nfold)"] := by repeat' constructor

/-- the particle side of the convention: `get_rotations` and `shift_positions` build `from_euler("zxz", [phi, theta, psi],
degrees)` and *apply* it to reference offsets; complete position = `x + shift_x` -/
theorem motl_source_documented :
    Gen.C14.motlRotations = ["rot.from_euler('zxz',angles,degrees=True)"] ∧
    Gen.C14.motlAngleColumns = ["phi", "theta", "psi"] ∧
    Gen.C14.motlCoordinates = "self.df.loc[:,['x','y','z']].values+self.df.loc[:,['shift_x','shift_y','shift_z']].values" ∧
    Gen.C14.motlShiftPositions = ["np.array([[row['phi'],row['theta'],row['psi']]])",
       "rot.from_euler(seq='zxz',angles=euler_angles,degrees=True)", "orientations.apply(v)"] := by repeat' constructor

/-- signature defaults the statement depends on (every parameter, in order, with its default): `rotate` — `coord_space='zxz'`,
`transpose_rotation=False`, `degrees=True`, `spline_order=3`; `extract_subvolume` — `enforce_shape=False`; `crop` — `crop_coord=None`
(→ box centre); `pad` — `fill_value=None` (→ volume mean); `place_object` — `feature_to_color='object_id'` -/
theorem signatures_documented :
    Gen.C14.rotateSig =
      ["input_map",
       "rotation=None",
       "rotation_angles=None",
       "coord_space='zxz'",
       "transpose_rotation=False",
       "degrees=True",
       "spline_order=3",
       "output_name=None"] ∧
    Gen.C14.windowSig =
      ["coord",
       "volume_shape",
       "subvolume_shape"] ∧
    Gen.C14.extractSig =
      ["volume",
       "coordinates",
       "subvolume_shape",
       "enforce_shape=False",
       "output_file=None"] ∧
    Gen.C14.cropSig =
      ["input_map",
       "new_size",
       "output_file=None",
       "crop_coord=None"] ∧
    Gen.C14.padSig =
      ["input_volume",
       "new_size",
       "fill_value=None"] ∧
    Gen.C14.placeSig =
      ["input_object",
       "motl",
       "volume_shape=None",
       "volume=None",
       "feature_to_color='object_id'"] ∧
    Gen.C14.symSig =
      ["vol",
       "symmetry"] := by repeat' constructor

/-- `rotate`, every statement (nested blocks by `>`) -/
theorem rotate_body_documented :
    Gen.C14.rotateBody =
      ["input_map=read(input_map)",
       "T=np.eye(4)",
       "structure_center=np.asarray(input_map.shape)//2",
       "T[:3,-1]=structure_center",
       "rot_matrix=np.eye(4)",
       "if rotationisnotNone:",
       ">if transpose_rotation:",
       ">>rot_matrix[0:3,0:3]=rotation.as_matrix().T",
       ">else:",
       ">>rot_matrix[0:3,0:3]=rotation.as_matrix()",
       "else:",
       ">if rotation_anglesisnotNone:",
       ">>rot=srot.from_euler(coord_space,rotation_angles,degrees=degrees)",
       ">>rot_matrix[0:3,0:3]=rot.as_matrix().T",
       ">else:",
       ">>Raise:ValueError",
       "final_matrix=T@rot_matrix@np.linalg.inv(T)",
       "rot_struct=np.empty(input_map.shape)",
       "Expr:affine_transform(input=input_map,output=rot_struct,matrix=final_matrix,order=spline_order)",
       "if output_nameisnotNone:",
       ">Expr:write(rot_struct,output_name,data_type=np.single)",
       "return rot_struct"] := by repeat' constructor

/-- `get_start_end_indices`, every statement (no branch, no in-place update) -/
theorem window_body_documented :
    Gen.C14.windowBody =
      ["subvolume_shape=np.asarray(subvolume_shape)",
       "subvolume_half=subvolume_shape/2",
       "volume_start=np.floor(coord-subvolume_half).astype(int)",
       "volume_end=(volume_start+subvolume_shape).astype(int)",
       "volume_start_clip=np.minimum(np.maximum([0,0,0],volume_start),np.asarray(volume_shape))",
       "volume_end_clip=np.maximum(np.minimum(np.asarray(volume_shape),volume_end),[0,0,0])",
       "subvolume_start=volume_start_clip-volume_start",
       "subvolume_end=volume_end-volume_start",
       "subvolume_end=volume_end_clip-volume_end+subvolume_end",
       "subvolume_start=np.minimum(np.maximum([0,0,0],subvolume_start),subvolume_shape)",
       "subvolume_end=np.maximum(np.minimum(subvolume_shape,subvolume_end),[0,0,0])",
       "return (volume_start_clip,volume_end_clip,subvolume_start,subvolume_end)"] := by repeat' constructor

/-- `extract_subvolume`, both branches (`enforce_shape` and default) -/
theorem extract_body_documented :
    Gen.C14.extractBody =
      ["(vs,ve,ss,se)=get_start_end_indices(coordinates,volume.shape,subvolume_shape)",
       "if enforce_shapeisnotFalse:",
       ">subvolume=np.full(volume.shape,np.mean(volume))",
       ">subvolume[vs[0]:ve[0],vs[1]:ve[1],vs[2]:ve[2]]=volume[vs[0]:ve[0],vs[1]:ve[1],vs[2]:ve[2]]",
       "else:",
       ">subvolume=np.full(subvolume_shape,np.mean(volume))",
       ">subvolume[ss[0]:se[0],ss[1]:se[1],ss[2]:se[2]]=volume[vs[0]:ve[0],vs[1]:ve[1],vs[2]:ve[2]]",
       "if output_fileisnotNone:",
       ">Expr:write(subvolume,output_file,data_type=np.single)",
       "return subvolume"] := by repeat' constructor

/-- `crop`, incl. the default-centre branch -/
theorem crop_body_documented :
    Gen.C14.cropBody =
      ["input_map=read(input_map)",
       "new_size=cryomask.get_correct_format(new_size)",
       "if crop_coordisNone:",
       ">crop_coord=cryomask.get_correct_format(input_map.shape)//2",
       "else:",
       ">crop_coord=cryomask.get_correct_format(crop_coord)",
       "(vs,ve,_,_)=get_start_end_indices(crop_coord,input_map.shape,new_size)",
       "cropped_volume=input_map[vs[0]:ve[0],vs[1]:ve[1],vs[2]:ve[2]]",
       "if output_fileisnotNone:",
       ">Expr:write(cropped_volume,output_file,data_type=np.single)",
       "return cropped_volume"] := by repeat' constructor

/-- `pad`, the whole body (mirrored by `padStart`/`padF`) -/
theorem pad_body_documented :
    Gen.C14.padBody =
      ["volume=read(input_volume)",
       "if fill_valueisNone:",
       ">padded_volume=np.full(new_size,np.mean(volume))",
       "else:",
       ">padded_volume=np.full(new_size,fill_value)",
       "vol_size=volume.shape",
       "x_start=int(np.ceil((new_size[0]-vol_size[0])/2))",
       "y_start=int(np.ceil((new_size[1]-vol_size[1])/2))",
       "z_start=int(np.ceil((new_size[2]-vol_size[2])/2))",
       "x_end=int(x_start+vol_size[0])",
       "y_end=int(y_start+vol_size[1])",
       "z_end=int(z_start+vol_size[2])",
       "padded_volume[x_start:x_end,y_start:y_end,z_start:z_end]=volume",
       "return padded_volume"] := by repeat' constructor

/-- `place_object`, the whole body: nothing between rotation, thresholding, window and stamp -/
theorem place_body_documented :
    Gen.C14.placeBody =
      ["if notisinstance(input_object,list):",
       ">input_object=read(input_object)",
       "if volumeisnotNone:",
       ">object_container=read(volume)",
       "else:",
       ">if volume_shapeisnotNone:",
       ">>object_container=np.zeros(volume_shape)",
       "rotations=motl.get_rotations()",
       "coordinates=motl.get_coordinates()-1.0",
       "colors=motl.df[feature_to_color].to_numpy()",
       "for (i,coord) in enumerate(coordinates):",
       ">if isinstance(input_object,list):",
       ">>object_map=rotate(input_object[i],rotation=rotations[i],transpose_rotation=True)",
       ">else:",
       ">>object_map=rotate(input_object,rotation=rotations[i],transpose_rotation=True)",
       ">object_map=np.where(object_map>0.1,1.0,0.0)",
       ">centre_coord=coord+np.asarray(object_map.shape)%2/2",
       ">(ls,le,os,oe)=get_start_end_indices(centre_coord,object_container.shape,object_map.shape)",
       ">object_shape=object_map[os[0]:oe[0],os[1]:oe[1],os[2]:oe[2]]",
       ">object_container[ls[0]:le[0],ls[1]:le[1],ls[2]:le[2]]=np.where(object_shape==1.0,colors[i],object_container[ls[0]:le[0],ls[1]:le[1],ls[2]:le[2]])",
       "return object_container"] := by repeat' constructor

theorem sym_body_documented :
    Gen.C14.symBody =
      ["if isinstance(symmetry,str):",
       ">nfold=int(re.findall('\\\\d+',symmetry)[-1])",
       "else:",
       ">if isinstance(symmetry,(int,float,np.integer,np.floating)):",
       ">>nfold=int(symmetry)",
       ">else:",
       ">>Raise:ValueError",
       "inplane_step=360/nfold",
       "rotated_sum=np.zeros(vol.shape)",
       "for inplane in range(1,nfold+1):",
       ">rotated_volume=rotate(vol,rotation_angles=[0,0,inplane*inplane_step%360])",
       ">rotated_sum=np.add(rotated_sum,rotated_volume)",
       "sym_vol=np.divide(rotated_sum,nfold)",
       "return sym_vol"] := by repeat' constructor

/-! rotation: one active convention -/

/-- Continuous coordinate law, any commutative ring (no trigonometry). With the matrix `Rᵀ` that `rotate`
hands to `affine_transform` for orientation `R` (orthogonal), the output coordinate at offset `R v` from the
centre samples the input at offset `v`: density at `c + v` moves to `c + R v`. -/
theorem rotate_coordinate_active {K : Type} [CommRing K] (R : M3 K) (hR : R.Orth) (c v : V3 K) :
    srcCoord R.transpose c (c + R.apply v) = c + v := by
  unfold srcCoord; rw [V3.add_sub_cancel_left, hR.transpose_apply_apply]

/-- … and this is the orientation of a particle: for `R = zxz phi theta psi` (the matrix `Motl.get_rotations` /
`shift_positions` apply to reference offsets, `pos + R v`), the rotated map has at `c + R v` what the
reference has at `c + v`. -/
theorem rotate_coordinate_active_zxz {K : Type} [CommRing K] (cp sp ct st cs ss : K)
    (hp : cp*cp + sp*sp = 1) (ht : ct*ct + st*st = 1) (hs : cs*cs + ss*ss = 1) (c v : V3 K) :
    srcCoord (zxz cp sp ct st cs ss).transpose c (c + (zxz cp sp ct st cs ss).apply v) = c + v :=
  rotate_coordinate_active _ (zxz_orth cp sp ct st cs ss hp ht hs) c v

/-- resampling with the inverse rotation undoes the coordinate map exactly (what remains is interpolation error) -/
theorem rotate_coordinate_inverse {K : Type} [CommRing K] (R : M3 K) (hR : R.Orth) (c o : V3 K) :
    srcCoord R.transpose c (srcCoord R c o) = o := by
  unfold srcCoord; rw [V3.add_sub_cancel_left, hR.transpose_apply_apply, V3.add_sub_cancel]

/-- Index law. For every orthogonal integer matrix `R` (in particular the 24 cube rotations), every box
(odd, even, non-cubic) and every map: `out[c + R v] = in[c + v]` whenever `c + v` is a voxel of the box
(`c = ⌊N/2⌋`). -/
theorem rotate_index [OfNat α 0] (R : M3 Int) (hR : R.Orth) (s : Shape) (f : V3 Int → α) (v : V3 Int)
    (h : s.inBox (s.centre + v) = true) :
    rotateBy R s f (s.centre + R.apply v) = f (s.centre + v) :=
  rotateBy_eq (rotate_coordinate_active R hR s.centre v) h

/-- outside the input the rotated map is the constant 0 -/
theorem rotate_outside [OfNat α 0] (R : M3 Int) (s : Shape) (f : V3 Int → α) (o : V3 Int)
    (h : s.inBox (srcCoord R.transpose s.centre o) = false) : rotateBy R s f o = 0 := by
  unfold rotateBy rotateF
  simp only [h]; rfl

/-- `rotate(map, rotation=R)` with the default `transpose_rotation=False` rotates by the inverse orientation.  The first conjunct
only unfolds the two model definitions (`rotatePlain R = rotateBy Rᵀ`, an anchor for how the default is modelled); the content is
the second: density at `c + v` moves to `c + Rᵀ v` (the documented meaning of the flag `place_object` sets) -/
theorem rotate_plain_is_inverse [OfNat α 0] (R : M3 Int) (hT : R.transpose.Orth) (s : Shape) (f : V3 Int → α) (v : V3 Int)
    (h : s.inBox (s.centre + v) = true) :
    rotatePlain R s f = rotateBy R.transpose s f ∧ rotatePlain R s f (s.centre + R.transpose.apply v) = f (s.centre + v) := by
  have e : rotatePlain R s f = rotateBy R.transpose s f := by
    unfold rotatePlain rotateBy; rw [M3.transpose_transpose]
  exact ⟨e, by rw [e]; exact rotate_index R.transpose hT s f v h⟩

/-- Right-angle rotations permute voxels / rotating by the inverse restores. `Rᵀ` is the inverse
orientation; wherever voxel `u` and its image `c + R (u - c)` are both in the box, rotating by `R` and then by
`R⁻¹` gives back the original voxel. -/
theorem rotate_inverse_restores [OfNat α 0] (R : M3 Int) (hR : R.Orth) (s : Shape) (f : V3 Int → α) (u : V3 Int)
    (hu : s.inBox u = true) (himg : s.inBox (srcCoord R s.centre u) = true) :
    rotateBy R.transpose s (rotateBy R s f) u = f u :=
  (rotateBy_eq (by rw [M3.transpose_transpose]) himg).trans (rotateBy_eq (rotate_coordinate_inverse R hR s.centre u) hu)

/-- by running the list: 64 products of three matrices, then the deduplication -/
theorem cube24_count : cube24.length = 24 := by decide +kernel
theorem cube24_nodup : cube24.Nodup := nodup_eraseDups _
theorem cube24_orth : ∀ R ∈ cube24, R.Orth := fun R h => (cube24_isRot R h).1
theorem cube24_det : ∀ R ∈ cube24, R.det = 1 := fun R h => (cube24_isRot R h).2
/-- the hypothesis of `rotate_plain_is_inverse` -/
theorem cube24_transpose_orth : ∀ R ∈ cube24, R.transpose.Orth := fun R h => (cube24_isRot R h).transpose_orth
/-- they are exactly the particle orientations `zxz(phi, theta, psi)` with right-angle Euler angles -/
theorem cubeZxz_mem : ∀ a < 4, ∀ b < 4, ∀ c < 4, cubeZxz a b c ∈ cube24 := forall_mem_cube24.1 fun _ h => h
theorem cube24_from_zxz : ∀ R ∈ cube24, ∃ a < 4, ∃ b < 4, ∃ c < 4, R = cubeZxz a b c :=
  forall_mem_cube24.2 fun a ha b hb c hc => ⟨a, ha, b, hb, c, hc, rfl⟩
/-- the list is complete: every proper orthogonal integer matrix (every rotation mapping the voxel grid to
itself) is one of the 24 — the exhaustive sweep over quarter-turn Euler triples misses no right-angle rotation -/
theorem cube24_complete (R : M3 Int) (hR : R.Orth) (hd : R.det = 1) : R ∈ cube24 := (mem_cube24_iff R).2 ⟨hR, hd⟩
/-- the inverse orientation is `zxz(-psi, -theta, -phi)` -/
theorem cube_inverse_angles : ∀ a < 4, ∀ b < 4, ∀ c < 4,
    (cubeZxz a b c).transpose = cubeZxz ((4 - c) % 4) ((4 - b) % 4) ((4 - a) % 4) := by
  intro a ha b hb c hc
  unfold cubeZxz
  rw [zxz_transpose, quarter_neg a ha, quarter_neg b hb, quarter_neg c hc]

/-- the index law for the map rotated by right-angle Euler angles (what `rotate(map, rotation_angles=[90a, 90b, 90c])` is compared with) -/
theorem rotate_index_cube [OfNat α 0] (a b c : Nat) (s : Shape) (f : V3 Int → α) (v : V3 Int)
    (h : s.inBox (s.centre + v) = true) :
    rotateBy (cubeZxz a b c) s f (s.centre + (cubeZxz a b c).apply v) = f (s.centre + v) :=
  rotate_index _ (cubeZxz_isRot a b c).1 s f v h

/-- One convention means a group action. Rotating by `R₁` and then by `R₂` is rotating once by the product `R₂ · R₁`
(the orientation of a particle rotated twice), at every output voxel whose intermediate sample point lies in the box — any integer
matrices, any box, no orthogonality needed; where the intermediate point falls outside, the two-step result is 0 (`rotate_outside`). -/
theorem rotate_compose [OfNat α 0] (R₁ R₂ : M3 Int) (s : Shape) (f : V3 Int → α) (o : V3 Int)
    (h : s.inBox (srcCoord R₂.transpose s.centre o) = true) :
    rotateBy R₂ s (rotateBy R₁ s f) o = rotateBy (R₂ * R₁) s f o := by
  unfold rotateBy rotateF
  simp only [h, if_true, M3.transpose_mul, srcCoord_mul]

/-- the 24 cube rotations are closed under products and inverses (a group): a product of proper rotations is one, and the inverse
of a quarter-turn Euler triple is one (`cube_inverse_angles`) -/
theorem cube24_closed : ∀ R₁ ∈ cube24, ∀ R₂ ∈ cube24, R₂ * R₁ ∈ cube24 := fun R₁ h₁ R₂ h₂ =>
  (mem_cube24_iff _).2 ((cube24_isRot R₂ h₂).mul (cube24_isRot R₁ h₁))

theorem cube24_transpose_mem : ∀ R ∈ cube24, R.transpose ∈ cube24 := forall_mem_cube24.2 fun a ha b hb c hc => by
  rw [cube_inverse_angles a ha b hb c hc]
  exact cubeZxz_mem _ (Nat.mod_lt _ (by decide)) _ (Nat.mod_lt _ (by decide)) _ (Nat.mod_lt _ (by decide))

/-- two right-angle rotations in a row permute voxels like the single right-angle rotation `R₂ · R₁`: density at `c + v` ends at
`c + R₂ R₁ v` (when `c + v` and the intermediate `c + R₁ v` are voxels of the box) -/
theorem rotate_compose_cube [OfNat α 0] (R₁ R₂ : M3 Int) (h₁ : R₁ ∈ cube24) (h₂ : R₂ ∈ cube24) (s : Shape) (f : V3 Int → α)
    (v : V3 Int) (h : s.inBox (s.centre + v) = true) (h' : s.inBox (s.centre + R₁.apply v) = true) :
    R₂ * R₁ ∈ cube24 ∧ rotateBy R₂ s (rotateBy R₁ s f) (s.centre + (R₂ * R₁).apply v) = f (s.centre + v) := by
  refine ⟨cube24_closed R₁ h₁ R₂ h₂, ?_⟩
  have hO := M3.Orth.mul (cube24_orth R₂ h₂) (cube24_orth R₁ h₁)
  rw [rotate_compose, rotate_index (R₂ * R₁) hO s f v h]
  rw [M3.apply_mul, rotate_coordinate_active R₂ (cube24_orth R₂ h₂)]
  exact h'

/-- `np.floor(coord - s/2)` is computed exactly: `start ≤ coord - s/2 < start + 1` for `coord = num/den` -/
theorem window_start_is_floor (num : Int) (den s : Nat) (hd : 0 < den) :
    2 * (den : Int) * startOf num den s ≤ 2 * num - s * den ∧ 2 * num - s * den < 2 * (den : Int) * (startOf num den s + 1) :=
  ediv_floor (2 * num - s * den) (2 * den) (by omega)

/-- even box `s = 2h`: the window starts `h` voxels below `⌊coord⌋`, so its voxel `h = ⌊s/2⌋` is voxel `⌊coord⌋` -/
theorem window_start_even (num : Int) (den h : Nat) (hd : 0 < den) : startOf num den (2 * h) = num / (den : Int) - h := by
  rw [startOf_eq_startOfQ num den hd, startOfQ_even, Rat.floor_intCast_div_natCast]

/-- the slice assignment `sub[ss:se] = vol[vs:ve]` never raises: the two blocks always have equal extents -/
theorem window_blocks_agree (start : V3 Int) (V s : Shape) : (clip3 start V s).ok = true := by
  simp [Clip3.ok, clip3, clip1_ok]

/-- Window. For every volume, window shape and start (inside, partly outside, fully outside): the result
holds at `t` the volume voxel `start + t` if that exists, else the fill value. -/
theorem extract_spec (V s : Shape) (f : V3 Int → α) (start : V3 Int) (fill : α) :
    ∃ g, extractF V f start s fill = some g ∧
      ∀ t, s.inBox t = true → g t = if V.inBox (start + t) = true then f (start + t) else fill := by
  refine ⟨_, by unfold extractF; rw [if_pos (window_blocks_agree start V s)], fun t ht => ?_⟩
  exact ite_congr (propext (clip3_inSub_iff start V s t ht))
    (fun h => congrArg f (clip3_toVol start V s t ((clip3_inSub_iff start V s t ht).2 h))) (fun _ => rfl)

/-- `extract_subvolume(volume, coord, shape)`: the window of `shape` voxels starting at `⌊coord - shape/2⌋`,
out-of-volume voxels set to the volume mean -/
theorem extractSubvolume_spec [OfNat α 0] [Add α] [Div α] (ofNat : Nat → α) (V s : Shape) (f : V3 Int → α) (num : V3 Int) (den : Nat) :
    ∃ g, extractSubvolume ofNat V f num den s = some g ∧
      ∀ t, s.inBox t = true → g t = if V.inBox (startOf3 num den s + t) = true then f (startOf3 num den s + t) else meanF ofNat V f :=
  extract_spec V s f (startOf3 num den s) (meanF ofNat V f)

/-- `crop` returns the window clipped to the volume; when the window is inside, it is the window itself -/
theorem crop_spec (V s : Shape) (f : V3 Int → α) (start : V3 Int)
    (hx : 0 ≤ start.x ∧ start.x + s.nx ≤ V.nx) (hy : 0 ≤ start.y ∧ start.y + s.ny ≤ V.ny) (hz : 0 ≤ start.z ∧ start.z + s.nz ≤ V.nz) :
    (cropF V f start s).1 = s ∧ ∀ t, (cropF V f start s).2 t = f (start + t) := by
  unfold cropF clip3
  simp only [clip1_inside _ _ _ hx.1 hx.2, clip1_inside _ _ _ hy.1 hy.2, clip1_inside _ _ _ hz.1 hz.2]
  refine ⟨?_, fun t => rfl⟩
  cases s; simp

/-- `crop`, any window (inside, partly outside, fully outside): the window clipped to the volume. The result has the
clipped extents; every voxel of it is the volume voxel `vs + t`, which lies in the volume and in the requested window;
and every volume voxel inside the requested window appears in the result (at `p - vs`). -/
theorem crop_spec_clipped (V s : Shape) (f : V3 Int → α) (start : V3 Int) :
    let c := clip3 start V s
    let vs : V3 Int := ⟨c.x.vs, c.y.vs, c.z.vs⟩
    (∀ t, (cropF V f start s).1.inBox t = true →
        (cropF V f start s).2 t = f (vs + t) ∧ V.inBox (vs + t) = true ∧ s.inBox (vs + t - start) = true) ∧
    (∀ p, V.inBox p = true → s.inBox (p - start) = true → (cropF V f start s).1.inBox (p - vs) = true) := by
  refine ⟨fun t ht => ⟨rfl, ?_⟩, fun p hp hw => ?_⟩
  · rw [inBox_iff] at ht
    have hx := (clip1_crop start.x V.nx s.nx _ t.x rfl).1 ht.1
    have hy := (clip1_crop start.y V.ny s.ny _ t.y rfl).1 ht.2.1
    have hz := (clip1_crop start.z V.nz s.nz _ t.z rfl).1 ht.2.2
    exact ⟨(inBox_iff _ _).2 ⟨hx.1, hy.1, hz.1⟩, (inBox_iff _ _).2 ⟨hx.2, hy.2, hz.2⟩⟩
  · rw [inBox_iff] at hp hw
    exact (inBox_iff _ _).2 ⟨(clip1_crop start.x V.nx s.nx p.x _ (add_sub_cancel _ _).symm).2 ⟨hp.1, hw.1⟩,
      (clip1_crop start.y V.ny s.ny p.y _ (add_sub_cancel _ _).symm).2 ⟨hp.2.1, hw.2.1⟩,
      (clip1_crop start.z V.nz s.nz p.z _ (add_sub_cancel _ _).symm).2 ⟨hp.2.2, hw.2.2⟩⟩

/-- anchor (holds by unfolding `cropDefault`, not a clause of the statement): `crop(map, new_size)` with `crop_coord` omitted is the
window about the box centre `shape // 2`; what that window contains is `crop_spec` / `crop_spec_clipped` -/
theorem crop_default_is_centre (V s : Shape) (f : V3 Int → α) :
    cropDefault V f s = cropF V f ⟨startOf (V.nx / 2 : Nat) 1 s.nx, startOf (V.ny / 2 : Nat) 1 s.ny, startOf (V.nz / 2 : Nat) 1 s.nz⟩ s := rfl

/-- `extract_subvolume(…, enforce_shape=True)`: the volume's own shape; a voxel keeps its value iff it lies in the
requested window, every other voxel is the fill value (the volume mean) -/
theorem extract_enforce_spec (V s : Shape) (f : V3 Int → α) (start : V3 Int) (fill : α) (p : V3 Int) (hp : V.inBox p = true) :
    extractEnforceF V f start s fill p = if s.inBox (p - start) = true then f p else fill :=
  ite_congr (propext (clip3_inVol_iff start V s p hp)) (fun _ => rfl) (fun _ => rfl)

/-- `pad`: the volume sits at `start = ⌈(new - old)/2⌉` on every axis (so the padding before exceeds the padding
after by at most one voxel), every other voxel is the fill value; never raises when the new size is not smaller -/
theorem pad_spec (N V : Shape) (f : V3 Int → α) (fill : α) (h : V.nx ≤ N.nx ∧ V.ny ≤ N.ny ∧ V.nz ≤ N.nz) :
    ∃ g, padF N V f fill = some g ∧
      (∀ t, V.inBox t = true → N.inBox (⟨padStart N.nx V.nx, padStart N.ny V.ny, padStart N.nz V.nz⟩ + t) = true ∧
        g (⟨padStart N.nx V.nx, padStart N.ny V.ny, padStart N.nz V.nz⟩ + t) = f t) ∧
      (∀ p, V.inBox (p - ⟨padStart N.nx V.nx, padStart N.ny V.ny, padStart N.nz V.nz⟩) = false → g p = fill) ∧
      (∀ new old : Nat, old ≤ new → 0 ≤ padStart new old ∧
        ((new : Int) - old - padStart new old ≤ padStart new old) ∧ (padStart new old ≤ (new : Int) - old - padStart new old + 1)) := by
  refine ⟨_, by unfold padF; rw [if_pos h], fun t ht => ⟨?_, ?_⟩, fun p hp => ?_, fun new old hle => ?_⟩
  · obtain ⟨hx, hy, hz⟩ := h
    simp only [inBox_iff, v3g_add_x, v3g_add_y, v3g_add_z, padStart] at ht ⊢
    omega
  · have e : (⟨padStart N.nx V.nx, padStart N.ny V.ny, padStart N.nz V.nz⟩ + t : V3 Int) - ⟨padStart N.nx V.nx, padStart N.ny V.ny, padStart N.nz V.nz⟩ = t :=
      V3.add_sub_cancel_left _ t
    simp only [e, ht, if_true]
  · simp only [hp]; rfl
  · unfold padStart; omega

/-- One stamp. Inside the container, a voxel takes the colour iff its template voxel `p - start` exists and is
on; everything else is untouched; the assignment never raises. -/
theorem stamp_spec (C os : Shape) (g : V3 Int → α) (st : Stamp α) :
    ∃ g', stampF C g os st = some g' ∧
      ∀ p, C.inBox p = true → g' p = if covers os st p = true then st.color else g p := by
  refine ⟨_, by unfold stampF; rw [if_pos (window_blocks_agree st.start C os)], fun p hp => ?_⟩
  by_cases h : os.inBox (p - st.start) = true
  · have h' := (clip3_inVol_iff st.start C os p hp).2 h
    simp only [h', if_true, clip3_toSub st.start C os p h', covers, h, Bool.true_and]
  · rw [if_neg (mt (clip3_inVol_iff st.start C os p hp).1 h), covers, Bool.eq_false_iff.2 h]
    rfl

/-- The loop (any number of particles). Every container voxel ends with the colour of the *last* particle whose
stamp covers it, or keeps its original value if none does. -/
theorem place_painter (C os : Shape) (g : V3 Int → α) (stamps : List (Stamp α)) :
    ∃ g', placeAll C g os stamps = some g' ∧
      ∀ p, C.inBox p = true →
        g' p = match stamps.reverse.find? (fun st => covers os st p) with
               | some st => st.color
               | none => g p := by
  induction stamps generalizing g with
  | nil => exact ⟨g, rfl, fun p _ => rfl⟩
  | cons st rest ih =>
    obtain ⟨g1, e1, h1⟩ := stamp_spec C os g st
    obtain ⟨g2, e2, h2⟩ := ih g1
    refine ⟨g2, by simp only [placeAll, e1, Option.bind_some, e2], fun p hp => ?_⟩
    rw [h2 p hp, List.reverse_cons, List.find?_append]
    cases hf : List.find? (fun st => covers os st p) rest.reverse with
    | some x => rfl
    | none =>
      simp only [Option.none_or, List.find?_cons, List.find?_nil]
      rw [h1 p hp]
      cases covers os st p <;> rfl

/-- 1-based → 0-based: the source subtracts exactly 1 -/
theorem place_offset_documented : Gen.C14.placeOffset = 1 := by decide

/-- The stamp start meets the statement, every template size (odd, even, mixed parity, non-cubic; every position): what
`place_object` computes — `⌊(pos − 1) + (s mod 2)/2 − s/2⌋` — is `⌊pos − 1⌋ − ⌊s/2⌋`: the template's centre voxel `⌊s/2⌋` (the voxel
`rotate` turns the template about) lands on the voxel that holds the 0-based complete position. -/
theorem placeStart_meets_statement (pos : V3 Rat) (os : Shape) : placeStartQ pos os = specStartQ pos os := by
  have key : ∀ (c : Rat) (s : Nat), startOfQ (c - ((Gen.C14.placeOffset : Int) : Rat) + ((s % 2 : Nat) : Rat) / 2) s
      = (c - 1).floor - ((s / 2 : Nat) : Int) := by
    intro c s; rw [placeOffset_cast, startOfQ_centred, ratFloor_eq]
  ext <;> simp only [placeStartQ, specStartQ, key]

/-- for a position `num/den`: the start is `⌊num/den⌋ − 1 − ⌊s/2⌋` on every axis (integer division = floor) -/
theorem placeStart_centred (num : V3 Int) (den : Nat) (os : Shape) :
    placeStart num den os = ⟨num.x / (den : Int) - 1 - ((os.nx / 2 : Nat) : Int), num.y / (den : Int) - 1 - ((os.ny / 2 : Nat) : Int),
      num.z / (den : Int) - 1 - ((os.nz / 2 : Nat) : Int)⟩ := by
  have key : ∀ n : Int, (mkRat n den - 1).floor = n / (den : Int) - 1 := by
    intro n
    rw [ratFloor_eq, Int.floor_sub_one, Rat.mkRat_eq_div, Rat.floor_intCast_div_natCast]
  unfold placeStart
  rw [placeStart_meets_statement]
  ext <;> simp only [specStartQ, key]

/-- the stamp start for any template size (odd, even, mixed), as a floor: the template's centre voxel `m = start + ⌊s/2⌋`
satisfies `m ≤ pos − 1 < m + 1` per axis for `pos = num/den` — `den·m ≤ num − den < den·(m + 1)`.  (The start used before the repair
of D33, `⌊(pos − 1) − s/2⌋`, is for odd sizes not this voxel: `old_place_start_odd_one_voxel_low`.) -/
theorem placeStart_floor (num : V3 Int) (den : Nat) (hd : 0 < den) (os : Shape) :
    ((den : Int) * ((placeStart num den os).x + ((os.nx / 2 : Nat) : Int)) ≤ num.x - den ∧
      num.x - den < (den : Int) * ((placeStart num den os).x + ((os.nx / 2 : Nat) : Int) + 1)) ∧
    ((den : Int) * ((placeStart num den os).y + ((os.ny / 2 : Nat) : Int)) ≤ num.y - den ∧
      num.y - den < (den : Int) * ((placeStart num den os).y + ((os.ny / 2 : Nat) : Int) + 1)) ∧
    ((den : Int) * ((placeStart num den os).z + ((os.nz / 2 : Nat) : Int)) ≤ num.z - den ∧
      num.z - den < (den : Int) * ((placeStart num den os).z + ((os.nz / 2 : Nat) : Int) + 1)) := by
  have hd' : (0 : Int) < (den : Int) := by exact_mod_cast hd
  have key : ∀ (n : Int) (h : Int), (den : Int) * (n / (den : Int) - 1 - h + h) ≤ n - den ∧ n - den < (den : Int) * (n / (den : Int) - 1 - h + h + 1) := by
    intro n h
    obtain ⟨e1, e2⟩ := ediv_floor n den hd'
    constructor <;> linarith
  rw [placeStart_centred]
  exact ⟨key _ _, key _ _, key _ _⟩

/-- one particle, any window start: the stamp of a template rotated by an orthogonal `R` paints the container voxel at offset `R v` from the
image `start + ⌊s/2⌋` of the template centre, for every template voxel `⌊s/2⌋ + v` that is on -/
theorem place_rotated (C : Shape) (g : V3 Int → α) (os : Shape) (tmpl : V3 Int → Rat) (R : M3 Int) (hR : R.Orth)
    (start : V3 Int) (col : α) (v : V3 Int)
    (hv : os.inBox (os.centre + v) = true)
    (hon : isOn (tmpl (os.centre + v)) = true)
    (hRv : os.inBox (os.centre + R.apply v) = true)
    (hC : C.inBox (start + (os.centre + R.apply v)) = true) :
    ∃ g', placeAll C g os [⟨fun t => isOn (rotateBy R os tmpl t), start, col⟩] = some g' ∧
      g' (start + (os.centre + R.apply v)) = col := by
  obtain ⟨g', e, h⟩ := stamp_spec C os g ⟨fun t => isOn (rotateBy R os tmpl t), start, col⟩
  refine ⟨g', by simp only [placeAll, e, Option.bind_some], ?_⟩
  rw [h _ hC, if_pos]
  unfold covers
  rw [V3.add_sub_cancel_left, hRv, Bool.true_and]
  show isOn (rotateBy R os tmpl _) = true
  rw [rotate_index R hR os tmpl v hv]
  exact hon

/-- Placement uses the particle's active orientation — any template shape (odd, even, mixed parity, non-cubic).
A particle with orientation `R` (orthogonal integer matrix, e.g. any cube rotation `zxz(phi,theta,psi)`), complete
position `pos = num/den` and field value `col`; a template voxel at offset `v` from the template centre `⌊s/2⌋` that is
above the threshold: the container voxel `start + ⌊s/2⌋ + R v` receives `col`, where `start + ⌊s/2⌋ = ⌊pos - 1⌋`
(`placeStart_centred`, `placeStart_floor`) — the template centre lands on `start + ⌊s/2⌋` and offsets are carried by the same `R v` by which
`shift_positions` carries a reference offset into the tomogram. -/
theorem place_active_any (C : Shape) (g : V3 Int → α) (os : Shape) (tmpl : V3 Int → Rat) (R : M3 Int) (hR : R.Orth)
    (num : V3 Int) (den : Nat) (col : α) (v : V3 Int)
    (hv : os.inBox (os.centre + v) = true)
    (hon : isOn (tmpl (os.centre + v)) = true)
    (hRv : os.inBox (os.centre + R.apply v) = true)
    (hC : C.inBox (placeStart num den os + (os.centre + R.apply v)) = true) :
    ∃ g', placeAll C g os [cubeStamp os tmpl R num den col] = some g' ∧
      g' (placeStart num den os + (os.centre + R.apply v)) = col :=
  place_rotated C g os tmpl R hR (placeStart num den os) col v hv hon hRv hC

/-- even templates (`2a × 2b × 2c`): the template centre lands on `⌊pos⌋ - 1`, so the container voxel at offset
`R v` from `⌊pos⌋ - 1` receives `col` (instance of `place_active_any` through `placeStart_centred`). -/
theorem place_active (C : Shape) (g : V3 Int → α) (a b c : Nat) (tmpl : V3 Int → Rat) (R : M3 Int) (hR : R.Orth)
    (num : V3 Int) (den : Nat) (hd : 0 < den) (col : α) (v : V3 Int)
    (hv : (⟨2 * a, 2 * b, 2 * c⟩ : Shape).inBox ((⟨2 * a, 2 * b, 2 * c⟩ : Shape).centre + v) = true)
    (hon : isOn (tmpl ((⟨2 * a, 2 * b, 2 * c⟩ : Shape).centre + v)) = true)
    (hRv : (⟨2 * a, 2 * b, 2 * c⟩ : Shape).inBox ((⟨2 * a, 2 * b, 2 * c⟩ : Shape).centre + R.apply v) = true)
    (hC : C.inBox ((⟨num.x / (den : Int) - 1, num.y / (den : Int) - 1, num.z / (den : Int) - 1⟩ : V3 Int) + R.apply v) = true) :
    ∃ g', placeAll C g ⟨2 * a, 2 * b, 2 * c⟩ [cubeStamp ⟨2 * a, 2 * b, 2 * c⟩ tmpl R num den col] = some g' ∧
      g' ((⟨num.x / (den : Int) - 1, num.y / (den : Int) - 1, num.z / (den : Int) - 1⟩ : V3 Int) + R.apply v) = col := by
  have _ := hd  -- not needed: `placeStart_centred` holds for every `den`
  have hpt : ((⟨num.x / (den : Int) - 1, num.y / (den : Int) - 1, num.z / (den : Int) - 1⟩ : V3 Int) + R.apply v)
      = placeStart num den ⟨2 * a, 2 * b, 2 * c⟩ + ((⟨2 * a, 2 * b, 2 * c⟩ : Shape).centre + R.apply v) := by
    rw [placeStart_centred]
    ext <;> simp only [Shape.centre, v3g_add_x, v3g_add_y, v3g_add_z] <;> omega
  rw [hpt] at hC ⊢
  exact place_active_any C g ⟨2 * a, 2 * b, 2 * c⟩ tmpl R hR num den col v hv hon hRv hC

/-- `Motl.get_rotations`, `get_angles`, `get_coordinates` and `shift_positions`, every statement: the orientation is
`from_euler("zxz", [phi, theta, psi], degrees=True)` of the angle columns as they are at the call (no cache, nothing between the table
and the rotation), the complete position is `x + shift_x`, and `shift_coords` adds `orientation.apply(shift)` to the shift columns
(of the row converted to floating point first, so that a table with integer-typed columns can take the rotated offset: the repair
of a pandas-3 TypeError; no other statement) -/
theorem motl_bodies_documented :
    Gen.C14.motlRotationsBody =
      ["angles=self.get_angles(tomo_number)",
       "if angles.shape[0]==0:",
       ">return []",
       "rotations=rot.from_euler('zxz',angles,degrees=True)",
       "return rotations"] ∧
    Gen.C14.motlAnglesBody =
      ["if tomo_numberisNone:",
       ">angles=self.df.loc[:,['phi','theta','psi']].values",
       "else:",
       ">angles=self.df.loc[self.df.loc[:,'tomo_id']==tomo_number,['phi','theta','psi']].values",
       "return np.atleast_2d(angles)"] ∧
    Gen.C14.motlCoordsBody =
      ["if tomo_numberisNone:",
       ">coord=self.df.loc[:,['x','y','z']].values+self.df.loc[:,['shift_x','shift_y','shift_z']].values",
       "else:",
       ">coord=self.df.loc[self.df.loc[:,'tomo_id']==tomo_number,['x','y','z']].values+self.df.loc[self.df.loc[:,'tomo_id']==tomo_number,['shift_x','shift_y','shift_z']].values",
       "return coord"] ∧
    Gen.C14.motlShiftBody =
      ["def shift_coords(row):",
       ">row=row.astype(float)",
       ">v=np.array(shift)",
       ">euler_angles=np.array([[row['phi'],row['theta'],row['psi']]])",
       ">orientations=rot.from_euler(seq='zxz',angles=euler_angles,degrees=True)",
       ">rshifts=orientations.apply(v)",
       ">row['shift_x']=row['shift_x']+rshifts[0][0]",
       ">row['shift_y']=row['shift_y']+rshifts[0][1]",
       ">row['shift_z']=row['shift_z']+rshifts[0][2]",
       ">return row",
       "if inplace:",
       ">self.df=self.df.apply(shift_coords,axis=1).reset_index(drop=True)",
       "else:",
       ">new_motl=copy.deepcopy(self)",
       ">new_motl.df=new_motl.df.apply(shift_coords,axis=1).reset_index(drop=True)",
       ">return new_motl"] ∧
    Gen.C14.motlRotationsSig = ["self", "tomo_number=None"] ∧ Gen.C14.motlAnglesSig = ["self", "tomo_number=None"] ∧
    Gen.C14.motlCoordsSig = ["self", "tomo_number=None"] ∧ Gen.C14.motlShiftSig = ["self", "shift", "inplace=True"] := by
  repeat' constructor

/-- `shift_positions` carries the offset by the particle's orientation, any angles. Over any commutative ring and any
trigonometric service: the complete position of the shifted row is the old one plus `R v`, `R` = the row's `zxz(phi, theta, psi)`
— the same `R` by which `rotate` moves density (`rotate_coordinate_active_zxz`); angles (hence `R`) are unchanged. -/
theorem shift_moves_position {K : Type} [CommRing K] (cs : K → K × K) (v : V3 K) (p : Particle K) :
    rowCoords (shiftRow cs v p) = rowCoords p + (rowRotation cs p).apply v ∧
    rowRotation cs (shiftRow cs v p) = rowRotation cs p := by
  refine ⟨?_, rfl⟩
  ext <;> simp only [rowCoords, shiftRow, v3g_add_x, v3g_add_y, v3g_add_z] <;> ring

/-- the exact form for right-angle Euler angles and an integer offset: `shiftRowCube` succeeds exactly when the three angles
are whole quarter turns, moves the complete position by `R v` (`R = rowCube`), and leaves orientation and every other field alone -/
theorem shift_moves_position_cube (v : V3 Int) (p : Particle Rat) (R : M3 Int) (hR : rowCube p = some R) :
    ∃ p', shiftRowCube v p = some p' ∧
      rowCoords p' = rowCoords p + ⟨((R.apply v).x : Rat), ((R.apply v).y : Rat), ((R.apply v).z : Rat)⟩ ∧
      rowCube p' = some R ∧
      ∀ f : CryoCat.Field, f ≠ .shift_x → f ≠ .shift_y → f ≠ .shift_z → p'.get f = p.get f := by
  refine ⟨_, by unfold shiftRowCube; rw [hR]; rfl, ?_, ?_, ?_⟩
  · ext <;> simp only [rowCoords, v3g_add_x, v3g_add_y, v3g_add_z] <;> ring
  · exact hR
  · intro f h1 h2 h3
    cases f <;> first | rfl | exact absurd rfl h1 | exact absurd rfl h2 | exact absurd rfl h3

/-- the template's centre voxel `m = start + ⌊s/2⌋` is the voxel holding the 0-based position: `m ≤ pos − 1 < m + 1` on every axis -/
theorem placeStartQ_floor (pos : V3 Rat) (os : Shape) :
    ((((placeStartQ pos os).x + ((os.nx / 2 : Nat) : Int) : Int) : Rat) ≤ pos.x - 1 ∧ pos.x - 1 < (((placeStartQ pos os).x + ((os.nx / 2 : Nat) : Int) : Int) : Rat) + 1) ∧
    ((((placeStartQ pos os).y + ((os.ny / 2 : Nat) : Int) : Int) : Rat) ≤ pos.y - 1 ∧ pos.y - 1 < (((placeStartQ pos os).y + ((os.ny / 2 : Nat) : Int) : Int) : Rat) + 1) ∧
    ((((placeStartQ pos os).z + ((os.nz / 2 : Nat) : Int) : Int) : Rat) ≤ pos.z - 1 ∧ pos.z - 1 < (((placeStartQ pos os).z + ((os.nz / 2 : Nat) : Int) : Int) : Rat) + 1) := by
  have key : ∀ (c : Rat) (h : Int), (((c.floor - h + h : Int)) : Rat) ≤ c ∧ c < (((c.floor - h + h : Int)) : Rat) + 1 := by
    intro c h
    rw [sub_add_cancel, ratFloor_eq]
    exact ⟨Int.floor_le _, Int.lt_floor_add_one _⟩
  rw [placeStart_meets_statement]
  exact ⟨key _ _, key _ _, key _ _⟩

theorem placeStartQ_add_int (pos : V3 Rat) (w : V3 Int) (os : Shape) :
    placeStartQ (pos + ⟨(w.x : Rat), (w.y : Rat), (w.z : Rat)⟩) os = placeStartQ pos os + w := by
  have key : ∀ (c : Rat) (k : Int) (o h : Rat) (s : Nat), startOfQ (c + (k : Rat) - o + h) s = startOfQ (c - o + h) s + k := by
    intro c k o h s
    rw [← startOfQ_add_int]; congr 1; ring
  ext <;> simp only [placeStartQ, v3g_add_x, v3g_add_y, v3g_add_z, key]

/-- `shift_positions` then `place_object`. For a row with right-angle orientation `R` and an integer offset `v`
in the particle's frame: the stamp of the shifted row is the stamp of the original row — same rotated, thresholded mask, same
colour — moved by `R v` in the container. -/
theorem shift_moves_stamp (os : Shape) (tmpl : V3 Int → Rat) (feature : CryoCat.Field)
    (hf : feature ≠ .shift_x ∧ feature ≠ .shift_y ∧ feature ≠ .shift_z)
    (v : V3 Int) (p : Particle Rat) (R : M3 Int) (hR : rowCube p = some R) :
    ∃ p' st, shiftRowCube v p = some p' ∧ rowStamp os tmpl feature p = some st ∧
      rowStamp os tmpl feature p' = some ⟨st.mask, st.start + R.apply v, st.color⟩ := by
  obtain ⟨p', e, hc, hR', hg⟩ := shift_moves_position_cube v p R hR
  refine ⟨p', ⟨fun t => isOn (rotateBy R os tmpl t), placeStartQ (rowCoords p) os, p.get feature⟩, e, ?_, ?_⟩
  · unfold rowStamp; rw [hR]; rfl
  · unfold rowStamp; rw [hR', hc, placeStartQ_add_int, hg feature hf.1 hf.2.1 hf.2.2]; rfl

/-- Placement from the table rows (any number of particles). When every row has right-angle Euler angles, `placeMotl` is the
painter's loop `placeAll` (characterised by `place_painter`) over the rows' stamps in table order: orientation from the angle
columns, position `x + shift - 1`, colour = the row's value of the colouring field -/
theorem placeMotl_painter (C os : Shape) (g : V3 Int → Rat) (tmplOf : Nat → V3 Int → Rat) (feature : CryoCat.Field) (m : Motl Rat)
    (stamps : List (Stamp Rat)) (hs : (m.zipIdx.mapM fun pi => rowStamp os (tmplOf pi.2) feature pi.1) = some stamps) :
    placeMotl C g os tmplOf feature m = placeAll C g os stamps := by
  unfold placeMotl; rw [hs]; rfl

/-- One particle, through the accessors. A row with right-angle orientation `R`; a template voxel at offset `v` from the
template centre `⌊s/2⌋` above the threshold: the container voxel `start + ⌊s/2⌋ + R v` receives the row's value of the colouring
field; `start + ⌊s/2⌋` is the voxel holding `(x + shift_x) − 1` (`placeStart_meets_statement`, `placeStartQ_floor`). -/
theorem placeMotl_active (C : Shape) (g : V3 Int → Rat) (os : Shape) (tmpl : V3 Int → Rat) (feature : CryoCat.Field)
    (p : Particle Rat) (R : M3 Int) (hcube : rowCube p = some R) (hR : R.Orth) (v : V3 Int)
    (hv : os.inBox (os.centre + v) = true)
    (hon : isOn (tmpl (os.centre + v)) = true)
    (hRv : os.inBox (os.centre + R.apply v) = true)
    (hC : C.inBox (placeStartQ (rowCoords p) os + (os.centre + R.apply v)) = true) :
    ∃ g', placeMotl C g os (fun _ => tmpl) feature [p] = some g' ∧
      g' (placeStartQ (rowCoords p) os + (os.centre + R.apply v)) = p.get feature := by
  have hs : ([p].zipIdx.mapM fun pi => rowStamp os ((fun _ => tmpl) pi.2) feature pi.1)
      = some [⟨fun t => isOn (rotateBy R os tmpl t), placeStartQ (rowCoords p) os, p.get feature⟩] := by
    simp [rowStamp, hcube]
  rw [placeMotl_painter C os g (fun _ => tmpl) feature [p] _ hs]
  exact place_rotated C g os tmpl R hR _ _ v hv hon hRv hC

/-! defect D33 (repaired): templates of odd size sat one voxel low -/

/-- regression witness (defect D33). The window start `place_object` used before the repair, `⌊pos − 1 − s/2⌋`, puts the centre
voxel of a template of odd size `2h+1` at a whole-number complete position `n` on 0-based voxel `n − 2` — one voxel below the voxel
`n − 1` the statement names and the repaired code (`placeStart_meets_statement`) uses -/
theorem old_place_start_odd_one_voxel_low (n : Int) (y z : Rat) (h ny nz : Nat) :
    (oldPlaceStartQ ⟨(n : Rat), y, z⟩ ⟨2 * h + 1, ny, nz⟩).x + (h : Int) = n - 2 ∧
    (placeStartQ ⟨(n : Rat), y, z⟩ ⟨2 * h + 1, ny, nz⟩).x + (h : Int) = n - 1 := by
  have hh : (2 * h + 1) / 2 = h := by omega
  have c1 : ((n : Rat) - 1) = ((n - 1 : Int) : Rat) := by push_cast; ring
  constructor
  · simp only [oldPlaceStartQ, c1]
    have := startOfQ_odd_int (n - 1) h
    omega
  · rw [placeStart_meets_statement]
    simp only [specStartQ, ratFloor_eq, hh, c1, Int.floor_intCast]; omega

/-- the exact class of the old defect: on an axis of odd size the old start equals the statement's iff the fractional part of the
0-based position is at least 1/2, otherwise it is exactly one voxel lower (x axis shown) -/
theorem old_place_start_odd_cases (pos : V3 Rat) (h ny nz : Nat) :
    (oldPlaceStartQ pos ⟨2 * h + 1, ny, nz⟩).x =
      if ((⌊pos.x - 1⌋ : Int) : Rat) + 1 / 2 ≤ pos.x - 1 then (specStartQ pos ⟨2 * h + 1, ny, nz⟩).x
      else (specStartQ pos ⟨2 * h + 1, ny, nz⟩).x - 1 := by
  have hh : (2 * h + 1) / 2 = h := by omega
  have := startOfQ_odd_cases (pos.x - 1) h
  simp only [oldPlaceStartQ, specStartQ, ratFloor_eq, hh]
  split at this <;> rename_i hc <;> simp only [hc, if_true, if_false] <;> omega

/-- the repaired pipeline evaluated: a 5³ and a 4³ template with only the centre voxel on, one particle at (6, 6, 6) with object_id 7
in a 12³ container — both stamp voxel (5,5,5) = pos − 1 and leave (4,4,4) alone -/
theorem place_template_centred_on_position :
    (placeMotl ⟨12, 12, 12⟩ (fun _ => 0) ⟨5, 5, 5⟩ (fun _ t => if t = ⟨2, 2, 2⟩ then 1 else 0) .object_id
        [{ (default : Particle Rat) with x := 6, y := 6, z := 6, object_id := 7 }]).map
      (fun g => (g ⟨4, 4, 4⟩, g ⟨5, 5, 5⟩)) = some (0, 7) ∧
    (placeMotl ⟨12, 12, 12⟩ (fun _ => 0) ⟨4, 4, 4⟩ (fun _ t => if t = ⟨2, 2, 2⟩ then 1 else 0) .object_id
        [{ (default : Particle Rat) with x := 6, y := 6, z := 6, object_id := 7 }]).map
      (fun g => (g ⟨4, 4, 4⟩, g ⟨5, 5, 5⟩)) = some (0, 7) := by
  constructor <;> decide +kernel

section sym
open Finset
variable {K : Type} [_root_.Field K] {X : Type}

/-- `symmetrize_volume` returns the mean of the n rotated copies (`rot k` = the map rotated by `k·360/n` about z) -/
theorem symmetrize_is_mean (n : Nat) (rot : Nat → X → K) (p : X) :
    symmetrizeF (fun m : Nat => (m : K)) n rot p = (∑ k ∈ range n, rot (k + 1) p) / (n : K) :=
  congrArg (· / (n : K)) (foldl_add_eq_sum (fun k => rot (k + 1) p) n)

/-- Invariance under an exact cyclic action (any n in the abstract; met by `rotate` only for n ∈ {1, 2, 4}). If rotation by
`360/n` acts exactly on voxels — `rot k` samples the map at `σᵏ p` with `σⁿ = id` — the symmetrised map has the same value at `p`
and at `σ p`: rotating it by `360/n` returns it unchanged.  The real `rotate` satisfies the hypothesis only when `360/n` is a
multiple of 90° (`symExact_invariant` instantiates it there); for the other n of the quantifier (3, 5..12) an interpolating rotation
is not an exact action and invariance is validated on smooth blobs, not proved. -/
theorem symmetrize_invariant (n : Nat) (σ : X → X) (hσ : ∀ x, σ^[n] x = x) (f : X → K) (p : X) :
    symmetrizeF (fun m : Nat => (m : K)) n (fun k q => f (σ^[k] q)) (σ p)
      = symmetrizeF (fun m : Nat => (m : K)) n (fun k q => f (σ^[k] q)) p := by
  rw [symmetrize_is_mean, symmetrize_is_mean, sum_orbit_invariant σ n hσ f p]

/-- Same total density under an exact cyclic action (finite voxel set, `n` invertible in the number field; same scope as
`symmetrize_invariant`: the hypothesis `σⁿ = id` with `rot k = f ∘ σᵏ` is met by `rotate` for n ∈ {1, 2, 4} only —
`symExact_total` is that instance on a box) -/
theorem symmetrize_total [Fintype X] (n : Nat) (hn : (n : K) ≠ 0) (σ : X → X) (hσ : ∀ x, σ^[n] x = x) (f : X → K) :
    ∑ x, symmetrizeF (fun m : Nat => (m : K)) n (fun k q => f (σ^[k] q)) x = ∑ x, f x := by
  simp only [symmetrize_is_mean]
  exact sum_sym_total σ n hn hσ univ univ (Subset.refl _) (fun x _ => mem_univ _) f fun x hx => absurd (mem_univ x) hx

/-- The executable n ∈ {1, 2, 4} model is such an exact action: the voxel map `σ` of the quarter-turn rotation
about z satisfies `σⁿ = id` on the whole grid, and `symmetrizeExact` samples the zero-continued map along `σ`. -/
theorem symExact_invariant (n : Nat) (hn : n * (4 / n) = 4) (s : Shape) (f : V3 Int → K) (p : V3 Int) :
    symmetrizeExact (fun m : Nat => (m : K)) n s f (srcCoord (rzQuarter (4 / n)).transpose s.centre p)
      = symmetrizeExact (fun m : Nat => (m : K)) n s f p := by
  rw [symmetrizeExact_eq_orbit]
  exact symmetrize_invariant n _ (sigma_period n hn s.centre) (zeroExt s f) p

/-- hence rotating the symmetrised map by `360/n` with `rotate` gives it back wherever the sampled voxel is in the box -/
theorem symExact_rotate_invariant (n : Nat) (hn : n * (4 / n) = 4) (s : Shape) (f : V3 Int → K) (p : V3 Int)
    (hin : s.inBox (srcCoord (rzQuarter (4 / n)).transpose s.centre p) = true) :
    rotateBy (rzQuarter (4 / n)) s (symmetrizeExact (fun m : Nat => (m : K)) n s f) p
      = symmetrizeExact (fun m : Nat => (m : K)) n s f p :=
  (rotateBy_eq rfl hin).trans (symExact_invariant n hn s f p)

/-- Same total density — the executable n ∈ {1, 2, 4} model on a concrete box (the instantiation of `symmetrize_total`
for a box; `voxels s` is the finite set of all voxel indices of the box, `mem_voxels`).  `n = 4` needs a square x–y
section; an even size needs the map to vanish on its plane `x = 0` (resp. `y = 0`), e.g. a map with zero faces — that plane
has no mirror image about the centre `⌊N/2⌋`; odd sizes need nothing. -/
theorem symExact_total (n : Nat) (hn : n * (4 / n) = 4) (hK : (n : K) ≠ 0) (s : Shape) (hsq : n = 4 → s.nx = s.ny)
    (f : V3 Int → K)
    (hface : ∀ p, s.inBox p = true → ((s.nx % 2 = 0 ∧ p.x = 0) ∨ (s.ny % 2 = 0 ∧ p.y = 0)) → f p = 0) :
    ∑ p ∈ voxels s, symmetrizeExact (fun m : Nat => (m : K)) n s f p = ∑ p ∈ voxels s, f p := by
  -- the zero-continued map vanishes off the core: outside the box by definition, on the unpaired faces by `hface`
  have hg : ∀ x, x ∉ core s → zeroExt s f x = 0 := fun x hx => by
    by_cases hb : s.inBox x = true
    · rw [zeroExt, if_pos hb]; exact hface x hb (face_of_not_mem_core s x hb hx)
    · rw [zeroExt, if_neg hb]
  rw [symmetrizeExact_eq_orbit]
  simp only [symmetrize_is_mean]
  rw [sum_sym_total _ n hK (sigma_period n hn s.centre) (voxels s) (core s) (core_subset s) (sigma_maps_core n hn s hsq) _ hg]
  exact Finset.sum_congr rfl fun p hp => if_pos ((mem_voxels s p).1 hp)

/-- the same in the model's own `np.sum` (`sumBox`, the left fold over the voxels in C order) -/
theorem symExact_total_sum (n : Nat) (hn : n * (4 / n) = 4) (hK : (n : K) ≠ 0) (s : Shape) (hsq : n = 4 → s.nx = s.ny)
    (f : V3 Int → K)
    (hface : ∀ p, s.inBox p = true → ((s.nx % 2 = 0 ∧ p.x = 0) ∨ (s.ny % 2 = 0 ∧ p.y = 0)) → f p = 0) :
    sumBox s (symmetrizeExact (fun m : Nat => (m : K)) n s f) = sumBox s f := by
  rw [sumBox_eq_sum, sumBox_eq_sum]; exact symExact_total n hn hK s hsq f hface

theorem voxels_spec (s : Shape) (p : V3 Int) : p ∈ voxels s ↔ s.inBox p = true := mem_voxels s p
end sym

/-- what the driver prints for a model result `f` (`Vol.tab`) holds `f p` at every voxel `p` of the box, and reading a
request volume back (`Vol.getD`) returns the voxel that was written -/
theorem driver_plumbing (s : Shape) (f : V3 Int → α) (d : α) (p : V3 Int) (h : s.inBox p = true) :
    (Vol.tab s f).getD d p = f p := by
  rw [Vol.getD, tab_get? s f p h]; rfl

/-! non-vacuity: every hypothesis above is met by concrete non-trivial inputs -/
section examples
/-- a cube rotation that is not the identity, is orthogonal, and moves the offset (1,0,0) to (0,0,1) -/
example : cubeZxz 1 1 0 ∈ cube24 ∧ (cubeZxz 1 1 0).Orth ∧ (cubeZxz 1 1 0).apply ⟨1, 0, 0⟩ = (⟨0, 0, 1⟩ : V3 Int) := by
  exact ⟨cubeZxz_mem 1 (by decide) 1 (by decide) 0 (by decide), (cubeZxz_isRot 1 1 0).1, by decide⟩
/-- `rotate_index` / `rotate_inverse_restores`: odd and even boxes with `c + v`, `c + R v` both inside -/
example : (⟨5, 6, 7⟩ : Shape).inBox ((⟨5, 6, 7⟩ : Shape).centre + ⟨1, -2, 2⟩) = true ∧
    (⟨5, 6, 7⟩ : Shape).inBox (srcCoord (cubeZxz 0 0 1) (⟨5, 6, 7⟩ : Shape).centre ⟨3, 1, 5⟩) = true := by decide
/-- the index law evaluated: a 5×6×7 map with voxel value `100x+10y+z`, rotated by 90° about z -/
example : rotateBy (cubeZxz 0 0 1) ⟨5, 6, 7⟩ (fun p : V3 Int => 100 * p.x + 10 * p.y + p.z) ⟨1, 4, 3⟩ = 343 := by decide
/-- over a commutative ring with a genuinely non-integer rotation: (c, s) = (3/5, 4/5) about z -/
example : (3/5 : Rat) * (3/5) + (4/5) * (4/5) = 1 := by norm_num
/-- windows: fully inside, partly outside, fully outside (volume 6, window 4), and a half-integer centre -/
example : clip1 1 6 4 = ⟨1, 5, 0, 4⟩ ∧ clip1 (-2) 6 4 = ⟨0, 2, 2, 4⟩ ∧ clip1 4 6 4 = ⟨4, 6, 0, 2⟩ ∧
    clip1 7 6 4 = ⟨6, 6, 0, 0⟩ ∧ clip1 (-9) 6 4 = ⟨0, 0, 4, 4⟩ ∧ startOf 7 2 4 = 1 ∧ startOf (-1) 2 4 = -3 := by decide
/-- `crop_spec`: a window inside the volume -/
example : (0 : Int) ≤ 1 ∧ (1 : Int) + (4 : Nat) ≤ (6 : Nat) := by decide
/-- `place_active`: template 4×4×4 with the voxel at offset (1,0,-1) on (value 1/8 > 1/10), particle at (5.25, 6, 7.5),
orientation `zxz(90°, 90°, 0°)`, container 12³ -/
example : (⟨2 * 2, 2 * 2, 2 * 2⟩ : Shape).inBox ((⟨2 * 2, 2 * 2, 2 * 2⟩ : Shape).centre + ⟨1, 0, -1⟩) = true ∧
    isOn ((fun p : V3 Int => if p = ⟨3, 2, 1⟩ then mkRat 1 8 else 0) ((⟨2 * 2, 2 * 2, 2 * 2⟩ : Shape).centre + ⟨1, 0, -1⟩)) = true ∧
    (⟨2 * 2, 2 * 2, 2 * 2⟩ : Shape).inBox ((⟨2 * 2, 2 * 2, 2 * 2⟩ : Shape).centre + (cubeZxz 1 1 0).apply ⟨1, 0, -1⟩) = true ∧
    (⟨12, 12, 12⟩ : Shape).inBox ((⟨(21 : Int) / ((4 : Nat) : Int) - 1, (24 : Int) / ((4 : Nat) : Int) - 1, (30 : Int) / ((4 : Nat) : Int) - 1⟩ : V3 Int)
      + (cubeZxz 1 1 0).apply ⟨1, 0, -1⟩) = true := by decide
/-- the painter's loop on two overlapping stamps: the later colour wins, untouched voxels keep the container value -/
example : (placeAll ⟨4, 4, 4⟩ (fun _ => (7 : Int)) ⟨2, 2, 2⟩
      [⟨fun _ => true, ⟨0, 0, 0⟩, 1⟩, ⟨fun t => decide (t.x = 0), ⟨1, 1, 1⟩, 2⟩]).map
      (fun g => [g ⟨0, 0, 0⟩, g ⟨1, 1, 1⟩, g ⟨2, 1, 1⟩, g ⟨3, 3, 3⟩]) = some [1, 2, 7, 7] := by decide
/-- `symmetrize_invariant` / `symmetrize_total` with the action they are used for: the voxel map of the 90° rotation about z on a
5×5×3 box is cyclic of order n = 4 on the whole grid and not the identity -/
example : (∀ x : V3 Int, (srcCoord (rzQuarter 1).transpose (⟨5, 5, 3⟩ : Shape).centre)^[4] x = x) ∧
    srcCoord (rzQuarter 1).transpose (⟨5, 5, 3⟩ : Shape).centre ⟨4, 2, 1⟩ ≠ (⟨4, 2, 1⟩ : V3 Int) ∧ ((4 : Nat) : Rat) ≠ 0 := by
  exact ⟨sigma_period 4 rfl _, by decide, by norm_num⟩
/-- … and an abstract exact cyclic action with n = 3 that is not the identity (no map rotation has this order exactly), over ℚ -/
example : (∀ x : Fin 3, (fun x => x + 1)^[3] x = x) ∧ ((3 : Nat) : Rat) ≠ 0 ∧ (fun x : Fin 3 => x + 1) 0 ≠ 0 := by
  refine ⟨by decide, by norm_num, by decide⟩
/-- n ∈ {1, 2, 4} meet `n * (4 / n) = 4`; the 4-fold voxel map on a 5×5×3 box moves voxel (4,2,1) to (2,0,1) -/
example : 1 * (4 / 1) = 4 ∧ 2 * (4 / 2) = 4 ∧ 4 * (4 / 4) = 4 ∧
    srcCoord (rzQuarter (4 / 4)).transpose (⟨5, 5, 3⟩ : Shape).centre ⟨4, 2, 1⟩ = (⟨2, 0, 1⟩ : V3 Int) := by decide
/-- `symExact_total`: a 4-fold symmetrisation of a 5×5×3 map (odd: no face condition) over ℚ, evaluated -/
example : ((4 : Nat) : Rat) ≠ 0 ∧ (4 = 4 → (⟨5, 5, 3⟩ : Shape).nx = (⟨5, 5, 3⟩ : Shape).ny) ∧
    (∀ p : V3 Int, (⟨5, 5, 3⟩ : Shape).inBox p = true →
      (((⟨5, 5, 3⟩ : Shape).nx % 2 = 0 ∧ p.x = 0) ∨ ((⟨5, 5, 3⟩ : Shape).ny % 2 = 0 ∧ p.y = 0)) → (fun q : V3 Int => ((q.x + 2 * q.y : Int) : Rat)) p = 0) := by
  refine ⟨by norm_num, fun _ => rfl, fun p _ h => ?_⟩
  rcases h with ⟨h, _⟩ | ⟨h, _⟩ <;> simp at h
/-- `place_active_any`: an odd 5×3×7 template, voxel at offset (1,0,-2) on, pose `zxz(0°, 0°, 90°)`, position (6.5, 7, 8.25), container 14³ -/
example : (⟨5, 3, 7⟩ : Shape).inBox ((⟨5, 3, 7⟩ : Shape).centre + ⟨1, 0, -2⟩) = true ∧
    (⟨5, 3, 7⟩ : Shape).inBox ((⟨5, 3, 7⟩ : Shape).centre + (cubeZxz 0 0 1).apply ⟨1, 0, -2⟩) = true ∧
    placeStart ⟨26, 28, 33⟩ 4 ⟨5, 3, 7⟩ = ⟨3, 5, 4⟩ ∧
    (⟨14, 14, 14⟩ : Shape).inBox (placeStart ⟨26, 28, 33⟩ 4 ⟨5, 3, 7⟩ + ((⟨5, 3, 7⟩ : Shape).centre + (cubeZxz 0 0 1).apply ⟨1, 0, -2⟩)) = true := by
  refine ⟨by decide, by decide, by decide +kernel, by decide +kernel⟩
/-- `shift_moves_stamp` / `placeMotl_active`: a row with angles (90°, −270°, 450°) — quarter turns of either sign, beyond one turn —
at (5.25, 6, 7.5) is a right-angle row with the orientation `zxz(1, 1, 1)`, and `object_id` is not a shift column -/
example : rowCube { (default : Particle Rat) with x := 5, shift_x := 1/4, y := 6, z := 7, shift_z := 1/2, phi := 90, theta := -270, psi := 450 }
      = some (cubeZxz 1 1 1) ∧
    (CryoCat.Field.object_id ≠ .shift_x ∧ CryoCat.Field.object_id ≠ .shift_y ∧ CryoCat.Field.object_id ≠ .shift_z) ∧
    quarterOf 45 = none ∧ quarterOf (1/2) = none := by
  refine ⟨by decide +kernel, ⟨by decide, by decide, by decide⟩, by decide +kernel, by decide +kernel⟩
/-- `crop_spec_clipped` / `extract_enforce_spec` / `pad_spec` evaluated: a window hanging over the upper x face; padding 5 → 8 -/
example : (cropF ⟨6, 6, 6⟩ (fun p : V3 Int => 100 * p.x + 10 * p.y + p.z) ⟨4, 1, 2⟩ ⟨4, 2, 2⟩).1 = ⟨2, 2, 2⟩ ∧
    (cropF ⟨6, 6, 6⟩ (fun p : V3 Int => 100 * p.x + 10 * p.y + p.z) ⟨4, 1, 2⟩ ⟨4, 2, 2⟩).2 ⟨1, 1, 0⟩ = 522 ∧
    extractEnforceF ⟨6, 6, 6⟩ (fun p : V3 Int => 100 * p.x + 10 * p.y + p.z) ⟨4, 1, 2⟩ ⟨4, 2, 2⟩ (-1) ⟨5, 2, 3⟩ = 523 ∧
    extractEnforceF ⟨6, 6, 6⟩ (fun p : V3 Int => 100 * p.x + 10 * p.y + p.z) ⟨4, 1, 2⟩ ⟨4, 2, 2⟩ (-1) ⟨3, 2, 3⟩ = -1 ∧
    padStart 8 5 = 2 ∧ padStart 8 6 = 1 ∧ padStart 5 5 = 0 := by decide
end examples

/-! regression witness (defect D14): the pre-repair angle `360 % (k·step)` is not the k-th multiple of the step -/
theorem old_symmetrize_angles_wrong :
    (List.range 4).map (fun k => 360 % ((k + 1) * (360 / 4))) ≠ (List.range 4).map (fun k => ((k + 1) * (360 / 4)) % 360) := by decide

end CryoCat.C14
