import CryoCat.Model.C06
import CryoCat.Lemmas.C06
import CryoCat.Lemmas.C06_Real
import CryoCat.Lemmas.C06_Geom
import CryoCat.Lemmas.C06_Export
/-! C06 — property theorems: rotation geometry primitives agree with SO(3) ground truth.

The theorems other properties build on (`trace_rel`, `angDist_range`, `angDist_is_rotation_angle`, `toM3_qzxz_real`; used by C18)
are proved in `Lemmas/C06_Export.lean`, which carries no translator obligation, and restated here under the same names. Other
properties import that file, never this one: this file stops building when a regenerated table of `Gen/C06.lean` changes, and only
C06 may fail for that. -/
namespace CryoCat.C06
open Real

/-! Translator obligations: the anchored source is the documented one.

Every function the model stands for is anchored by a normalised dump of its WHOLE body (header with the parameter
defaults, one string per statement in source order, `| ` marks nesting, locals alpha-normalised `v0, v1, …`), so
an inserted statement, a re-assignment, a changed default or a swapped `return` breaks a theorem below, while a
renamed local variable does not. -/

theorem anchors_ok : Gen.C06.anchorsOk = true := rfl

/-- `angular_distance`, TRANSLATED (no statement dump: temporaries, their names and the order of independent statements are
free): signature and defaults; per argument the `isinstance` dispatch (an ndarray goes through `from_euler(convention, ·, degrees)`,
anything else is used as a `Rotation`); the two returned row-level formulas as terms the model evaluates — `2·arccos(min(|dot|, 1))`
in degrees and `1 − dot²` snapped to 0 below 1e-7, `dot` being `np.sum(q1 * q2, axis=1)`, one number per pair —; and the glue:
the shape test that prints and returns `None`, `np.array(as_quat(), ndmin=2)`, the `c_symmetry > 1` block as the only other thing -/
theorem ang_expr_documented :
    Gen.C06.angHeader = "def angular_distance(input_rot1, input_rot2, convention='zxz', degrees=True, c_symmetry=1)"
    ∧ Gen.C06.angInputs = [[("np.ndarray", "srot.from_euler(convention, <arg>, degrees=degrees)"), ("*", "<arg>")],
                           [("np.ndarray", "srot.from_euler(convention, <arg>, degrees=degrees)"), ("*", "<arg>")]]
    ∧ Gen.C06.angExpr = .deg (.mul (.lit 2 1) (.acos (.min (.abs (.var "dot")) (.lit 1 1))))
    ∧ Gen.C06.dist2Expr = .iteLt (.sub (.lit 1 1) (.mul (.var "dot") (.var "dot"))) (.lit 1 10000000) (.lit 0 1)
                            (.sub (.lit 1 1) (.mul (.var "dot") (.var "dot")))
    ∧ Gen.C06.angSkeleton = ["exit: seq(print(<msg>), None) if <Q1>.shape != <Q2>.shape",
      "Q1 = np.array(<R>.as_quat(), ndmin=2)",
      "Q2 = np.array(<R>.as_quat(), ndmin=2)",
      "R = <SYM> if c_symmetry > 1 else <IN>",
      "SYM1 = srot.from_euler(convention, setitem(<IN>.as_euler(convention, degrees=degrees), (:, 0), np.mod(<IN>.as_euler(convention, degrees=degrees)[:, 0], 360.0 / c_symmetry)), degrees=degrees)",
      "SYM2 = srot.from_euler(convention, setitem(<IN>.as_euler(convention, degrees=degrees), (:, 0), np.mod(<IN>.as_euler(convention, degrees=degrees)[:, 0], 360.0 / c_symmetry)), degrees=degrees)",
      "dot = np.sum(<Q1> * <Q2>, axis=1)",
      "return (<E angExpr>, <E dist2Expr>)"] := ⟨rfl, rfl, rfl, rfl, rfl⟩

/-- `cone_distance`: normalised images of (0,0,1), clamped dot product, arccos in degrees — and nothing else -/
theorem cone_expr_documented :
    Gen.C06.bodyCone = ["def cone_distance(input_rot1, input_rot2)",
      "v0 = [0, 0, 1.0]",
      "v1 = np.array(input_rot1.apply(v0), ndmin=2)",
      "v2 = np.array(input_rot2.apply(v0), ndmin=2)",
      "v3 = np.linalg.norm(v1, axis=1)",
      "v1 = v1 / v3[:, np.newaxis]",
      "v4 = np.linalg.norm(v2, axis=1)",
      "v2 = v2 / v4[:, np.newaxis]",
      "v5 = np.degrees(np.arccos(np.maximum(np.minimum(np.sum(v1 * v2, axis=1), 1.0), -1.0)))",
      "return v5"] := rfl

/-- `inplane_distance`: first Euler angle, snapped below `ANGLE_DEGREES_TOL = 1e-11`, shifted by 180, (symmetry
block only for `c_symmetry > 1`), absolute difference folded at 180 -/
theorem inplane_expr_documented :
    Gen.C06.bodyInplane = ["def inplane_distance(input_rot1, input_rot2, convention='zxz', degrees=True, c_symmetry=1)",
      "v0 = np.array(input_rot1.as_euler(convention, degrees=degrees), ndmin=2)[:, 0]",
      "v1 = np.array(input_rot2.as_euler(convention, degrees=degrees), ndmin=2)[:, 0]",
      "v0 = np.where(abs(v0) < ANGLE_DEGREES_TOL, 0.0, v0)",
      "v1 = np.where(abs(v1) < ANGLE_DEGREES_TOL, 0.0, v1)",
      "v0 += 180.0",
      "v1 += 180.0",
      "if c_symmetry > 1:",
      "| v2 = 360.0 / c_symmetry",
      "| v0 = np.mod(v0, v2)",
      "| v1 = np.mod(v1, v2)",
      "v3 = np.abs(v0 - v1)",
      "v3 = np.where(v3 > 180.0, np.abs(v3 - 360.0), v3)",
      "return v3"]
    ∧ Gen.C06.angleTolNum = 1 ∧ Gen.C06.angleTolDen = 100000000000 := ⟨rfl, rfl, rfl⟩

/-- `euler_angles_to_normals`, TRANSLATED: the batch `visualize_angles(angles, plot_rotations=False)` is divided row by row by ITS OWN
norm (mode `"row"`: `np.linalg.norm(…, axis=1, keepdims=True)` or `…axis=1)[:, np.newaxis]`; `"all"` would be the Frobenius norm of defect
D06); `visualize_angles` → `visualize_rotations` compute the image of `(0, 0, radius)` under `from_euler('zxz', degrees=True)` -/
theorem normals_expr_documented :
    Gen.C06.normalsHeader = "def euler_angles_to_normals(angles)"
    ∧ Gen.C06.normalsNormMode = "row"
    ∧ Gen.C06.normalsSkeleton = ["P = visualize_angles(angles, plot_rotations=False)", "return <P> / <norm of P by row>"]
    ∧ Gen.C06.bodyVisAngles = ["def visualize_angles(angles, plot_rotations=True, color_map=None)",
      "v0 = srot.from_euler('zxz', angles=angles, degrees=True)",
      "v1 = visualize_rotations(v0, plot_rotations, color_map)",
      "return v1"]
    ∧ Gen.C06.bodyVisRot = ["def visualize_rotations(rotations, plot_rotations=True, color_map=None, marker_size=20, alpha=1.0, radius=1.0)",
      "v0 = np.array([0.0, 0.0, radius])",
      "v1 = np.array(rotations.apply(v0), ndmin=2)",
      "if plot_rotations: <collapsed: rebinds=[] exits=0>",
      "return v1"] := ⟨rfl, rfl, rfl, rfl, rfl⟩

/-- `normals_to_euler_angles`, TRANSLATED: DataFrame → its x, y, z columns, ndarray → itself, anything else raises `UserInputError`;
row-wise normalisation; θ = atan2(√(ux²+uy²), uz) and ψ = 90° + atan2(uy, ux), ψ := 0 exactly for ux = uy = 0, both in degrees, as terms
the model evaluates; a random φ; the column order is `n2e_orders_documented` -/
theorem n2e_expr_documented :
    Gen.C06.n2eHeader = "def normals_to_euler_angles(input_normals, output_order='zxz')"
    ∧ Gen.C06.n2eInputs = [("pd.DataFrame", "<arg>.loc[:, ['x', 'y', 'z']].values"), ("np.ndarray", "<arg>"), ("*", "raise UserInputError")]
    ∧ Gen.C06.n2eNormMode = "row"
    ∧ Gen.C06.n2eThetaExpr = .deg (.atan2 (.sqrt (.add (.mul (.var "ux") (.var "ux")) (.mul (.var "uy") (.var "uy")))) (.var "uz"))
    ∧ Gen.C06.n2ePsiExpr = .iteEq (.var "ux") (.lit 0 1)
        (.iteEq (.var "uy") (.lit 0 1) (.lit 0 1) (.add (.lit 90 1) (.deg (.atan2 (.var "uy") (.var "ux")))))
        (.add (.lit 90 1) (.deg (.atan2 (.var "uy") (.var "ux"))))
    ∧ Gen.C06.n2eSkeleton = ["U = <S> / <norm of S by row>", "phi = np.random.rand(<U>.shape[0]) * 360",
      "return np.column_stack(<columns by output_order>)"] := ⟨rfl, rfl, rfl, rfl, rfl, rfl⟩

/-- `compare_rotations` / `cone_inplane_distance` only forward to the three primitives; EVERY `return` of
`compare_rotations` in order -/
theorem compare_expr_documented :
    Gen.C06.bodyCompare = ["def compare_rotations(angles1, angles2, c_symmetry=1, rotation_type='all')",
      "v0 = angular_distance(angles1, angles2, c_symmetry=c_symmetry)[0]",
      "v1, v2 = cone_inplane_distance(angles1, angles2, c_symmetry=c_symmetry)",
      "if rotation_type == 'all':",
      "| return (v0, v1, v2)",
      "elif rotation_type == 'angular_distance':",
      "| return v0",
      "elif rotation_type == 'cone_distance':",
      "| return v1",
      "elif rotation_type == 'in_plane_distance':",
      "| return v2",
      "else:",
      "| raise UserInputError(<msg>)"]
    ∧ Gen.C06.bodyConeInplane = ["def cone_inplane_distance(input_rot1, input_rot2, convention='zxz', degrees=True, c_symmetry=1)",
      "if isinstance(input_rot1, np.ndarray):",
      "| v0 = srot.from_euler(convention, input_rot1, degrees=degrees)",
      "else:",
      "| v0 = input_rot1",
      "if isinstance(input_rot2, np.ndarray):",
      "| v1 = srot.from_euler(convention, input_rot2, degrees=degrees)",
      "else:",
      "| v1 = input_rot2",
      "v2 = cone_distance(v0, v1)",
      "v3 = inplane_distance(v0, v1, convention, degrees, c_symmetry)",
      "return (v2, v3)"] := ⟨rfl, rfl⟩

/-- which primitive each `rotation_type` returns (resolved through the callee that computed the returned name, not
through the name), the final `else` raises -/
theorem compare_branches_documented :
    Gen.C06.compareBranches = [("all", ["ang", "cone", "inp"]), ("angular_distance", ["ang"]),
      ("cone_distance", ["cone"]), ("in_plane_distance", ["inp"])]
    ∧ Gen.C06.compareElse = "raise UserInputError" := ⟨rfl, rfl⟩

/-- column order of `normals_to_euler_angles`: "zzx" → (φ, ψ, θ), anything else → (φ, θ, ψ) -/
theorem n2e_orders_documented :
    Gen.C06.n2eOrders = [("zzx", ["phi", "psi", "theta"]), ("*", ["phi", "theta", "psi"])] := rfl

/-- the signature defaults the statement depends on: `rotation_type="all"`, `output_order="zxz"` (the other defaults
— `convention='zxz'`, `degrees=True`, `c_symmetry=1`, `radius=1.0` — are the headers of the body dumps above) -/
theorem defaults_documented :
    Gen.C06.rotationTypeDefault = "all" ∧ Gen.C06.outputOrderDefault = "zxz"
    ∧ Gen.C06.bodyCompare.head? = some "def compare_rotations(angles1, angles2, c_symmetry=1, rotation_type='all')"
    ∧ Gen.C06.angHeader = "def angular_distance(input_rot1, input_rot2, convention='zxz', degrees=True, c_symmetry=1)"
    ∧ Gen.C06.bodyInplane.head? = some "def inplane_distance(input_rot1, input_rot2, convention='zxz', degrees=True, c_symmetry=1)"
    ∧ Gen.C06.bodyConeInplane.head? = some "def cone_inplane_distance(input_rot1, input_rot2, convention='zxz', degrees=True, c_symmetry=1)"
    ∧ Gen.C06.n2eHeader = "def normals_to_euler_angles(input_normals, output_order='zxz')"
    ∧ Gen.C06.bodyVisRot.head? = some "def visualize_rotations(rotations, plot_rotations=True, color_map=None, marker_size=20, alpha=1.0, radius=1.0)" := ⟨rfl, rfl, rfl, rfl, rfl, rfl, rfl, rfl⟩

/-! `compare_rotations`: every `rotation_type` returns the primitive of its name; anything else is rejected -/
section compare
variable {α : Type}

/-- anchor-level (`rfl` on the regenerated table, whose content is `compare_branches_documented`): `rotation_type="all"`, also the
default, returns the triple (angular, cone, in-plane) in this order -/
theorem compareRotations_all (v : Prims α) :
    compareRotations Gen.C06.compareBranches "all" v = some [v.ang, v.cone, v.inp]
    ∧ compareRotations Gen.C06.compareBranches Gen.C06.rotationTypeDefault v = some [v.ang, v.cone, v.inp] := ⟨rfl, rfl⟩

/-- anchor-level: each single-value branch returns the primitive it is named after -/
theorem compareRotations_single (v : Prims α) :
    compareRotations Gen.C06.compareBranches "angular_distance" v = some [v.ang]
    ∧ compareRotations Gen.C06.compareBranches "cone_distance" v = some [v.cone]
    ∧ compareRotations Gen.C06.compareBranches "in_plane_distance" v = some [v.inp] := ⟨rfl, rfl, rfl⟩

/-- any other `rotation_type` raises `UserInputError` (the model's `none`) -/
theorem compareRotations_unsupported (t : String) (v : Prims α)
    (h : t ∉ ["all", "angular_distance", "cone_distance", "in_plane_distance"]) :
    compareRotations Gen.C06.compareBranches t v = none :=
  compareRotations_eq_none Gen.C06.compareBranches t v h

/-- column order of `normals_to_euler_angles` on the regenerated table: the first two conjuncts are `rfl` anchors; the third is the
quantified part: every string other than `"zzx"` falls into the `else` branch (φ, θ, ψ) -/
theorem n2eColumns_spec (o : String) :
    n2eColumns Gen.C06.n2eOrders "zzx" = ["phi", "psi", "theta"]
    ∧ n2eColumns Gen.C06.n2eOrders Gen.C06.outputOrderDefault = ["phi", "theta", "psi"]
    ∧ (o ≠ "zzx" → n2eColumns Gen.C06.n2eOrders o = ["phi", "theta", "psi"]) := by
  refine ⟨rfl, rfl, fun h => ?_⟩
  by_cases hs : o = "*"
  · subst hs; rfl
  · simp only [n2eColumns, Gen.C06.n2eOrders, List.find?, beq_false_of_ne (Ne.symm h), beq_false_of_ne (Ne.symm hs)]
    rfl
end compare

section ring
variable {α : Type} [CommRing α]

theorem qdot_comm (p q : Q4 α) : qdot p q = qdot q p := by
  simp only [qdot]; ring

theorem qdot_mul_left (g p q : Q4 α) : qdot (g * p) (g * q) = qnormSq g * qdot p q := by
  simp only [qmul_def, qmul, qdot, qnormSq]; ring

theorem qdot_mul_right (g p q : Q4 α) : qdot (p * g) (q * g) = qdot p q * qnormSq g := by
  simp only [qmul_def, qmul, qdot, qnormSq]; ring

/-- `p * q` of the model is the rotation "first q, then p" -/
theorem toM3_mul (p q : Q4 α) : toM3 (p * q) = toM3 p * toM3 q := toM3_mul' p q

theorem toM3_orth (q : Q4 α) (h : qnormSq q = 1) : (toM3 q).Orth := toM3_orth' q h

/-- the quaternion the driver builds from the Euler half angles is a unit quaternion whose matrix is the `zxz` Euler matrix
`Rz(ψ)·Rx(θ)·Rz(φ)` of the full angles -/
theorem toM3_qzxz (cp sp ct st cs ss : α) (hp : cp*cp + sp*sp = 1) (ht : ct*ct + st*st = 1) (hs : cs*cs + ss*ss = 1) :
    qnormSq (qzxz cp sp ct st cs ss) = 1 ∧
    toM3 (qzxz cp sp ct st cs ss)
      = zxz (cp*cp - sp*sp) (2*cp*sp) (ct*ct - st*st) (2*ct*st) (cs*cs - ss*ss) (2*cs*ss) :=
  ⟨qnormSq_qzxz cp sp ct st cs ss hp ht hs, toM3_qzxz' cp sp ct st cs ss hp ht hs⟩

/-- `4(p·q)² − 1` is `1 + 2·cos(angle)` with `cos(angle) = 2(p·q)² − 1` -/
theorem trace_rel (p q : Q4 α) (hp : qnormSq p = 1) (hq : qnormSq q = 1) :
    M3.trace ((toM3 p).transpose * toM3 q) = 4 * (qdot p q * qdot p q) - 1 :=
  Export.trace_rel p q hp hq
end ring

/-- two unit quaternions describe the same rotation iff they are equal up to sign, iff `(p·q)² = 1` -/
theorem toM3_eq_iff {α : Type} [Field α] [LinearOrder α] [IsStrictOrderedRing α] (p q : Q4 α)
    (hp : qnormSq p = 1) (hq : qnormSq q = 1) :
    (toM3 p = toM3 q ↔ (q = p ∨ q = qneg p)) ∧ (toM3 p = toM3 q ↔ qdot p q * qdot p q = 1) := by
  -- equal matrices ⇒ (p·q)² = 1 (trace) ⇒ q = ±p (equality in Cauchy–Schwarz) ⇒ equal matrices
  have h1 := qdot_sq_of_toM3_eq p q hp hq
  have h2 := eq_or_neg_of_qdot_sq p q hp hq
  have h3 : q = p ∨ q = qneg p → toM3 p = toM3 q := by
    rintro (h | h)
    · rw [h]
    · rw [h, toM3_neg]
  exact ⟨⟨fun h => h2 (h1 h), h3⟩, h1, fun h => h3 (h2 h)⟩

section real
variable (at2 : ℝ → ℝ → ℝ)

/-- what the clamp `np.minimum(|q1·q2|, 1.0)` provides: the argument handed to `arccos` lies in [0, 1] for any two
quaternions — unit or not, exact or rounded — so the range clause [0°, 180°] holds without a hypothesis on the inputs
(and in floating point `arccos` never sees 1 + 2⁻⁵², the NaN of defect D22) -/
theorem absDot_clamp {β : Type} [Field β] [LinearOrder β] [IsStrictOrderedRing β] (p q : Q4 β) :
    0 ≤ absDot p q ∧ absDot p q ≤ 1 ∧ (qdot p q * qdot p q ≤ 1 → absDot p q = |qdot p q|) :=
  ⟨(absDot_mem p q).1, (absDot_mem p q).2, absDot_eq_abs p q⟩

/-- the shape test of the model (an unfolding of `angDistBatch`; what ties it to the source is the `exit:` line of `angSkeleton` in
`ang_expr_documented` and the `mismatch` cases of the correspondence run): two batches of different size give `None`, equal sizes give
one distance per pair -/
theorem angDistBatch_spec (ps qs : List (Q4 ℝ)) :
    (ps.length ≠ qs.length → angDistBatch (realLibm at2) ps qs = none)
    ∧ (ps.length = qs.length → ∃ ds, angDistBatch (realLibm at2) ps qs = some ds ∧ ds.length = ps.length
        ∧ ∀ i (h1 : i < ps.length) (h2 : i < qs.length) (h3 : i < ds.length),
            ds[i] = angDist (realLibm at2) ps[i] qs[i]) := by
  constructor
  · intro h; simp [angDistBatch, h]
  · intro h
    refine ⟨(ps.zip qs).map fun pq => angDist (realLibm at2) pq.1 pq.2, by simp [angDistBatch, h], by simp [h], ?_⟩
    intro i h1 h2 h3
    simp

/-- for any two quaternions, unit or not -/
theorem angDist_range (p q : Q4 ℝ) : 0 ≤ angDist (realLibm at2) p q ∧ angDist (realLibm at2) p q ≤ 180 :=
  Export.angDist_range at2 p q

theorem angDist_symm (p q : Q4 ℝ) : angDist (realLibm at2) p q = angDist (realLibm at2) q p :=
  angDist_congr _ (qdot_comm p q)

theorem angDist_eq_zero_iff (p q : Q4 ℝ) (hp : qnormSq p = 1) (hq : qnormSq q = 1) :
    angDist (realLibm at2) p q = 0 ↔ toM3 p = toM3 q := by
  have hle := qdot_sq_le_one p q hp hq
  rw [(toM3_eq_iff p q hp hq).2, angDist, toDeg_real, deg_eq_zero, angDistRad_real, mul_eq_zero,
    or_iff_right two_ne_zero, arccos_eq_zero, absDot_eq_abs p q hle, ← one_le_sq_iff_one_le_abs, sq]
  exact ⟨fun h => le_antisymm hle h, fun h => h.ge⟩

theorem angDist_left_invariant (g p q : Q4 ℝ) (hg : qnormSq g = 1) :
    angDist (realLibm at2) (g * p) (g * q) = angDist (realLibm at2) p q :=
  angDist_congr _ (by rw [qdot_mul_left, hg, one_mul])

theorem angDist_right_invariant (g p q : Q4 ℝ) (hg : qnormSq g = 1) :
    angDist (realLibm at2) (p * g) (q * g) = angDist (realLibm at2) p q :=
  angDist_congr _ (by rw [qdot_mul_right, hg, mul_one])

theorem angDist_triangle (a b c : Q4 ℝ) (ha : qnormSq a = 1) (hb : qnormSq b = 1) (hc : qnormSq c = 1) :
    angDist (realLibm at2) a c ≤ angDist (realLibm at2) a b + angDist (realLibm at2) b c := by
  simp only [angDist, toDeg_real, angDistRad_eq_hd]
  have h := hd_triangle (vec a) (vec b) (vec c) (norm_vec a ha) (norm_vec b hb) (norm_vec c hc)
  rw [← add_mul, ← mul_add]
  exact mul_le_mul_of_nonneg_right (mul_le_mul_of_nonneg_left h zero_le_two) (by positivity)

/-- the rotation angle of `R_pᵀ·R_q` is the angle in [0, π] whose cosine is `(trace − 1)/2` -/
theorem angDist_is_rotation_angle (p q : Q4 ℝ) (hp : qnormSq p = 1) (hq : qnormSq q = 1) :
    angDistRad (realLibm at2) p q = arccos ((M3.trace ((toM3 p).transpose * toM3 q) - 1) / 2) :=
  Export.angDist_is_rotation_angle at2 p q hp hq

/-- over the reals the clamp is invisible (`Real.arccos` is constant 0 above 1): the unclamped
expression of the pinned commit differs from the repaired one only in floating point, where
`arccos(1 + 2⁻⁵²)` is NaN (witness input in `corpus/C06/`) -/
theorem angDistAsIs_eq (p q : Q4 ℝ) : angDistAsIs (realLibm at2) p q = angDist (realLibm at2) p q := by
  simp only [angDistAsIs, angDist, angDistRad, absDot, realLibm, arccos_min_one]
end real


section cone
variable (at2 : ℝ → ℝ → ℝ)

/-- for rotations (orthogonal matrices) the normalisation and the clamp are the identity: the cosine
the code feeds to `arccos` is the dot product of the two z-axis images -/
theorem coneCos_eq_dot (m1 m2 : M3 ℝ) (h1 : m1.Orth) (h2 : m2.Orth) :
    coneCos (realLibm at2) m1 m2 = V3.dot (m1.apply ⟨0, 0, 1⟩) (m2.apply ⟨0, 0, 1⟩) := by
  have n1 := normSq_apply_ez h1
  have n2 := normSq_apply_ez h2
  have hb := abs_dot_le_one n1 n2
  obtain ⟨lo, hi⟩ := abs_le.1 hb
  simp only [coneCos, realLibm, n1, n2, Real.sqrt_one, div_one]
  rw [min_eq_left hi, max_eq_left lo]

/-- the cone distance is the angle between the two z-axes (`InnerProductGeometry.angle` in Euclidean 3-space), in degrees -/
theorem coneDist_eq_angle (m1 m2 : M3 ℝ) (h1 : m1.Orth) (h2 : m2.Orth) :
    coneDist (realLibm at2) m1 m2
      = InnerProductGeometry.angle (vec3 (m1.apply ⟨0, 0, 1⟩)) (vec3 (m2.apply ⟨0, 0, 1⟩)) * (180 / π) := by
  rw [coneDist_real, coneCos_eq_dot at2 m1 m2 h1 h2, angle_vec3 _ _ (normSq_apply_ez h1) (normSq_apply_ez h2)]

theorem coneDist_range (m1 m2 : M3 ℝ) : 0 ≤ coneDist (realLibm at2) m1 m2 ∧ coneDist (realLibm at2) m1 m2 ≤ 180 := by
  rw [coneDist_real]
  exact deg_range (arccos_nonneg _) (arccos_le_pi _)

/-- for all matrices, not only rotations (the dot product of the two normalised z-axis images is symmetric) -/
theorem coneDist_symm (m1 m2 : M3 ℝ) : coneDist (realLibm at2) m1 m2 = coneDist (realLibm at2) m2 m1 := by
  have h : coneCos (realLibm at2) m1 m2 = coneCos (realLibm at2) m2 m1 := by
    simp only [coneCos, V3.dot]
    congr 2
    ring
  rw [coneDist_real, coneDist_real, h]

theorem coneDist_self (m : M3 ℝ) (h : m.Orth) : coneDist (realLibm at2) m m = 0 := by
  rw [coneDist_real, coneCos_eq_dot at2 m m h h, ← V3.normSq, normSq_apply_ez h, arccos_one, zero_mul]
end cone

section field
variable {α : Type} [Field α] [LinearOrder α] [IsStrictOrderedRing α]

/-- the in-plane distance of two first Euler angles in [-180, 180] lies in [0, 180] -/
theorem inplane_range (tol p1 p2 : α) (h1 : -180 ≤ p1 ∧ p1 ≤ 180) (h2 : -180 ≤ p2 ∧ p2 ≤ 180) :
    0 ≤ inplane tol p1 p2 ∧ inplane tol p1 p2 ≤ 180 := by
  have hb : |snap tol p1 - snap tol p2| ≤ 180 + 180 :=
    (abs_sub _ _).trans (add_le_add ((abs_snap_le tol p1).trans (abs_le.2 h1)) ((abs_snap_le tol p2).trans (abs_le.2 h2)))
  rw [inplane_eq]
  split
  · rename_i h
    exact ⟨abs_nonneg _, abs_le.2 ⟨by linarith, by linarith⟩⟩
  · rename_i h
    exact ⟨abs_nonneg _, not_lt.1 h⟩

/-- 0 for equal first Euler angles. This is not yet "vanishes for equal orientations": the step from "the same orientation" to "the
same φ read back by `as_euler`" is a probed library assumption (`ASSUMPTIONS` of `harness/props/c06.py`), and φ may come back
differing by rounding — the form of the clause that survives that is `inplane_le_of_close` (distance ≤ e + 2·tol for φ's e apart)
together with `inplane_wrap` (+180 vs −180) -/
theorem inplane_self (tol p : α) : inplane tol p p = 0 := by
  rw [inplane_eq, sub_self, abs_zero, if_neg (by norm_num)]

theorem inplane_symm (tol p1 p2 : α) : inplane tol p1 p2 = inplane tol p2 p1 := by
  rw [inplane_eq, inplane_eq, abs_sub_comm]

/-- `as_euler` may write the in-plane angle of one orientation as +180 or as −180: the distance of the two is 0 -/
theorem inplane_wrap (tol : α) (h : tol ≤ 180) : inplane tol 180 (-180) = 0 ∧ inplane tol (-180) 180 = 0 := by
  have s1 : snap tol (180 : α) = 180 := snap_of_le (by rwa [Nat.abs_ofNat])
  have s2 : snap tol (-180 : α) = -180 := snap_of_le (by rwa [abs_neg, Nat.abs_ofNat])
  have e : inplane tol 180 (-180) = 0 := by
    rw [inplane_eq, s1, s2]; norm_num
  exact ⟨e, (inplane_symm tol _ _).trans e⟩

/-- vanishes for equal orientations, robustly: when the first Euler angles of the two orientations agree up to `e`
(the same rotation read back by `as_euler` from two quaternions that differ by rounding or by sign), the in-plane
distance is at most `e + 2·tol` — the snap moves either angle by less than `tol` -/
theorem inplane_le_of_close (tol p1 p2 e : α) (ht : 0 ≤ tol) (h : |p1 - p2| ≤ e) (he : e + 2 * tol ≤ 180) :
    0 ≤ inplane tol p1 p2 ∧ inplane tol p1 p2 ≤ e + 2 * tol := by
  have key : |snap tol p1 - snap tol p2| ≤ e + 2 * tol := by
    have d := abs_snap_sub_le tol p2 ht
    rw [abs_sub_comm] at d
    calc |snap tol p1 - snap tol p2| ≤ |snap tol p1 - p1| + (|p1 - p2| + |p2 - snap tol p2|) :=
          (abs_sub_le _ p1 _).trans (add_le_add le_rfl (abs_sub_le p1 p2 _))
      _ ≤ tol + (e + tol) := add_le_add (abs_snap_sub_le tol p1 ht) (add_le_add h d)
      _ = e + 2 * tol := by ring
  rw [inplane_eq, if_neg (not_lt.2 (key.trans he))]
  exact ⟨abs_nonneg _, key⟩

/-- one unit vector per orientation: the output has as many rows as the input, row `i` is computed from input row `i`
alone (its own norm), and is a unit vector. (False for the Frobenius-norm variant of defect D06, whose rows depend on
the whole batch: `normals_asis_not_unit`.) -/
theorem normals_one_per_orientation (L : Libm α) (hL : SqrtSpec L) (pts : List (V3 α)) (h : ∀ p ∈ pts, V3.normSq p ≠ 0) :
    (normalsRowwise L pts).length = pts.length
    ∧ ∀ i (h1 : i < (normalsRowwise L pts).length) (h2 : i < pts.length),
        (normalsRowwise L pts)[i] = scale pts[i] (L.sqrt (V3.normSq pts[i]))
        ∧ V3.normSq (normalsRowwise L pts)[i] = 1 := by
  refine ⟨by simp [normalsRowwise], fun i h1 h2 => ?_⟩
  have e : (normalsRowwise L pts)[i] = scale pts[i] (L.sqrt (V3.normSq pts[i])) := by simp [normalsRowwise]
  refine ⟨e, ?_⟩
  rw [e]
  exact hL.normSq_unit _ (h _ (List.getElem_mem h2))

theorem normals_rowwise_unit (L : Libm α) (hL : SqrtSpec L) (pts : List (V3 α))
    (h : ∀ p ∈ pts, V3.normSq p ≠ 0) : ∀ v ∈ normalsRowwise L pts, V3.normSq v = 1 := by
  intro v hv
  simp only [normalsRowwise, List.mem_map] at hv
  obtain ⟨p, hp, rfl⟩ := hv
  exact hL.normSq_unit p (h p hp)

theorem zaxis_unit (cp sp ct st cs ss : α) (ht : ct*ct + st*st = 1) (hs : cs*cs + ss*ss = 1) :
    V3.normSq (zaxisOfEuler cp sp ct st cs ss) = 1 := by
  rw [zaxisOfEuler_eq]; simp only [V3.normSq, V3.dot]
  linear_combination (st*st) * hs + ht

/-- Euler angles → normals: for a batch of any size the result is, row by row, exactly the image
of the z-axis (the third column of the `zxz` matrix) -/
theorem normals_rowwise_is_zaxis (L : Libm α) (hL : SqrtSpec L) (angles : List (α × α × α × α × α × α))
    (h : ∀ a ∈ angles, a.2.2.1 * a.2.2.1 + a.2.2.2.1 * a.2.2.2.1 = 1 ∧ a.2.2.2.2.1 * a.2.2.2.2.1 + a.2.2.2.2.2 * a.2.2.2.2.2 = 1) :
    normalsRowwise L (angles.map fun a => zaxisOfEuler a.1 a.2.1 a.2.2.1 a.2.2.2.1 a.2.2.2.2.1 a.2.2.2.2.2)
      = angles.map fun a => (zxz a.1 a.2.1 a.2.2.1 a.2.2.2.1 a.2.2.2.2.1 a.2.2.2.2.2).col3 := by
  simp only [normalsRowwise, List.map_map]
  apply List.map_congr_left
  intro a ha
  obtain ⟨ht, hs⟩ := h a ha
  simp only [Function.comp]
  rw [zaxis_unit _ _ _ _ _ _ ht hs, hL.sqrt_one, scale_one, zaxisOfEuler, M3.apply_ez]

/-- Regression witness (defect D06). Dividing by the Frobenius norm of the whole batch gives rows of
squared length `1/n`: not unit vectors as soon as the batch holds two orientations. -/
theorem normals_asis_not_unit (L : Libm α) (hL : SqrtSpec L) (pts : List (V3 α))
    (h : ∀ p ∈ pts, V3.normSq p = 1) (hn : 2 ≤ pts.length) :
    ∀ v ∈ normalsAsIs L pts, V3.normSq v * (pts.length : α) = 1 ∧ V3.normSq v ≠ 1 := by
  intro v hv
  simp only [normalsAsIs, List.mem_map] at hv
  obtain ⟨p, hp, rfl⟩ := hv
  rw [sum_normSq_unit pts h]
  have hpos : (0 : α) < (pts.length : α) := by exact_mod_cast (by omega : 0 < pts.length)
  have hs := hL.mul_self (pts.length : α) hpos.le
  have hne := hL.ne_zero hpos.le hpos.ne'
  have e := normSq_scale p (L.sqrt (pts.length : α)) hne
  rw [hs, h p hp] at e
  refine ⟨e, fun h1 => ?_⟩
  rw [h1, one_mul] at e
  have : (2 : α) ≤ (pts.length : α) := by exact_mod_cast hn
  linarith

/-- normals → Euler angles: the (cos, sin) pairs of the returned θ and ψ are those of angles, and
for every φ the z-axis of `zxz φ θ ψ` is the normalised input normal `n/|n|` — for normals of any
non-zero length, including the axes and the half-plane `y = 0 < x`. -/
theorem n2e_zaxis (L : Libm α) (hL : SqrtSpec L) (n : V3 α) (hn : V3.normSq n ≠ 0) (cp sp : α) :
    let r := n2eCS L n
    r.1 * r.1 + r.2.1 * r.2.1 = 1 ∧ r.2.2.1 * r.2.2.1 + r.2.2.2 * r.2.2.2 = 1 ∧
    zaxisOfEuler cp sp r.1 r.2.1 r.2.2.1 r.2.2.2 = scale n (L.sqrt (V3.normSq n)) := by
  rw [n2eCS_eq]
  exact csOfUnit_zaxis L hL _ (hL.normSq_unit n hn) cp sp

/-- normals of any length: the normalised normal — and with it every angle `normals_to_euler_angles` returns — depends
on the direction of the input only, over an ordered field. Binary64 is not one:
`n2e_k1_overflow_witness` / `n2e_k1_underflow_witness` below show the same model, evaluated at `Float`, losing the direction of
(1,2,2)·1e160 and (1,2,2)·1e-170 (known finding C06-K1). -/
theorem n2e_scale_invariant (L : Libm α) (hL : SqrtSpec L) (n : V3 α) (hn : V3.normSq n ≠ 0) (k : α) (hk : 0 < k) :
    scale (V3.smul k n) (L.sqrt (V3.normSq (V3.smul k n))) = scale n (L.sqrt (V3.normSq n))
    ∧ n2eCS L (V3.smul k n) = n2eCS L n :=
  ⟨hL.scale_smul n hk, by rw [n2eCS_eq, n2eCS_eq, hL.scale_smul n hk]⟩

/-- each component of the checker's answer decides its own clause (what `judge` reads off the driver's reply) -/
theorem checkMetric_components (o : MetricObs α) :
    ((checkMetric o).1 = true ↔ ((0 ≤ o.dab ∧ o.dab ≤ 180) ∧ (0 ≤ o.dba ∧ o.dba ≤ 180) ∧ (0 ≤ o.dac ∧ o.dac ≤ 180)
        ∧ (0 ≤ o.dbc ∧ o.dbc ≤ 180) ∧ (0 ≤ o.dl ∧ o.dl ≤ 180) ∧ (0 ≤ o.dr ∧ o.dr ≤ 180)))
    ∧ ((checkMetric o).2.1 = true ↔ |o.dab - o.dba| ≤ o.tol)
    ∧ ((checkMetric o).2.2.1 = true ↔ o.dac ≤ o.dab + o.dbc + o.tol)
    ∧ ((checkMetric o).2.2.2.1 = true ↔ |o.dl - o.dab| ≤ o.tol)
    ∧ ((checkMetric o).2.2.2.2 = true ↔ |o.dr - o.dab| ≤ o.tol) := by
  simp only [checkMetric, Bool.and_eq_true, inRange_iff, near_iff, decide_eq_true_eq, and_assoc, and_self]

/-- verified checker: `checkMetric` answers true on the implementation's numbers exactly when every metric clause holds
for them up to the stated slack -/
theorem checkMetric_sound (o : MetricObs α) :
    checkMetric o = (true, true, true, true, true) ↔
    ((0 ≤ o.dab ∧ o.dab ≤ 180) ∧ (0 ≤ o.dba ∧ o.dba ≤ 180) ∧ (0 ≤ o.dac ∧ o.dac ≤ 180) ∧ (0 ≤ o.dbc ∧ o.dbc ≤ 180)
      ∧ (0 ≤ o.dl ∧ o.dl ≤ 180) ∧ (0 ≤ o.dr ∧ o.dr ≤ 180))
    ∧ |o.dab - o.dba| ≤ o.tol ∧ o.dac ≤ o.dab + o.dbc + o.tol ∧ |o.dl - o.dab| ≤ o.tol ∧ |o.dr - o.dab| ≤ o.tol := by
  obtain ⟨h1, h2, h3, h4, h5⟩ := checkMetric_components o
  rw [← h1, ← h2, ← h3, ← h4, ← h5]
  simp only [Prod.ext_iff]
end field

/-! the same over ℝ with the real `sqrt`, `atan2`, π (no abstract hypotheses left) -/
section real2

/-- the quaternion the driver builds from the half angles is a unit quaternion whose matrix is `Rz(ψ)·Rx(θ)·Rz(φ)`,
scipy's extrinsic "zxz" -/
theorem toM3_qzxz_real (φ θ ψ : ℝ) :
    qnormSq (qzxz (cos (φ/2)) (sin (φ/2)) (cos (θ/2)) (sin (θ/2)) (cos (ψ/2)) (sin (ψ/2))) = 1 ∧
    toM3 (qzxz (cos (φ/2)) (sin (φ/2)) (cos (θ/2)) (sin (θ/2)) (cos (ψ/2)) (sin (ψ/2)))
      = zxz (cos φ) (sin φ) (cos θ) (sin θ) (cos ψ) (sin ψ) :=
  Export.toM3_qzxz_real φ θ ψ

/-- `Real.sqrt` meets the square-root assumptions of the theorems above -/
theorem real_sqrtSpec (at2 : ℝ → ℝ → ℝ) : SqrtSpec (realLibm at2) :=
  ⟨fun _ ha => Real.mul_self_sqrt ha, Real.sqrt_nonneg⟩

/-- the angles (θ, ψ) in degrees that `normals_to_euler_angles` computes through `atan2` have exactly the
cosines and sines of `n2eCS`; so by `n2e_zaxis` the z-axis of `zxz φ θ ψ` is `n/|n|` for every φ -/
theorem n2eAngles_cos_sin (n : V3 ℝ) (hn : V3.normSq n ≠ 0) :
    let a := n2eAngles (realLibm atan2R) n
    let r := n2eCS (realLibm atan2R) n
    cos (a.1 * (π / 180)) = r.1 ∧ sin (a.1 * (π / 180)) = r.2.1 ∧
    cos (a.2 * (π / 180)) = r.2.2.1 ∧ sin (a.2 * (π / 180)) = r.2.2.2 := by
  rw [n2eAngles_eq, n2eCS_eq]
  exact anglesOfUnit_cos_sin _ ((real_sqrtSpec atan2R).normSq_unit n hn)

/-- Regression witness (defect D07). With the override "ψ := 0 whenever `atan2(y, x) = 0`" of the
pinned commit the normal (1, 0, 0) is sent to angles whose z-axis is (0, −1, 0). -/
theorem n2e_asis_counterexample :
    let r := n2eCSAsIs (realLibm atan2R) ⟨1, 0, 0⟩
    zaxisOfEuler 1 0 r.1 r.2.1 r.2.2.1 r.2.2.2 = ⟨0, -1, 0⟩ ∧
    zaxisOfEuler 1 0 r.1 r.2.1 r.2.2.1 r.2.2.2 ≠ scale ⟨1, 0, 0⟩ ((realLibm atan2R).sqrt (V3.normSq ⟨1, 0, 0⟩)) := by
  intro r
  have hr : r = (0, 1, 1, 0) := by
    simp [r, n2eCSAsIs, realLibm, scale, V3.normSq, V3.dot, atan2R_zero_one]
  rw [hr, zaxisOfEuler_eq]
  refine ⟨by ext <;> simp, fun h => ?_⟩
  have := congrArg V3.x h
  simp [realLibm, scale, V3.normSq, V3.dot] at this
end real2

/-! The regenerated row-level formulas are the formulas of the theorems above.

`Gen.C06.angExpr`, `dist2Expr`, `n2eThetaExpr`, `n2ePsiExpr` and the two normalisation modes are what the translator extracted from the
current source; the driver evaluates them (`evalE`, `normaliseBy`, `n2eBatchE`) at `Float`. The theorems below evaluate the SAME terms over ℝ
and obtain the definitions every metric / normal theorem of this file is about — so those theorems are statements about what the code
computes, not about a hand-written copy. -/
section translated
variable (at2 : ℝ → ℝ → ℝ)

/-- `angular_distance(...)[0]` as regenerated = `angDist` (range, symmetry, zero ⇔ equal, invariance, triangle, rotation angle) -/
theorem angDistE_eq (p q : Q4 ℝ) :
    angDistE Gen.C06.angExpr (realLibm at2) (fun n => (n : ℝ)) p q = angDist (realLibm at2) p q := by
  simp only [angDistE, evalE, Gen.C06.angExpr, angDist, angDistRad, absDot, absv, toDeg, if_true, Nat.cast_ofNat,
    Nat.cast_one]

/-- `angular_distance(...)[1]` as regenerated = `1 − (q1·q2)²`, set to 0 below 1e-7 -/
theorem dist2E_eq (p q : Q4 ℝ) :
    angDistE Gen.C06.dist2Expr (realLibm at2) (fun n => (n : ℝ)) p q
      = if dist2 p q < 1 / 10000000 then 0 else dist2 p q := by
  simp [angDistE, evalE, Gen.C06.dist2Expr, dist2]

/-- the regenerated normalisation mode of `euler_angles_to_normals` (and of `normals_to_euler_angles`) is the row-wise one, for any
number type: `normals_one_per_orientation`, `normals_rowwise_unit`, `normals_rowwise_is_zaxis` are about what the code does -/
theorem normaliseBy_row {β : Type} [Add β] [Mul β] [Div β] [OfNat β 0] (L : Libm β) (pts : List (V3 β)) :
    normaliseBy Gen.C06.normalsNormMode L pts = normalsRowwise L pts
    ∧ normaliseBy Gen.C06.n2eNormMode L pts = normalsRowwise L pts := ⟨rfl, rfl⟩

/-- `normals_to_euler_angles` as regenerated (row-wise normalisation, θ and ψ formulas) = `n2eAngles` on every row of a batch of
any size: `n2eAngles_cos_sin` + `n2e_zaxis` are about what the code computes -/
theorem n2eBatchE_eq (ns : List (V3 ℝ)) :
    n2eBatchE Gen.C06.n2eThetaExpr Gen.C06.n2ePsiExpr Gen.C06.n2eNormMode (realLibm atan2R) (fun n => (n : ℝ)) ns
      = ns.map (n2eAngles (realLibm atan2R)) := by
  simp only [n2eBatchE, (normaliseBy_row _ ns).2, normalsRowwise, List.map_map]
  apply List.map_congr_left
  intro n _
  simp only [Function.comp, evalE, Gen.C06.n2eThetaExpr, Gen.C06.n2ePsiExpr, n2eEnv, n2eAngles]
  generalize scale n ((realLibm atan2R).sqrt (V3.normSq n)) = u
  cases h1 : (u.x == (0 : ℝ)) <;> cases h2 : (u.y == (0 : ℝ)) <;> simp [h1, h2]

/-- the regenerated input dispatch of `angular_distance`, for every python type name: an ndarray is converted with
`from_euler(convention, ·, degrees)`, every other type falls into the `else` branch and is used as it is (both arguments alike) -/
theorem inputConversion_spec (t : String) :
    Gen.C06.angInputs.length = 2
    ∧ ∀ tb ∈ Gen.C06.angInputs,
        inputConversion tb "np.ndarray" = some "srot.from_euler(convention, <arg>, degrees=degrees)"
        ∧ (t ≠ "np.ndarray" → inputConversion tb t = some "<arg>") := by
  refine ⟨rfl, ?_⟩
  intro tb htb
  simp only [Gen.C06.angInputs, List.mem_cons, List.not_mem_nil, or_false, or_self] at htb
  subst htb
  refine ⟨rfl, fun h => ?_⟩
  by_cases hs : t = "*"
  · subst hs; rfl
  · simp only [inputConversion, List.find?, beq_false_of_ne (Ne.symm h), beq_false_of_ne (Ne.symm hs)]
    rfl
end translated

/-! Known finding C06-K1, witnessed on the model at binary64 (kernel arithmetic on `Float`: `decide +kernel`).

`normals_to_euler_angles` — code and model alike — first forms `x² + y² + z²`. For n = (1,2,2)·1e160 that sum is `+inf` in binary64, and
every component divided by an infinite norm is 0: the direction is lost (θ = ψ = 0, the z-axis, instead of (1/3, 2/3, 2/3)). For
n = (1,2,2)·1e-170 the sum underflows to 0 and the quotient is infinite. (`Float.sqrt` is opaque to the kernel; IEEE `sqrt(+inf) = +inf`
and `sqrt(0) = 0`, so dividing by the squared length itself shows the same quotients.) Over an ordered field neither happens:
`n2e_scale_invariant`. -/

theorem n2e_k1_overflow_witness :
    let n : V3 Float := ⟨Float.ofNat (10 ^ 160), 2 * Float.ofNat (10 ^ 160), 2 * Float.ofNat (10 ^ 160)⟩
    (V3.normSq n).isInf = true
    ∧ ((scale n (V3.normSq n)).x == 0 && (scale n (V3.normSq n)).y == 0 && (scale n (V3.normSq n)).z == 0) = true := by
  decide +kernel

theorem n2e_k1_underflow_witness :
    let t : Float := Float.ofNat 1 / Float.ofNat (10 ^ 170)
    let n : V3 Float := ⟨t, 2 * t, 2 * t⟩
    (t == 0) = false ∧ (V3.normSq n == 0) = true ∧ (scale n (V3.normSq n)).z.isInf = true := by
  decide +kernel

/-! non-vacuity: the hypotheses of the theorems above are met by concrete non-trivial inputs -/

/-- a non-trivial unit quaternion (the zxz quaternion of half-angle pairs (3/5,4/5), (5/13,12/13), (0,1)) -/
example : qnormSq (qzxz (3/5) (4/5) (5/13) (12/13) 0 1 : Q4 ℝ) = 1 :=
  qnormSq_qzxz _ _ _ _ _ _ (by norm_num) (by norm_num) (by norm_num)
/-- two different rotations at non-zero distance: hypotheses of `angDist_eq_zero_iff` with a false right side -/
example : toM3 (qz (3/5) (4/5) : Q4 ℝ) ≠ toM3 (qz 1 0) := by
  intro h; have := congrArg M3.a11 h; simp [toM3, qz] at this; norm_num at this
example : qnormSq (qz (3/5) (4/5) : Q4 ℝ) = 1 ∧ qnormSq (qx (5/13) (12/13) : Q4 ℝ) = 1 := by
  rw [qnormSq_qz, qnormSq_qx]; norm_num
/-- orthogonal matrices for the cone theorems -/
example : (zxz (3/5) (4/5) (5/13) (12/13) 0 1 : M3 ℝ).Orth :=
  zxz_orth _ _ _ _ _ _ (by norm_num) (by norm_num) (by norm_num)
/-- in-plane range hypotheses -/
example : inplane (1/100000000000 : ℚ) 170 (-170) = 20 := by
  simp only [inplane, snap, absv_eq_abs]; norm_num [abs_of_nonneg, abs_of_nonpos]
/-- a batch of two unit rows (hypotheses of `normals_asis_not_unit`, `normals_rowwise_unit`) -/
example : ∀ p ∈ [(⟨0, 0, 1⟩ : V3 ℝ), ⟨3/5, 4/5, 0⟩], V3.normSq p = 1 := by
  intro p hp
  simp only [List.mem_cons, List.not_mem_nil, or_false] at hp
  rcases hp with rfl | rfl <;> norm_num [V3.normSq, V3.dot]
/-- a normal for `n2e_zaxis` / `n2eAngles_cos_sin` in the repaired half-plane y = 0 < x -/
example : V3.normSq (⟨2, 0, 0⟩ : V3 ℝ) ≠ 0 := by simp [V3.normSq, V3.dot]
/-- the checker accepts a concrete observation -/
example : checkMetric ({ dab := 30, dba := 30, dac := 50, dbc := 40, dl := 30, dr := 30, tol := 0 } : MetricObs ℚ)
    = (true, true, true, true, true) := by
  simp only [checkMetric, inRange, near]; norm_num

/-- an unsupported `rotation_type` (hypothesis of `compareRotations_unsupported`) -/
example : "inplane_distance" ∉ ["all", "angular_distance", "cone_distance", "in_plane_distance"] := by decide
/-- `inplane_le_of_close`: first Euler angles 1e-10 apart, tol = 1e-11 -/
example : |(30 : ℚ) - (30 + 1/10000000000)| ≤ 1/10000000000 ∧ (1/10000000000 : ℚ) + 2 * (1/100000000000) ≤ 180 := by
  constructor
  · rw [abs_le]; constructor <;> norm_num
  · norm_num
/-- `n2e_scale_invariant` / `normals_one_per_orientation`: a normal of non-zero length and a positive factor (1e160 as a rational) -/
example : V3.normSq (⟨1, 2, 2⟩ : V3 ℝ) ≠ 0 ∧ (0 : ℝ) < 10 ^ 160 := by
  constructor
  · simp [V3.normSq, V3.dot]; norm_num
  · positivity
/-- `angDistBatch_spec`: batches of different size -/
example : ([qz (1 : ℝ) 0, qz 1 0] : List (Q4 ℝ)).length ≠ ([qz 1 0] : List (Q4 ℝ)).length := by decide
/-- `absDot_clamp` is not vacuous where it matters: a "unit" quaternion whose rounded dot product exceeds 1 is clamped to 1 -/
example : absDot (⟨0, 0, 0, 1 + 1/4503599627370496⟩ : Q4 ℚ) ⟨0, 0, 0, 1⟩ = 1 := by
  simp only [absDot, absv, qdot]; norm_num

end CryoCat.C06
