import CryoCat.Lemmas.C09
import CryoCat.Lemmas.Round
import CryoCat.Lemmas.Euclid3
import Mathlib.Algebra.Order.Ring.Defs
import Mathlib.Tactic.Linarith
import Mathlib.Data.Rat.Floor
import Mathlib.Data.List.Nodup
/-! C09 — spatial filters keep exactly the particles that lie inside.

Property theorems about the executable model `Model/C09.lean` (the very definitions the driver runs)
and non-vacuity examples. `KeepsExactly P l out` (Lemmas/C09) says: `out` is `l` filtered by a test
that agrees with `P` on `l` — same order, same multiplicities, every survivor literally an element of
the input ("survivors are never altered"). -/
set_option linter.unusedSectionVars false
namespace CryoCat.C09

/-! ## translator obligations: what the source says today is what is documented here -/

theorem anchors_ok : Gen.C09.anchorsOk = true := rfl

/-- upper faces are tested with `<`, and `boundary = ceil(box_size / 2)` -/
theorem oob_upper_documented :
    Gen.C09.oobCfg.upper = .lt ∧ Gen.C09.oobCfg.rounding = .ceil ∧ Gen.C09.oobCfg.divisor = 2 := ⟨rfl, rfl, rfl⟩

/-- the lower-face conjunct is either the recorded vacuous `all(c_min) >= 0` (open finding C09-K1) or
an element-wise `>= 0` (a repair); anything else breaks this theorem -/
theorem oob_lower_recorded :
    Gen.C09.oobCfg.lower = .vacuousAll ∨ Gen.C09.oobCfg.lower = .elementwise .ge := by decide

theorem oob_code_cfg : Gen.C09.oobCfg = oobCfgAsIs ∨ Gen.C09.oobCfg = oobCfgDoc := by decide

/-- `trimvol = start - 1`, dropped when `< 1` or `> tdim` -/
theorem trim_cfg_documented : Gen.C09.trimCfg = trimCfgDoc := rfl

/-- inside the mask volume when `0 <= idx < shape`, removed when the voxel `== 0` -/
theorem mask_cfg_documented : Gen.C09.maskCfg = maskCfgDoc := rfl

/-- anchor (implied by `mask_skeleton_documented`, kept as a named fact for the regression of a0240b0): the subtomo ids are
carried through the same bounds filter as the coordinates -/
theorem mask_ids_through_filter : Gen.C09.maskIdsThroughFilter = some true := rfl

/-- `clean_by_tomo_mask` loads `tomo_list` with an effective `sort_angles = False` (`LOAD_TOMO_LIST` in the skeleton is
`ioutils.tlt_load(tomo_list, sort_angles=False)`): a list read from a FILE reaches the pairing with the masks in the order of
its lines. Before that repair the effective value was `tlt_load`'s default `True` (`cleanMask_sorted_file_counterexample`). -/
theorem mask_tomo_list_as_given : Gen.C09.maskTomoFileSorted = false := rfl

/-- a text FILE of tomogram numbers is read with a 64-bit reader (`READ_TOMO_FILE(tomo_list, EXACT_DTYPE)` in the skeleton is
`ioutils.one_value_per_line_read(tomo_list, data_type=np.float64)`), so every number arrives exactly. Before that repair the file went
through `tlt_load`, whose reader defaults to float32 (`cleanMask_float32_file_counterexample`). -/
theorem mask_tomo_file_exact : Gen.C09.maskTomoFileExact = true := rfl

/-- anchor: `tlt_load(input_tlt, sort_angles=True)` — whoever omits the keyword gets sorted values; the translator also checks
that every sorting call of `tlt_load` sits under `if sort_angles:` (anchor `tlt_load:nothing is sorted unless sort_angles holds`) -/
theorem tlt_load_sort_default_documented : Gen.C09.tltLoadSortDefault = true := rfl

/-- anchor: `cryomap.read` turns file order (z, y, x) into array index `[x, y, z]` -/
theorem read_transpose_documented : Gen.C09.readTransposeAxes = [2, 1, 0] := rfl

theorem points_ball_query_per_tomogram : Gen.C09.pointsBallQueryPerTomogram = true := rfl

/-- the complete position is `x + shift_x, y + shift_y, z + shift_z` -/
theorem coord_columns_documented :
    Gen.C09.coordColumns = ["x", "y", "z"] ∧ Gen.C09.shiftColumns = ["shift_x", "shift_y", "shift_z"] := ⟨rfl, rfl⟩

/-- an N×4 dimensions table is read as tomo_id, x, y, z -/
theorem dim_columns_documented : Gen.C09.dimColumns = ["tomo_id", "x", "y", "z"] := rfl


/-- `cryomap.binarize`: a mask voxel is non-zero iff `value > 0.5` -/
theorem binarize_documented : Gen.C09.binarizeCfg = binarizeCfgDoc := rfl

/-! ### signature defaults the statement depends on (the harness omits these keywords in a share of its calls).
These `…_documented` equalities — like the skeleton equalities below — are TRANSLATOR ANCHORS: they tie the text of today's
source to the model; none of them is a clause of the property. -/

/-- `remove_out_of_bounds_particles(dimensions, boundary_type="center", box_size=None)` -/
theorem oob_defaults_documented :
    Gen.C09.oobDefaults = [("boundary_type", "'center'"), ("box_size", "None")] := rfl

/-- `clean_by_distance_to_points(points, radius_in_voxels, feature_id="tomo_id", inplace=True, output_file=None)`:
grouping is by tomogram and the list itself is cleaned unless asked otherwise -/
theorem points_defaults_documented :
    Gen.C09.pointsDefaults = [("feature_id", "'tomo_id'"), ("inplace", "True"), ("output_file", "None")] := rfl

/-- `clean_by_tomo_mask(tomo_list, tomo_masks, inplace=True, output_file=None)` -/
theorem mask_defaults_documented :
    Gen.C09.maskDefaults = [("inplace", "True"), ("output_file", "None")] := rfl

theorem binarize_defaults_documented : Gen.C09.binarizeDefaults = [("threshold", "0.5")] := rfl

theorem dims_load_defaults_documented : Gen.C09.dimsLoadDefaults = [("tomo_idx", "None")] := rfl

theorem tlt_load_defaults_documented : Gen.C09.tltLoadDefaults = [("sort_angles", "True")] := rfl

/-- a mask given as a file path goes through `cryomap.read(path)` with these defaults (`binarize` passes nothing else) -/
theorem read_defaults_documented : Gen.C09.readDefaults = [("transpose", "True"), ("data_type", "None")] := rfl

/-! ### body skeletons (translator anchors, not clauses of the property): everything of the anchored functions that is not one of
the operators above. Locals are renamed `v1, v2, …` in order of first binding and a local that is never read prints as `_` (a
renamed local changes nothing here); docstrings and type annotations are dropped; the text of exception messages is `MSG` (the
exception TYPE stays) and `print`/log calls are `LOG()`; `(X).all(axis=k)` is written `np.all(X, axis=k)`; the extracted
operators/constants appear as named holes. An added, removed, reordered or edited statement breaks the `rfl`. -/

/-- `remove_out_of_bounds_particles`: dimensions through `ioutils.dimensions_load`, refusals, complete positions, per row the
FIRST dimension row of the row's own tomogram, `c ∓ boundary` on `x..z`, one conjunction of the lower test and three upper tests
(axis i against column x/y/z), survivors by `iloc` in order -/
theorem oob_skeleton_documented : Gen.C09.oobSkeleton = [
  "def(self, dimensions, boundary_type='center', box_size=None)",
  "v1 = ioutils.dimensions_load(dimensions)",
  "_ = len(self.df)",
  "if boundary_type == 'whole':",
  "    if box_size:",
  "        v2 = HALF_BOX(box_size)",
  "    else:",
  "        raise UserInputError(MSG)",
  "elif boundary_type == 'center':",
  "    v2 = 0",
  "else:",
  "    raise UserInputError(MSG)",
  "v3 = self.get_coordinates()",
  "v4 = pd.DataFrame({'x': v3[:, 0], 'y': v3[:, 1], 'z': v3[:, 2], 'tomo_id': self.df['tomo_id'].values})",
  "v5 = []",
  "for v6, v7 in v4.iterrows():",
  "    v8 = v7['tomo_id']",
  "    v9 = v1.loc[v1['tomo_id'] == v8, 'x':'z'].reset_index(drop=True)",
  "    v10 = [v11 - v2 for v11 in v7['x':'z']]",
  "    v12 = [v11 + v2 for v11 in v7['x':'z']]",
  "    if LOWER_FACES_OK(v10) and CMP_UPPER(v12[0], v9['x'][0]) and CMP_UPPER(v12[1], v9['y'][0]) and CMP_UPPER(v12[2], v9['z'][0]):",
  "        v5.append(v6)",
  "self.df = self.df.iloc[v5].reset_index(drop=True)",
  "LOG()",
  "LOG()"] := rfl

/-- `adapt_to_trimming`: `start - OFFSET` is a NEW array (the caller's array is not touched), `tdim = end - that`, x,y,z shifted for
every row, then the two negated any-axis filters -/
theorem trim_skeleton_documented : Gen.C09.trimSkeleton = [
  "def(self, trim_coord_start, trim_coord_end)",
  "v1 = np.asarray(trim_coord_start) - OFFSET",
  "v2 = np.asarray(trim_coord_end) - v1",
  "self.df[['x', 'y', 'z']] = self.df[['x', 'y', 'z']] - np.tile(v1, (self.df.shape[0], 1))",
  "self.df = self.df.loc[~(CMP_LOW(self.df['x'], LOW_BOUND) | CMP_LOW(self.df['y'], LOW_BOUND) | CMP_LOW(self.df['z'], LOW_BOUND)), :]",
  "self.df = self.df.loc[~(CMP_HIGH(self.df['x'], v2[0]) | CMP_HIGH(self.df['y'], v2[1]) | CMP_HIGH(self.df['z'], v2[2])), :]"] := rfl

/-- `clean_by_tomo_mask`: list-length check, binarisation, per listed tomogram the subset of the ORIGINAL list, truncated complete
positions, the bounds mask applied to coordinates AND ids alike, voxel lookup `[x, y, z]`, rows dropped from the copy -/
theorem mask_skeleton_documented : Gen.C09.maskSkeleton = [
  "def(self, tomo_list, tomo_masks, inplace=True, output_file=None)",
  "if not isinstance(tomo_list, (str, list, np.ndarray)):",
  "    tomo_list = np.atleast_1d(np.asarray(tomo_list))",
  "if isinstance(tomo_list, str) and (not tomo_list.endswith(('.mdoc', '.xml'))):",
  "    v1 = READ_TOMO_FILE(tomo_list, EXACT_DTYPE)",
  "else:",
  "    v1 = LOAD_TOMO_LIST(tomo_list)",
  "v2 = True",
  "if isinstance(tomo_masks, list):",
  "    if len(v1) != len(tomo_masks):",
  "        raise ValueError(MSG)",
  "else:",
  "    v3 = cryomap.binarize(tomo_masks)",
  "    v2 = False",
  "v4 = Motl.load(self)",
  "for v5, v6 in enumerate(v1):",
  "    v7 = self.get_motl_subset(v6, reset_index=True)",
  "    v8 = v7.get_coordinates().astype(int)",
  "    if v2:",
  "        v3 = cryomap.binarize(tomo_masks[v5])",
  "    v9 = np.all(CMP_IDX_LOW(v8, 0), axis=1) & CMP_IDX_HIGH(v8[:, 0], v3.shape[0]) & CMP_IDX_HIGH(v8[:, 1], v3.shape[1]) & CMP_IDX_HIGH(v8[:, 2], v3.shape[2])",
  "    v8 = v8[v9]",
  "    v10 = v7.df['subtomo_id'].values[v9]",
  "    v11 = v3[v8[:, 0], v8[:, 1], v8[:, 2]]",
  "    v12 = np.where(CMP_VOXEL(v11, 0))[0]",
  "    v13 = v10[v12]",
  "    DROP_ROWS(v4, v6, v13)",
  "    LOG()",
  "v4.df.reset_index(inplace=True, drop=True)",
  "if output_file is not None:",
  "    v4.write_out(output_file)",
  "if inplace:",
  "    self.df = v4.df",
  "else:",
  "    return v4"] := rfl

/-- `clean_by_distance_to_points`: per value of `feature_id` a KD-tree of the particles' complete positions, one closed-ball query
per reference point of that tomogram with `r = radius_in_voxels`, hit rows dropped by position, groups concatenated -/
theorem points_skeleton_documented : Gen.C09.pointsSkeleton = [
  "def(self, points, radius_in_voxels, feature_id='tomo_id', inplace=True, output_file=None)",
  "v1 = self.get_unique_values(feature_id)",
  "v2 = pd.DataFrame()",
  "for v3 in v1:",
  "    v4 = self.get_motl_subset(v3, feature_id=feature_id, reset_index=True)",
  "    v5 = v4.get_coordinates()",
  "    v6 = points.loc[points[feature_id] == v3, ['x', 'y', 'z']].values",
  "    v7 = KDTree(v5)",
  "    v8 = set()",
  "    for v9 in v6:",
  "        v10 = v7.query_ball_point(v9, r=radius_in_voxels)",
  "        v8.update(v10)",
  "    v8 = sorted(v8)",
  "    v11 = v4.df.drop(index=v8)",
  "    v2 = pd.concat([v2, v11], ignore_index=True)",
  "v2.reset_index(drop=True, inplace=True)",
  "v12 = Motl(v2)",
  "if output_file:",
  "    v12.write_out(output_file)",
  "LOG()",
  "if inplace:",
  "    self.df = v2",
  "else:",
  "    return v12"] := rfl

/-- `get_coordinates`: `x,y,z + shift_x,shift_y,shift_z` -/
theorem coords_skeleton_documented : Gen.C09.coordsSkeleton = [
  "def(self, tomo_number=None)",
  "if tomo_number is None:",
  "    v1 = self.df.loc[:, ['x', 'y', 'z']].values + self.df.loc[:, ['shift_x', 'shift_y', 'shift_z']].values",
  "else:",
  "    v1 = self.df.loc[self.df.loc[:, 'tomo_id'] == tomo_number, ['x', 'y', 'z']].values + self.df.loc[self.df.loc[:, 'tomo_id'] == tomo_number, ['shift_x', 'shift_y', 'shift_z']].values",
  "return v1"] := rfl

/-- `ioutils.dimensions_load`: DataFrame as is, `.com` file, text file (`\\s+` separated, no header, float), every other
input through `np.asarray` (list, nested list, tuple, ndarray; 1-D reshaped to one row); 1×3 → x,y,z, N×4 → tomo_id,x,y,z, anything
else refused -/
theorem dims_load_skeleton_documented : Gen.C09.dimsLoadSkeleton = [
  "def(input_dims, tomo_idx=None)",
  "if isinstance(input_dims, pd.DataFrame):",
  "    v1 = input_dims",
  "elif isinstance(input_dims, str):",
  "    if input_dims.endswith('.com'):",
  "        v2 = imod_com_read(input_dims)",
  "        v1 = np.zeros((1, 3))",
  "        v1[0, 0:2] = v2['FULLIMAGE']",
  "        v1[0, 2] = v2['THICKNESS'][0]",
  "        v1 = pd.DataFrame(v1)",
  "    elif os.path.isfile(input_dims):",
  "        v1 = pd.read_csv(input_dims, sep='\\\\s+', header=None, dtype=float)",
  "    else:",
  "        raise ValueError(MSG)",
  "else:",
  "    input_dims = np.asarray(input_dims)",
  "    if input_dims.ndim == 1:",
  "        input_dims = np.reshape(input_dims, (1, input_dims.shape[0]))",
  "    v1 = pd.DataFrame(input_dims)",
  "if v1.shape == (1, 3):",
  "    v1.columns = ['x', 'y', 'z']",
  "elif v1.shape[1] == 4:",
  "    v1.columns = ['tomo_id', 'x', 'y', 'z']",
  "else:",
  "    raise ValueError(MSG)",
  "if tomo_idx is not None:",
  "    v3 = tlt_load(tomo_idx).astype(int)",
  "    if 'tomo_id' not in v1.columns:",
  "        v4 = np.repeat(v1[['x', 'y', 'z']].values, len(v3), axis=0)",
  "        v1 = pd.DataFrame(v4, columns=['x', 'y', 'z'])",
  "        v1['tomo_id'] = v3",
  "return v1"] := rfl

/-- `cryomap.binarize`: `read`, one comparison with the threshold, 0/1 integers -/
theorem binarize_skeleton_documented : Gen.C09.binarizeSkeleton = [
  "def(input_map, threshold=0.5)",
  "input_map = read(input_map)",
  "v1 = CMP_BIN(input_map, threshold).astype(int)",
  "return v1"] := rfl

/-! helper bodies the four filters run through (translator anchors) -/

/-- `Motl.get_motl_subset`: for every listed value, in list order, the rows whose feature EQUALS it (`==`, no tolerance), copied and
concatenated — no row dropped, none merged; index reset on request -/
theorem subset_skeleton_documented : Gen.C09.subsetSkeleton = [
  "def(self, feature_values, feature_id='tomo_id', return_df=False, reset_index=True)",
  "feature_values = np.atleast_1d(np.asarray(feature_values))",
  "v1 = Motl.create_empty_motl_df()",
  "for v2 in feature_values:",
  "    v3 = self.df.loc[self.df[feature_id] == v2].copy()",
  "    v1 = pd.concat([v1, v3])",
  "if reset_index:",
  "    v1 = v1.reset_index(drop=True)",
  "if return_df:",
  "    return v1",
  "else:",
  "    return Motl(motl_df=v1)"] := rfl

/-- `Motl.get_unique_values`: `Series.unique()` — order of first appearance -/
theorem unique_values_skeleton_documented : Gen.C09.uniqueValuesSkeleton = [
  "def(self, feature_id)",
  "return self.df.loc[:, feature_id].unique()"] := rfl

/-- `Motl.load`: a Motl instance becomes a NEW EmMotl holding a copy of its frame -/
theorem motl_load_skeleton_documented : Gen.C09.motlLoadSkeleton = [
  "def(cls, input_motl, motl_type='emmotl')",
  "if isinstance(input_motl, Motl):",
  "    return copy.deepcopy(input_motl)",
  "if motl_type == 'emmotl':",
  "    return EmMotl(input_motl)",
  "elif motl_type == 'relion':",
  "    return RelionMotl(input_motl)",
  "elif motl_type == 'stopgap':",
  "    return StopgapMotl(input_motl)",
  "elif motl_type == 'dynamo':",
  "    return DynamoMotl(input_motl)",
  "else:",
  "    raise UserInputError(MSG)"] := rfl

/-- `ioutils.tlt_load`: ndarray as given, list through `np.asarray`, file values sorted only under `if sort_angles:` -/
theorem tlt_load_skeleton_documented : Gen.C09.tltLoadSkeleton = [
  "def(input_tlt, sort_angles=True)",
  "if isinstance(input_tlt, np.ndarray):",
  "    if input_tlt.size == 0:",
  "        raise ValueError(MSG)",
  "    else:",
  "        return input_tlt",
  "elif isinstance(input_tlt, list):",
  "    if len(input_tlt) == 0:",
  "        raise ValueError(MSG)",
  "    else:",
  "        return np.asarray(input_tlt)",
  "elif isinstance(input_tlt, str):",
  "    if input_tlt.endswith('.mdoc'):",
  "        v1 = mdoc.Mdoc(input_tlt)",
  "        v2 = v1.get_image_feature('TiltAngle').values",
  "    elif input_tlt.endswith('.xml'):",
  "        v2 = get_data_from_warp_xml(input_tlt, 'Angles', node_level=1)",
  "    else:",
  "        v2 = one_value_per_line_read(input_tlt)",
  "    if sort_angles:",
  "        v2 = np.sort(v2)",
  "    return v2",
  "else:",
  "    raise ValueError(MSG)"] := rfl

/-- `ioutils.one_value_per_line_read`: first column of a whitespace-separated file, read with dtype `data_type` (default float32) -/
theorem one_value_per_line_skeleton_documented : Gen.C09.oneValuePerLineSkeleton = [
  "def(file_path, data_type=np.float32)",
  "if not os.path.isfile(file_path):",
  "    raise ValueError(MSG)",
  "try:",
  "    v1 = pd.read_csv(file_path, header=None, dtype=data_type, sep='\\\\s+')",
  "    if v1.empty:",
  "        raise ValueError(MSG)",
  "except pd.errors.EmptyDataError:",
  "    raise ValueError(MSG)",
  "return v1.iloc[:, 0].values"] := rfl

/-- `cryomap.read`: file data transposed `(2, 1, 0)` iff `transpose` (default), arrays copied as given -/
theorem read_skeleton_documented : Gen.C09.readSkeleton = [
  "def(input_map, transpose=True, data_type=None)",
  "if isinstance(input_map, str):",
  "",
  "    def valid_mrc(filename):",
  "        v1 = '\\\\.(mrc|ali|rec|st)(\\\\.\\\\d+)?$'",
  "        return bool(re.search(v1, filename))",
  "    if valid_mrc(input_map):",
  "        v2 = mrcfile.open(input_map).data",
  "    elif input_map.endswith('.em'):",
  "        v2 = emfile.read(input_map)[1]",
  "    else:",
  "        raise ValueError(MSG)",
  "    if transpose:",
  "        v2 = v2.transpose(2, 1, 0)",
  "elif isinstance(input_map, np.ndarray):",
  "    v2 = np.array(input_map)",
  "else:",
  "    raise ValueError(MSG)",
  "v2 = np.array(v2, copy=True)",
  "if data_type is not None:",
  "    v2 = v2.astype(data_type)",
  "return v2"] := rfl

section generic
variable {α : Type} [Add α] [Sub α] [Mul α] [LT α] [LE α] [DecidableLT α] [DecidableLE α] [DecidableEq α]
  [NatCast α] [OfNat α 0]

/-! ## the model of today's source is one of the models the theorems are about -/

/-- today's `remove_out_of_bounds_particles` is `oobAsIs` (finding C09-K1) or, once repaired, `oob` -/
theorem oobCode_is (dims : List (Dim α)) (bt : BType) (box : Option Nat) (l : Motl α) :
    oobCode dims bt box l = oobAsIs dims bt box l ∨ oobCode dims bt box l = oob dims bt box l := by
  rcases oob_code_cfg with h | h
  · left; unfold oobCode oobAsIs; rw [h]
  · right; unfold oobCode oob; rw [h]

theorem trimCode_eq (s e : V3 α) (l : Motl α) : trimCode s e l = trim s e l := by
  unfold trimCode trim; rw [trim_cfg_documented]

theorem cleanMaskCode_eq (tr : α → Int) (tomos : List α) (arg : MaskArg) (l : Motl α) :
    cleanMaskCode tr tomos arg l = cleanMask tr tomos arg l := by
  unfold cleanMaskCode cleanMask; rw [mask_cfg_documented]

/-- `tlt_load(·, sort_angles=False)` hands back the caller's values in the caller's order, whatever the form of the argument -/
theorem tltLoad_false (ta : TomoArg α) : tltLoad false ta = ta.values := by cases ta <;> rfl

/-- a list / tuple / ndarray / single number is never sorted, whatever `sort_angles` says -/
theorem tltLoad_asGiven (s : Bool) (l : List α) : tltLoad s (.asGiven l) = l := rfl

/-- only a FILE is affected by `sort_angles` -/
theorem tltLoad_fromFile (s : Bool) (l : List α) : tltLoad s (.fromFile l) = if s then sortAsc l else l := rfl

theorem cleanMaskArg_eq (tr : α → Int) (ta : TomoArg α) (arg : MaskArg) (l : Motl α) :
    cleanMaskArg tr ta arg l = cleanMask tr ta.values arg l := by
  unfold cleanMaskArg cleanMaskArgWith cleanMask; rw [tltLoad_false]

/-- **today's `clean_by_tomo_mask`, whatever the form of `tomo_list` (in memory or a file), is the model the theorems are about,
run on the caller's list in the caller's order** -/
theorem cleanMaskArgCode_eq (tr : α → Int) (ta : TomoArg α) (arg : MaskArg) (l : Motl α) :
    cleanMaskArgCode tr ta arg l = cleanMask tr ta.values arg l := by
  unfold cleanMaskArgCode cleanMaskArgWith cleanMask; rw [mask_cfg_documented, mask_tomo_list_as_given, tltLoad_false]

theorem readWith_id (ta : TomoArg α) : ta.readWith id = ta := by cases ta <;> simp [TomoArg.readWith]

/-- **today's `clean_by_tomo_mask` INCLUDING the reader of a tomogram file** is the documented loop on the caller's numbers in the
caller's order: no sorting (`mask_tomo_list_as_given`), no rounding (`mask_tomo_file_exact`), whatever `rd32` a 32-bit reader would be -/
theorem cleanMaskFileCode_eq (rd32 : α → α) (tr : α → Int) (ta : TomoArg α) (arg : MaskArg) (l : Motl α) :
    cleanMaskFileCode rd32 tr ta arg l = cleanMask tr ta.values arg l := by
  unfold cleanMaskFileCode
  rw [mask_tomo_file_exact, if_pos rfl, readWith_id, cleanMaskArgCode_eq]

theorem lookupDim_some (dims : List (Dim α)) (t : α) (d : Dim α) (h : lookupDim dims t = some d) :
    d ∈ dims ∧ d.tomo = t := by
  unfold lookupDim at h
  exact ⟨List.mem_of_find?_eq_some h, by simpa using List.find?_some h⟩

theorem lookupDim_none (dims : List (Dim α)) (t : α) : lookupDim dims t = none ↔ ∀ d ∈ dims, d.tomo ≠ t := by
  rw [lookupDim, List.find?_eq_none]
  simp only [decide_eq_true_eq, ne_eq]

/-- `boundary` is `0` for "center" and `⌈box/2⌉` for "whole" with a positive box size; everything
else is refused -/
theorem boundary_spec (bt : BType) (box : Option Nat) (bn : Nat) :
    boundaryWith oobCfgDoc bt box = .ok bn ↔
      (bt = .center ∧ bn = 0) ∨ (bt = .whole ∧ ∃ n, box = some n ∧ 0 < n ∧ n ≤ 2 * bn ∧ 2 * bn ≤ n + 1) := by
  cases bt with
  | center => simp [boundaryWith, eq_comm]
  | other => simp [boundaryWith]
  | whole =>
    rcases box with _ | _ | n
    · simp [boundaryWith]
    · simp [boundaryWith]
    · -- `bn = (n + 2) / 2`
      simp only [boundaryWith, oobCfgDoc, Rounding.div, Except.ok.injEq, reduceCtorEq, false_and, true_and, false_or,
        Option.some.injEq, exists_eq_left']
      omega

theorem boundaryWith_asIs (bt : BType) (box : Option Nat) :
    boundaryWith oobCfgAsIs bt box = boundaryWith oobCfgDoc bt box := rfl

/-- **The statement for one particle.** The complete position (`b = 0`) — or the box of half-width `b`
around it — lies inside the dimensions of the particle's OWN tomogram, on the lower as well as on the
upper side (the code's convention: lower faces closed `0 ≤ c - b`, upper faces open `c + b < dim`). -/
def InsideOwnTomogram (dims : List (Dim α)) (b : α) (p : Particle α) : Prop :=
  ∃ d, lookupDim dims p.tomo_id = some d ∧
    ((0 : α) ≤ (pos p).x - b ∧ (0 : α) ≤ (pos p).y - b ∧ (0 : α) ≤ (pos p).z - b) ∧
    ((pos p).x + b < d.x ∧ (pos p).y + b < d.y ∧ (pos p).z + b < d.z)

/-- the same with the lower faces left out: what the unrepaired code tests -/
def BelowUpperFaces (dims : List (Dim α)) (b : α) (p : Particle α) : Prop :=
  ∃ d, lookupDim dims p.tomo_id = some d ∧
    ((pos p).x + b < d.x ∧ (pos p).y + b < d.y ∧ (pos p).z + b < d.z)

theorem lowerOk_ge_iff (b : α) (c : V3 α) :
    lowerOk (.elementwise .ge) b c = true ↔ (0 : α) ≤ c.x - b ∧ (0 : α) ≤ c.y - b ∧ (0 : α) ≤ c.z - b := by
  simp only [lowerOk, Cmp.eval, Bool.and_eq_true, decide_eq_true_eq, and_assoc]

theorem upperOk_lt_iff (b : α) (c : V3 α) (d : Dim α) :
    upperOk .lt b c d = true ↔ c.x + b < d.x ∧ c.y + b < d.y ∧ c.z + b < d.z := by
  simp only [upperOk, Cmp.eval, Bool.and_eq_true, decide_eq_true_eq, and_assoc]

theorem oobKeep_asis_iff (dims : List (Dim α)) (b : α) (p : Particle α) :
    oobKeep oobCfgAsIs dims b p = true ↔ BelowUpperFaces dims b p := by
  unfold oobKeep BelowUpperFaces
  cases lookupDim dims p.tomo_id with
  | none => simp
  | some d => simp only [lowerOk, oobCfgAsIs, Bool.true_and, upperOk_lt_iff, Option.some.injEq, exists_eq_left']

theorem oobKeep_doc_eq (dims : List (Dim α)) (b : α) (p : Particle α) :
    oobKeep oobCfgDoc dims b p = (lowerOk (.elementwise .ge) b (pos p) && oobKeep oobCfgAsIs dims b p) := by
  unfold oobKeep
  cases lookupDim dims p.tomo_id with
  | none => exact (Bool.and_false _).symm
  | some d => rfl

theorem oobKeep_doc_iff (dims : List (Dim α)) (b : α) (p : Particle α) :
    oobKeep oobCfgDoc dims b p = true ↔ InsideOwnTomogram dims b p := by
  rw [oobKeep_doc_eq, Bool.and_eq_true, lowerOk_ge_iff, oobKeep_asis_iff]
  exact ⟨fun ⟨hl, d, hd, hu⟩ => ⟨d, hd, hl, hu⟩, fun ⟨d, hd, hl, hu⟩ => ⟨hl, d, hd, hu⟩⟩

theorem oobWith_ok (cfg : OobCfg) (dims : List (Dim α)) (bt : BType) (box : Option Nat) (l out : Motl α)
    (h : oobWith cfg dims bt box l = .ok out) :
    ∃ bn, boundaryWith cfg bt box = .ok bn ∧ l.all (fun p => (lookupDim dims p.tomo_id).isSome) = true ∧
      out = l.filter (oobKeep cfg dims (bn : α)) := by
  unfold oobWith at h
  split at h
  · cases h
  · rename_i bn hb
    split at h
    · rename_i hall; cases h; exact ⟨bn, hb, hall, rfl⟩
    · cases h

theorem oobWith_spec (cfg : OobCfg) (dims : List (Dim α)) {P : α → Particle α → Prop}
    (hP : ∀ b p, oobKeep cfg dims b p = true ↔ P b p) (bt : BType) (box : Option Nat) (l out : Motl α)
    (h : oobWith cfg dims bt box l = .ok out) :
    ∃ bn, boundaryWith cfg bt box = .ok bn ∧ KeepsExactly (P (bn : α)) l out := by
  obtain ⟨bn, hb, _, rfl⟩ := oobWith_ok cfg dims bt box l out h
  exact ⟨bn, hb, _, rfl, fun p _ => hP _ p⟩

/-- **Out-of-bounds removal keeps exactly the particles that lie inside** (for every particle list,
every dimension table, both boundary types, every box size): whenever the call is not refused, the
result is the input filtered by `InsideOwnTomogram` — order and multiplicities preserved, every
survivor an unaltered input row. -/
theorem oob_spec (dims : List (Dim α)) (bt : BType) (box : Option Nat) (l out : Motl α)
    (h : oob dims bt box l = .ok out) :
    ∃ bn, boundaryWith oobCfgDoc bt box = .ok bn ∧ KeepsExactly (InsideOwnTomogram dims (bn : α)) l out :=
  oobWith_spec oobCfgDoc dims (oobKeep_doc_iff dims) bt box l out h

theorem oob_mem_iff (dims : List (Dim α)) (bt : BType) (box : Option Nat) (l out : Motl α)
    (h : oob dims bt box l = .ok out) (p : Particle α) :
    p ∈ out ↔ p ∈ l ∧ ∃ bn, boundaryWith oobCfgDoc bt box = .ok bn ∧ InsideOwnTomogram dims (bn : α) p := by
  obtain ⟨bn, hb, hk⟩ := oob_spec dims bt box l out h
  rw [hk.mem_iff, hb]
  exact and_congr_right fun _ => ⟨fun h2 => ⟨bn, rfl, h2⟩, fun ⟨_, hb', h2⟩ => Except.ok.inj hb' ▸ h2⟩

/-- survivors are never altered and stay in order -/
theorem oob_sublist (dims : List (Dim α)) (bt : BType) (box : Option Nat) (l out : Motl α)
    (h : oob dims bt box l = .ok out) : out.Sublist l := by
  obtain ⟨_, _, hk⟩ := oob_spec dims bt box l out h
  exact hk.sublist

/-- **What is refused, and nothing else**: an unknown boundary type, "whole" without a positive box
size, or a particle whose tomogram has no dimensions. -/
theorem oob_rejects_iff (dims : List (Dim α)) (bt : BType) (box : Option Nat) (l : Motl α) (e : OobErr) :
    oob dims bt box l = .error e ↔
      boundaryWith oobCfgDoc bt box = .error e ∨
      ((∃ bn, boundaryWith oobCfgDoc bt box = .ok bn) ∧ e = .noDimensions ∧ ∃ p ∈ l, lookupDim dims p.tomo_id = none) := by
  unfold oob oobWith
  cases boundaryWith oobCfgDoc bt box with
  | error e' => simp
  | ok bn =>
    simp only [reduceCtorEq, false_or, Except.ok.injEq, exists_eq', true_and]
    split
    · rename_i hall
      refine iff_of_false (fun h => nomatch h) ?_
      rintro ⟨_, p, hp, hn⟩
      have := List.all_eq_true.1 hall p hp
      rw [hn] at this; cases this
    · rename_i hall
      rw [Except.error.injEq]
      refine ⟨fun h => ⟨h.symm, ?_⟩, fun h => h.1.symm⟩
      simpa only [List.all_eq_true, not_forall, Option.not_isSome_iff_eq_none, exists_prop] using hall

/-- the unrepaired code (finding C09-K1) keeps exactly the particles below the UPPER faces -/
theorem oobAsIs_spec (dims : List (Dim α)) (bt : BType) (box : Option Nat) (l out : Motl α)
    (h : oobAsIs dims bt box l = .ok out) :
    ∃ bn, boundaryWith oobCfgDoc bt box = .ok bn ∧ KeepsExactly (BelowUpperFaces dims (bn : α)) l out :=
  oobWith_spec oobCfgAsIs dims (oobKeep_asis_iff dims) bt box l out h

/-- **Partial correctness of the unrepaired code (C09-K1).** If no particle of the list reaches below a
lower face, the unrepaired code computes exactly what the property demands. The hypothesis is the
class excluded by the open finding and is necessary (`oob_counterexample`). -/
theorem oob_partial (dims : List (Dim α)) (bt : BType) (box : Option Nat) (l : Motl α)
    (hlow : ∀ bn, boundaryWith oobCfgDoc bt box = .ok bn → ∀ p ∈ l,
      (0 : α) ≤ (pos p).x - (bn : α) ∧ (0 : α) ≤ (pos p).y - (bn : α) ∧ (0 : α) ≤ (pos p).z - (bn : α)) :
    oobAsIs dims bt box l = oob dims bt box l := by
  unfold oobAsIs oob oobWith
  rw [boundaryWith_asIs]
  cases hb : boundaryWith oobCfgDoc bt box with
  | error e => rfl
  | ok bn =>
    have : l.filter (oobKeep oobCfgAsIs dims (bn : α)) = l.filter (oobKeep oobCfgDoc dims (bn : α)) :=
      List.filter_congr fun p hp => by rw [oobKeep_doc_eq, (lowerOk_ge_iff _ _).2 (hlow bn hb p hp), Bool.true_and]
    simp only [this]

/-- the unrepaired code errs on one side only: it never removes a particle that lies inside (its
result contains the demanded one as a sublist) -/
theorem oobAsIs_keeps_more (dims : List (Dim α)) (bt : BType) (box : Option Nat) (l o₁ : Motl α)
    (h : oob dims bt box l = .ok o₁) : ∃ o₂, oobAsIs dims bt box l = .ok o₂ ∧ o₁.Sublist o₂ := by
  obtain ⟨bn, hb, hall, rfl⟩ := oobWith_ok _ dims bt box l o₁ h
  refine ⟨l.filter (oobKeep oobCfgAsIs dims (bn : α)), ?_, ?_⟩
  · unfold oobAsIs oobWith
    rw [boundaryWith_asIs, hb]
    exact if_pos hall
  · -- filtering with the documented test = filtering the recorded result once more, by the lower faces
    have : l.filter (oobKeep oobCfgDoc dims (bn : α))
        = (l.filter (oobKeep oobCfgAsIs dims (bn : α))).filter (fun p => lowerOk (.elementwise .ge) (bn : α) (pos p)) := by
      rw [List.filter_filter]
      exact List.filter_congr fun p _ => oobKeep_doc_eq dims _ p
    rw [this]
    exact List.filter_sublist

end generic

/-- the particle of cryoCAT's own test `test_remove_out_of_bounds_particles` (third assertion): centre
(10,10,10) in a 100³ tomogram, box 40 — the box reaches to −10 -/
def k1Particle : Particle Int :=
  Particle.ofFn (fun f => match f with
    | .x => 10 | .y => 10 | .z => 10 | .tomo_id => 1 | .subtomo_id => 1 | _ => 0)

/-- a particle with a negative centre, boundary type "center" -/
def k1Negative : Particle Int :=
  Particle.ofFn (fun f => match f with
    | .x => -3 | .y => 10 | .z => 10 | .tomo_id => 1 | .subtomo_id => 2 | _ => 0)

/-- **Witness of the open finding C09-K1** (replayed against the real code from corpus/C09 on every
run): the unrepaired code keeps both particles, the property removes them; so the output of the
unrepaired code does NOT keep exactly the inside particles. -/
theorem oob_counterexample :
    (oobAsIs [⟨1, 100, 100, 100⟩] .whole (some 40) [k1Particle]).toOption = some [k1Particle] ∧
    (oob [⟨1, 100, 100, 100⟩] .whole (some 40) [k1Particle]).toOption = some [] ∧
    (oobAsIs [⟨1, 100, 100, 100⟩] .center none [k1Negative]).toOption = some [k1Negative] ∧
    (oob [⟨1, 100, 100, 100⟩] .center none [k1Negative]).toOption = some [] ∧
    ¬ KeepsExactly (InsideOwnTomogram [⟨1, 100, 100, 100⟩] ((20 : Nat) : Int)) [k1Particle] [k1Particle] := by
  refine ⟨by decide +kernel, by decide +kernel, by decide +kernel, by decide +kernel, ?_⟩
  intro h
  have := (h.mem_iff k1Particle).1 (List.mem_singleton.2 rfl)
  obtain ⟨_, d, hd, hlo, _⟩ := this
  revert hlo
  decide +kernel

/-! ## adapt_to_trimming — needs the order axioms (`¬ a < b ↔ b ≤ a`) -/

section ring
variable {R : Type} [CommRing R] [LinearOrder R] [IsStrictOrderedRing R]

/-- the extraction position lies inside the trim box `[start, end]` (1-based voxel coordinates of
the untrimmed volume, both ends included) -/
def InsideTrim (s e : V3 R) (p : Particle R) : Prop :=
  (s.x ≤ p.x ∧ p.x ≤ e.x) ∧ (s.y ≤ p.y ∧ p.y ≤ e.y) ∧ (s.z ≤ p.z ∧ p.z ≤ e.z)

/-- the documented coordinate offset: the origin of the trimmed volume, `start - 1` -/
def trimOffset (s : V3 R) : V3 R := ⟨s.x - 1, s.y - 1, s.z - 1⟩

theorem trimOrigin_doc (s : V3 R) : trimOrigin trimCfgDoc s = trimOffset s := by
  simp [trimOrigin, trimCfgDoc, trimOffset]

/-- `x - (s - 1)` is a valid 1-based coordinate of the trimmed volume iff `x` lies in `[s, e]` -/
theorem trim_axis_iff (s e x : R) : (1 ≤ x - (s - 1) ∧ x - (s - 1) ≤ e - (s - 1)) ↔ (s ≤ x ∧ x ≤ e) := by
  rw [le_sub_iff_add_le, add_sub_cancel, sub_le_sub_iff_right]

theorem trim_keep_iff (s e : V3 R) (p : Particle R) :
    (!trimHighOut trimCfgDoc (trimDim trimCfgDoc s e) (shiftXYZ (trimOffset s) p) &&
      !trimLowOut trimCfgDoc (shiftXYZ (trimOffset s) p)) = true ↔ InsideTrim s e p := by
  have hx : ∀ u v : V3 R, (u - v).x = u.x - v.x := fun _ _ => rfl
  have hy : ∀ u v : V3 R, (u - v).y = u.y - v.y := fun _ _ => rfl
  have hz : ∀ u v : V3 R, (u - v).z = u.z - v.z := fun _ _ => rfl
  simp only [trimHighOut, trimLowOut, trimCfgDoc, Cmp.eval, trimDim, trimOrigin, shiftXYZ, trimOffset, InsideTrim, hx, hy, hz,
    Bool.and_eq_true, Bool.not_eq_true', Bool.or_eq_false_iff, decide_eq_false_iff_not, not_lt, Nat.cast_one]
  rw [← trim_axis_iff s.x e.x p.x, ← trim_axis_iff s.y e.y p.y, ← trim_axis_iff s.z e.z p.z]
  tauto

/-- **Trimming adaptation keeps exactly the particles inside the trimmed volume and re-expresses
x,y,z relative to it**: the result is the list of the particles whose extraction position lies in the
trim box (order, multiplicity preserved), each with `x,y,z` moved by `start - 1` and nothing else. -/
theorem trim_spec (s e : V3 R) (l : Motl R) :
    ∃ kept, KeepsExactly (InsideTrim s e) l kept ∧ trim s e l = kept.map (shiftXYZ (trimOffset s)) := by
  refine ⟨_, ⟨_, rfl, fun p _ => trim_keep_iff s e p⟩, ?_⟩
  unfold trim trimWith
  rw [List.filter_filter, List.filter_map, trimOrigin_doc]
  rfl

/-- survivors are altered by the documented offset only: the 17 other fields are untouched -/
theorem shiftXYZ_other (o : V3 R) (p : Particle R) (f : Field) (hx : f ≠ .x) (hy : f ≠ .y) (hz : f ≠ .z) :
    (shiftXYZ o p).get f = p.get f := by
  cases f <;> first | rfl | exact absurd rfl hx | exact absurd rfl hy | exact absurd rfl hz

/-- anchor (definitional restatement of `shiftXYZ`, not a clause of its own): the three moved fields -/
theorem shiftXYZ_xyz (o : V3 R) (p : Particle R) :
    (shiftXYZ o p).x = p.x - o.x ∧ (shiftXYZ o p).y = p.y - o.y ∧ (shiftXYZ o p).z = p.z - o.z := ⟨rfl, rfl, rfl⟩

/-- every survivor comes from an input particle inside the trim box, and its new coordinates are
valid 1-based coordinates of the trimmed volume: `1 ≤ x' ≤ end - start + 1` -/
theorem trim_survivor (s e : V3 R) (l : Motl R) (q : Particle R) (hq : q ∈ trim s e l) :
    ∃ p ∈ l, InsideTrim s e p ∧ q = shiftXYZ (trimOffset s) p ∧
      (1 ≤ q.x ∧ q.x ≤ e.x - s.x + 1) ∧ (1 ≤ q.y ∧ q.y ≤ e.y - s.y + 1) ∧ (1 ≤ q.z ∧ q.z ≤ e.z - s.z + 1) := by
  obtain ⟨kept, hk, ht⟩ := trim_spec s e l
  rw [ht, List.mem_map] at hq
  obtain ⟨p, hp, rfl⟩ := hq
  obtain ⟨hpl, hin⟩ := (hk.mem_iff p).1 hp
  refine ⟨p, hpl, hin, rfl, ?_⟩
  simp only [sub_add]
  exact ⟨(trim_axis_iff ..).2 hin.1, (trim_axis_iff ..).2 hin.2.1, (trim_axis_iff ..).2 hin.2.2⟩

/-- nothing inside is lost -/
theorem trim_complete (s e : V3 R) (l : Motl R) (p : Particle R) (hp : p ∈ l) (hin : InsideTrim s e p) :
    shiftXYZ (trimOffset s) p ∈ trim s e l := by
  obtain ⟨kept, hk, ht⟩ := trim_spec s e l
  rw [ht]
  exact List.mem_map_of_mem ((hk.mem_iff p).2 ⟨hp, hin⟩)

theorem closed_ball_iff (d r : R) (hd : 0 ≤ d) (hr : 0 ≤ r) : d * d ≤ r * r ↔ d ≤ r :=
  (mul_self_le_mul_self_iff hd hr).symm

/-- **"within the radius" is the closed Euclidean ball.** The model tests `dist2 c q ≤ r * r` (no square root); for a radius
`r ≥ 0` and `d` THE Euclidean distance of `c` and `q` (the non-negative number whose square is `dist2 c q`) that is `d ≤ r`. -/
theorem inBall_iff_dist_le (r d : R) (q c : V3 R) (hr : 0 ≤ r) (hd : 0 ≤ d) (hdd : d * d = dist2 c q) :
    inBall r q c = true ↔ d ≤ r := by
  unfold inBall
  rw [decide_eq_true_eq, ← hdd]
  exact closed_ball_iff d r hd hr

/-- **What the model (and scipy, probed by the harness) does for a NEGATIVE radius:** only `r²` enters, so `-r` selects the same
particles as `r`. The property speaks of radii `r ≥ 0`; a negative radius is outside its quantifier and is never generated. -/
theorem inBall_neg (r : R) (q c : V3 R) : inBall (-r) q c = inBall r q c := by
  unfold inBall; rw [neg_mul_neg]

theorem nearPoint_neg (r : R) (pts : List (Pt R)) (p : Particle R) : nearPoint (-r) pts p = nearPoint r pts p := by
  unfold nearPoint; simp only [inBall_neg]

theorem dist2_nonneg (a b : V3 R) : 0 ≤ dist2 a b := sq3_nonneg _ _ _

theorem dist2_eq_zero (a b : V3 R) : dist2 a b = 0 ↔ a = b := by
  refine ⟨fun h => ?_, ?_⟩
  · obtain ⟨h1, h2, h3⟩ := sq3_eq_zero h
    exact V3.ext' (sub_eq_zero.1 h1) (sub_eq_zero.1 h2) (sub_eq_zero.1 h3)
  · rintro rfl; simp only [dist2, sub_self, mul_zero, add_zero]

/-- radius `0`: exactly the particles sitting ON a reference point of their tomogram are "within the radius" -/
theorem inBall_zero_iff (q c : V3 R) : inBall (0 : R) q c = true ↔ c = q := by
  rw [inBall, decide_eq_true_eq, mul_zero, ← dist2_eq_zero]
  exact ⟨fun h => le_antisymm h (dist2_nonneg c q), le_of_eq⟩

end ring

/-! ### `np.sort` of a tomogram list read from a file (what `tlt_load` does when `sort_angles` holds) -/

section sort
variable {R : Type} [LE R] [DecidableLE R]

theorem insertAsc_perm (a : R) (l : List R) : (insertAsc a l).Perm (a :: l) := by
  induction l with
  | nil => exact List.Perm.refl _
  | cons b l ih =>
    unfold insertAsc
    split
    · exact List.Perm.refl _
    · exact (List.Perm.cons b ih).trans (List.Perm.swap a b l)

theorem insertAsc_eq_cons (a : R) (l : List R) (h : ∀ b ∈ l, a ≤ b) : insertAsc a l = a :: l := by
  cases l with
  | nil => rfl
  | cons b l => unfold insertAsc; rw [if_pos (h b (List.mem_cons_self ..))]

/-- on a file whose lines are already ascending the unrepaired code was right -/
theorem sortAsc_eq_self (l : List R) (h : l.Pairwise (· ≤ ·)) : sortAsc l = l := by
  induction l with
  | nil => rfl
  | cons a l ih =>
    rw [List.pairwise_cons] at h
    show insertAsc a (sortAsc l) = a :: l
    rw [ih h.2, insertAsc_eq_cons a l h.1]

end sort

section ring
variable {R : Type} [CommRing R] [LinearOrder R] [IsStrictOrderedRing R]

theorem sortAsc_perm (l : List R) : (sortAsc l).Perm l := by
  induction l with
  | nil => exact List.Perm.refl _
  | cons a l ih => exact (insertAsc_perm a (sortAsc l)).trans (List.Perm.cons a ih)

/-- **Partial correctness of the code before the `sort_angles=False` repair**: for a list in memory always, for a file whenever
its lines are ascending, it computed the same as the repaired code. The hypothesis is necessary:
`cleanMask_sorted_file_counterexample`. -/
theorem cleanMaskArgSorted_eq_of_ascending (tr : R → Int) (ta : TomoArg R) (arg : MaskArg) (l : Motl R)
    (h : ∀ vs, ta = .fromFile vs → vs.Pairwise (· ≤ ·)) :
    cleanMaskArgSorted tr ta arg l = cleanMaskArg tr ta arg l := by
  unfold cleanMaskArgSorted cleanMaskArg cleanMaskArgWith
  cases ta with
  | asGiven vs => rfl
  | fromFile vs => rw [tltLoad_fromFile, tltLoad_fromFile, if_pos rfl, sortAsc_eq_self vs (h vs rfl)]; rfl

end ring

section generic2
variable {α : Type} [Add α] [Sub α] [Mul α] [LT α] [LE α] [DecidableLT α] [DecidableLE α] [DecidableEq α]
  [NatCast α] [OfNat α 0]

/-- the complete position is within the radius (closed ball, `dist² ≤ r²`) of a reference point of
the SAME tomogram -/
def NearPoint (r : α) (pts : List (Pt α)) (p : Particle α) : Prop :=
  ∃ q ∈ pts, q.tomo = p.tomo_id ∧ dist2 (pos p) q.c ≤ r * r

theorem nearPoint_iff (r : α) (pts : List (Pt α)) (p : Particle α) :
    nearPoint r pts p = true ↔ NearPoint r pts p := by
  simp only [nearPoint, NearPoint, inBall, List.any_eq_true, Bool.and_eq_true, decide_eq_true_eq]

theorem not_nearPoint_iff (r : α) (pts : List (Pt α)) (p : Particle α) :
    (!nearPoint r pts p) = true ↔ ¬ NearPoint r pts p := by
  rw [Bool.not_eq_true', ← Bool.not_eq_true, nearPoint_iff]

/-- **The driver's `spec` for the reference-point clause is the statement itself**: the input without the particles within the
radius of a point of their own tomogram — order and multiplicities of the input, every survivor an unaltered row. -/
theorem cleanPointsStmt_spec (r : α) (pts : List (Pt α)) (l : Motl α) :
    KeepsExactly (fun p => ¬ NearPoint r pts p) l (cleanPointsStmt r pts l) :=
  ⟨_, rfl, fun p _ => not_nearPoint_iff r pts p⟩

/-- the loop over the tomograms computes the groups of the statement's list: the two filters of one iteration commute -/
theorem cleanPoints_eq_groups (r : α) (pts : List (Pt α)) (l : Motl α) :
    cleanPoints r pts l = (uniques (l.map (·.tomo_id))).flatMap
      (fun t => (cleanPointsStmt r pts l).filter (fun p => decide (p.tomo_id = t))) := by
  unfold cleanPoints cleanPointsStmt
  congr 1; funext t
  rw [List.filter_filter, List.filter_filter]
  exact List.filter_congr fun x _ => Bool.and_comm _ _

theorem cleanPointsStmt_keys (r : α) (pts : List (Pt α)) (l : Motl α) :
    ∀ x ∈ cleanPointsStmt r pts l, x.tomo_id ∈ uniques (l.map (·.tomo_id)) :=
  fun _ hx => (mem_uniques _ _).2 (List.mem_map_of_mem (List.mem_filter.1 hx).1)

/-- the code (per-tomogram loop, groups concatenated) returns a permutation of the statement's list -/
theorem cleanPoints_perm_stmt (r : α) (pts : List (Pt α)) (l : Motl α) :
    (cleanPoints r pts l).Perm (cleanPointsStmt r pts l) := by
  rw [cleanPoints_eq_groups]
  exact Lists.groups_perm (fun p : Particle α => p.tomo_id) _ (nodup_uniques _) _ (cleanPointsStmt_keys r pts l)

/-- **Cleaning against reference points removes exactly the particles within the radius of a point
of the same tomogram**: the result is a permutation (the rows come out grouped by tomogram) of the
input filtered by `¬ NearPoint` — so multiplicities are exact and every survivor is an unaltered
input row. -/
theorem cleanPoints_perm (r : α) (pts : List (Pt α)) (l : Motl α) :
    ∃ kept, KeepsExactly (fun p => ¬ NearPoint r pts p) l kept ∧ (cleanPoints r pts l).Perm kept :=
  ⟨_, cleanPointsStmt_spec r pts l, cleanPoints_perm_stmt r pts l⟩

theorem cleanPoints_mem_iff (r : α) (pts : List (Pt α)) (l : Motl α) (p : Particle α) :
    p ∈ cleanPoints r pts l ↔ p ∈ l ∧ ¬ NearPoint r pts p := by
  rw [(cleanPoints_perm_stmt r pts l).mem_iff, (cleanPointsStmt_spec r pts l).mem_iff]

/-- code and statement agree tomogram by tomogram, order included — this (not the order of the groups) is what the harness
compares for the reference-point filter -/
theorem cleanPoints_tomogram_order_stmt (r : α) (pts : List (Pt α)) (l : Motl α) (t : α) :
    (cleanPoints r pts l).filter (fun p => decide (p.tomo_id = t))
      = (cleanPointsStmt r pts l).filter (fun p => decide (p.tomo_id = t)) := by
  rw [cleanPoints_eq_groups]
  exact Lists.filter_groups (fun p : Particle α => p.tomo_id) _ (nodup_uniques _) _ (cleanPointsStmt_keys r pts l) t

/-- inside every tomogram the surviving rows keep their original order: the rows of tomogram `t` in
the result are the rows of tomogram `t` of the input, filtered -/
theorem cleanPoints_tomogram_order (r : α) (pts : List (Pt α)) (l : Motl α) (t : α) :
    (cleanPoints r pts l).filter (fun p => decide (p.tomo_id = t))
      = (l.filter (fun p => decide (p.tomo_id = t))).filter (fun p => !nearPoint r pts p) := by
  rw [cleanPoints_tomogram_order_stmt, cleanPointsStmt, List.filter_filter, List.filter_filter]
  exact List.filter_congr fun x _ => Bool.and_comm _ _

/-- a list that lives in one tomogram is not even reordered -/
theorem cleanPoints_single_tomogram (r : α) (pts : List (Pt α)) (l : Motl α) (t : α)
    (h : ∀ p ∈ l, p.tomo_id = t) : KeepsExactly (fun p => ¬ NearPoint r pts p) l (cleanPoints r pts l) := by
  -- code and statement agree on the rows of tomogram `t`, and both consist of such rows only
  have hfil : ∀ l' : Motl α, (∀ p ∈ l', p ∈ l) → l'.filter (fun p => decide (p.tomo_id = t)) = l' :=
    fun l' h' => List.filter_eq_self.2 fun p hp => decide_eq_true (h p (h' p hp))
  have := cleanPoints_tomogram_order_stmt r pts l t
  rw [hfil _ (fun p hp => ((cleanPoints_mem_iff r pts l p).1 hp).1),
    hfil (cleanPointsStmt r pts l) (fun p hp => (List.mem_filter.1 hp).1)] at this
  rw [this]
  exact cleanPointsStmt_spec r pts l

/-- the voxel index lies inside the mask volume: `0 ≤ idx < shape` on every axis -/
def InsideMask (m : Mask) (v : V3 Int) : Prop :=
  (0 ≤ v.x ∧ 0 ≤ v.y ∧ 0 ≤ v.z) ∧ (v.x < (m.sx : Int) ∧ v.y < (m.sy : Int) ∧ v.z < (m.sz : Int))

/-- the particle's voxel lies inside the mask volume of a mask listed for its tomogram and that
voxel is zero -/
def OnZeroVoxel (tr : α → Int) (tm : List (α × Mask)) (p : Particle α) : Prop :=
  ∃ tmk ∈ tm, p.tomo_id = tmk.1 ∧ InsideMask tmk.2 (voxel tr p) ∧
    tmk.2.val (voxel tr p).x.toNat (voxel tr p).y.toNat (voxel tr p).z.toNat = false

theorem maskHit_doc_iff (tr : α → Int) (m : Mask) (p : Particle α) :
    maskHit maskCfgDoc tr m p = true ↔
      InsideMask m (voxel tr p) ∧ m.val (voxel tr p).x.toNat (voxel tr p).y.toNat (voxel tr p).z.toNat = false := by
  have hv : ∀ b : Bool, ((if b then (1 : Int) else 0) = 0) ↔ b = false := by decide
  simp only [maskHit, withinMask, maskValue, InsideMask, maskCfgDoc, Cmp.eval, Bool.and_eq_true, decide_eq_true_eq, hv, and_assoc]

theorem mem_maskIdsOf (tr : α → Int) (l : Motl α) (tmk : α × Mask) (i : α) :
    i ∈ maskIdsOf maskCfgDoc tr l tmk ↔ ∃ p ∈ l, p.subtomo_id = i ∧ p.tomo_id = tmk.1 ∧ InsideMask tmk.2 (voxel tr p) ∧
      tmk.2.val (voxel tr p).x.toNat (voxel tr p).y.toNat (voxel tr p).z.toNat = false := by
  unfold maskIdsOf
  simp only [List.mem_map, List.mem_filter, decide_eq_true_eq, maskHit_doc_iff]
  constructor
  · rintro ⟨p, ⟨⟨hp, ht⟩, hh⟩, rfl⟩; exact ⟨p, hp, rfl, ht, hh⟩
  · rintro ⟨p, hp, rfl, ht, hh⟩; exact ⟨p, ⟨⟨hp, ht⟩, hh⟩, rfl⟩

theorem mem_maskRemoveIds (tr : α → Int) (tm : List (α × Mask)) (l : Motl α) (i : α) :
    i ∈ maskRemoveIds maskCfgDoc tr tm l ↔ ∃ p ∈ l, p.subtomo_id = i ∧ OnZeroVoxel tr tm p := by
  unfold maskRemoveIds OnZeroVoxel
  simp only [List.mem_flatMap, mem_maskIdsOf]
  constructor
  · rintro ⟨tmk, htm, p, hp, rfl, ht, hh⟩
    exact ⟨p, hp, rfl, tmk, htm, ht, hh⟩
  · rintro ⟨p, hp, rfl, tmk, htm, ht, hh⟩
    exact ⟨tmk, htm, p, hp, rfl, ht, hh⟩

theorem pairMasks_ok (tomos : List α) (arg : MaskArg) (tm : List (α × Mask)) (h : pairMasks tomos arg = .ok tm) :
    (∃ m, arg = .single m ∧ tm = tomos.map (fun t => (t, m))) ∨
    (∃ ms, arg = .perTomo ms ∧ tomos.length = ms.length ∧ tm = tomos.zip ms) := by
  cases arg with
  | single m => left; simp only [pairMasks, Except.ok.injEq] at h; exact ⟨m, rfl, h.symm⟩
  | perTomo ms =>
    right
    simp only [pairMasks] at h
    split at h
    · rename_i hl; injection h with h; exact ⟨ms, rfl, hl, h.symm⟩
    · simp at h

/-! ### the executable statement (`cleanMaskStmt`, the driver's `spec`) IS the statement -/

theorem insideMask_iff (m : Mask) (v : V3 Int) : insideMask m v = true ↔ InsideMask m v := by
  simp only [insideMask, InsideMask, Bool.and_eq_true, decide_eq_true_eq, and_assoc]

theorem onZeroVoxel_iff (tr : α → Int) (tm : List (α × Mask)) (p : Particle α) :
    onZeroVoxel tr tm p = true ↔ OnZeroVoxel tr tm p := by
  unfold onZeroVoxel OnZeroVoxel
  simp only [List.any_eq_true, Bool.and_eq_true, decide_eq_true_eq, insideMask_iff, Bool.not_eq_true']

theorem not_onZeroVoxel_iff (tr : α → Int) (tm : List (α × Mask)) (p : Particle α) :
    (!onZeroVoxel tr tm p) = true ↔ ¬ OnZeroVoxel tr tm p := by
  rw [Bool.not_eq_true', ← Bool.not_eq_true, onZeroVoxel_iff]

/-- **The driver's `spec` for the mask filter is the statement itself**, for EVERY list (no hypothesis on
ids): whenever the call is not refused, `cleanMaskStmt` keeps exactly the particles that are not on a zero
voxel of a mask listed for their own tomogram — order, multiplicities, every survivor an unaltered row. -/
theorem cleanMaskStmt_spec (tr : α → Int) (tomos : List α) (arg : MaskArg) (l out : Motl α)
    (h : cleanMaskStmt tr tomos arg l = .ok out) :
    ∃ tm, pairMasks tomos arg = .ok tm ∧ KeepsExactly (fun p => ¬ OnZeroVoxel tr tm p) l out := by
  unfold cleanMaskStmt at h
  split at h
  · cases h
  · rename_i tm hp
    cases h
    exact ⟨tm, hp, _, rfl, fun p _ => not_onZeroVoxel_iff tr tm p⟩

/-! ### the code: a loop over the listed tomograms, rows dropped by (tomogram, subtomo id) -/

theorem cleanMaskWith_eq_filter (cfg : MaskCfg) (tr : α → Int) (tomos : List α) (arg : MaskArg) (l : Motl α)
    (tm : List (α × Mask)) (hp : pairMasks tomos arg = .ok tm) :
    cleanMaskWith cfg tr tomos arg l = .ok (l.filter (fun p => tm.all (fun tmk => !maskDrops cfg tr l tmk p))) := by
  unfold cleanMaskWith
  rw [hp]
  have hstep : maskStep cfg tr l = fun acc tmk => acc.filter (fun p => !maskDrops cfg tr l tmk p) := rfl
  simp only [hstep, Lists.foldl_filter_all]

theorem cleanMaskWith_ok (cfg : MaskCfg) (tr : α → Int) (tomos : List α) (arg : MaskArg) (l out : Motl α)
    (h : cleanMaskWith cfg tr tomos arg l = .ok out) :
    ∃ tm, pairMasks tomos arg = .ok tm ∧ out = l.filter (fun p => tm.all (fun tmk => !maskDrops cfg tr l tmk p)) := by
  cases hp : pairMasks tomos arg with
  | error e => rw [cleanMaskWith, hp] at h; cases h
  | ok tm =>
    rw [cleanMaskWith_eq_filter cfg tr tomos arg l tm hp] at h
    exact ⟨tm, rfl, (Except.ok.inj h).symm⟩

/-- the documented operators with removal scope `sc`: `maskCfgDoc` at `byTomoAndId`, `maskCfgById` at `byId` (both by `rfl`) -/
abbrev maskCfgAt (sc : RemoveScope) : MaskCfg := { maskCfgDoc with scope := sc }

/-- `p'` carries the key by which `p` is dropped: the subtomo id and, for `byTomoAndId`, the tomogram as well -/
def SameKey (sc : RemoveScope) (p' p : Particle α) : Prop :=
  (sc = .byTomoAndId → p'.tomo_id = p.tomo_id) ∧ p'.subtomo_id = p.subtomo_id

theorem maskKeep_iff (sc : RemoveScope) (tr : α → Int) (tm : List (α × Mask)) (l : Motl α) (p : Particle α) :
    tm.all (fun tmk => !maskDrops (maskCfgAt sc) tr l tmk p) = true ↔
      ¬ ∃ p' ∈ l, SameKey sc p' p ∧ OnZeroVoxel tr tm p' := by
  have hd : ∀ tmk, maskDrops (maskCfgAt sc) tr l tmk p = true ↔
      (sc = .byTomoAndId → p.tomo_id = tmk.1) ∧ p.subtomo_id ∈ maskIdsOf maskCfgDoc tr l tmk := fun tmk => by
    cases sc
    · show (maskIdsOf maskCfgDoc tr l tmk).contains p.subtomo_id = true ↔ _
      simp only [List.contains_iff_mem, reduceCtorEq, false_imp_iff, true_and]
    · show (decide (p.tomo_id = tmk.1) && (maskIdsOf maskCfgDoc tr l tmk).contains p.subtomo_id) = true ↔ _
      simp only [Bool.and_eq_true, decide_eq_true_eq, List.contains_iff_mem, forall_const]
  simp only [List.all_eq_true, Bool.not_eq_true', ← Bool.not_eq_true, hd, mem_maskIdsOf, OnZeroVoxel, SameKey]
  constructor
  · rintro h ⟨p', hp', ⟨ht, hi⟩, tmk, htm, ht', hin, hv⟩
    exact h tmk htm ⟨fun e => ht e ▸ ht', p', hp', hi, ht', hin, hv⟩
  · rintro h tmk htm ⟨ht, p', hp', hi, ht', hin, hv⟩
    exact h ⟨p', hp', ⟨fun e => ht'.trans (ht e).symm, hi⟩, tmk, htm, ht', hin, hv⟩

/-- **Removal by a key removes exactly the rows on zero voxels iff "on a zero voxel" does not vary among the rows that share a
key** — for both scopes: the documented one (`cleanMask_spec_iff`) and removal by id alone (`cleanMaskById_spec`). -/
theorem cleanMaskWith_spec_iff (sc : RemoveScope) (tr : α → Int) (tomos : List α) (arg : MaskArg) (l out : Motl α)
    (tm : List (α × Mask)) (hp : pairMasks tomos arg = .ok tm) (h : cleanMaskWith (maskCfgAt sc) tr tomos arg l = .ok out) :
    KeepsExactly (fun p => ¬ OnZeroVoxel tr tm p) l out ↔
      ∀ p ∈ l, ∀ p' ∈ l, SameKey sc p' p → OnZeroVoxel tr tm p' → OnZeroVoxel tr tm p := by
  rw [cleanMaskWith_eq_filter _ tr tomos arg l tm hp] at h
  cases h
  constructor
  · intro hk p hpl p' hpl' hs hz
    by_contra hn
    have hin := (hk.mem_iff p).2 ⟨hpl, hn⟩
    rw [List.mem_filter, maskKeep_iff] at hin
    exact hin.2 ⟨p', hpl', hs, hz⟩
  · intro hwf
    refine ⟨_, rfl, fun p hpl => ?_⟩
    rw [maskKeep_iff]
    exact ⟨fun hn hz => hn ⟨p, hpl, ⟨fun _ => rfl, rfl⟩, hz⟩,
      fun hn ⟨p', hpl', hs, hz⟩ => hn (hwf p hpl p' hpl' hs hz)⟩

/-- **What the code computes, for every list** (no hypothesis): a row survives iff no row of the same
tomogram carrying the same subtomo id sits on a zero voxel. A row of ANOTHER tomogram with the same id
does not matter any more (it did up to commit 0eff65b: `cleanMaskById_mem_iff`). -/
theorem cleanMask_mem_iff (tr : α → Int) (tomos : List α) (arg : MaskArg) (l out : Motl α)
    (h : cleanMask tr tomos arg l = .ok out) (p : Particle α) :
    ∃ tm, pairMasks tomos arg = .ok tm ∧
      (p ∈ out ↔ p ∈ l ∧ ¬ ∃ p' ∈ l, p'.tomo_id = p.tomo_id ∧ p'.subtomo_id = p.subtomo_id ∧ OnZeroVoxel tr tm p') := by
  obtain ⟨tm, hp, rfl⟩ := cleanMaskWith_ok _ tr tomos arg l out h
  exact ⟨tm, hp, List.mem_filter.trans (and_congr_right fun _ =>
    (maskKeep_iff .byTomoAndId tr tm l p).trans (by simp only [SameKey, forall_const, and_assoc]))⟩

/-- **Exactly what the mask filter needs of the list**: two rows of one tomogram that carry the same
subtomo id are either both on a zero voxel or both not (then removing "by id within the tomogram" removes
the right rows). Nothing is asked across tomograms. -/
def MaskWellFormed (tr : α → Int) (tm : List (α × Mask)) (l : Motl α) : Prop :=
  ∀ p ∈ l, ∀ p' ∈ l, p'.tomo_id = p.tomo_id → p'.subtomo_id = p.subtomo_id → OnZeroVoxel tr tm p' → OnZeroVoxel tr tm p

/-- the usual way to meet it: inside a tomogram a subtomo id names one row (a row repeated verbatim is
allowed; the same id in DIFFERENT tomograms is allowed) -/
def UniqueIdsWithinTomograms (l : Motl α) : Prop :=
  ∀ p ∈ l, ∀ p' ∈ l, p'.tomo_id = p.tomo_id → p'.subtomo_id = p.subtomo_id → p' = p

theorem maskWellFormed_of_unique (tr : α → Int) (tm : List (α × Mask)) (l : Motl α)
    (h : UniqueIdsWithinTomograms l) : MaskWellFormed tr tm l := by
  intro p hp p' hp' ht hi hz
  rw [← h p hp p' hp' ht hi]; exact hz

theorem unique_of_nodup_keys (l : Motl α) (h : (l.map (fun p => (p.tomo_id, p.subtomo_id))).Nodup) :
    UniqueIdsWithinTomograms l := by
  intro p hp p' hp' ht hi
  exact List.inj_on_of_nodup_map h hp' hp (by simp [ht, hi])

/-- **Cleaning by a tomogram mask removes exactly the particles inside the mask volume that sit on zero
voxels and keeps all others — if and only if the list is `MaskWellFormed`.** So the hypothesis is not only
sufficient but exactly what is needed: for every tomogram list, mask shape and content, truncation `tr`. -/
theorem cleanMask_spec_iff (tr : α → Int) (tomos : List α) (arg : MaskArg) (l out : Motl α) (tm : List (α × Mask))
    (hp : pairMasks tomos arg = .ok tm) (h : cleanMask tr tomos arg l = .ok out) :
    KeepsExactly (fun p => ¬ OnZeroVoxel tr tm p) l out ↔ MaskWellFormed tr tm l := by
  rw [cleanMaskWith_spec_iff .byTomoAndId tr tomos arg l out tm hp h]
  simp only [SameKey, forall_const, and_imp, MaskWellFormed]

/-- **Cleaning by a tomogram mask removes exactly the particles inside the mask volume that sit on zero
voxels and keeps all others** — for every list in which a subtomo id is not repeated INSIDE a tomogram
(ids may repeat across tomograms since 0eff65b; `cleanMask_needs_unique_ids_within_tomogram` shows that the
remaining hypothesis cannot be dropped), every tomogram list, every mask shape and content, any truncation. -/
theorem cleanMask_spec (tr : α → Int) (tomos : List α) (arg : MaskArg) (l out : Motl α)
    (hid : UniqueIdsWithinTomograms l) (h : cleanMask tr tomos arg l = .ok out) :
    ∃ tm, pairMasks tomos arg = .ok tm ∧ KeepsExactly (fun p => ¬ OnZeroVoxel tr tm p) l out := by
  obtain ⟨tm, hp, _⟩ := cleanMaskWith_ok _ tr tomos arg l out h
  exact ⟨tm, hp, (cleanMask_spec_iff tr tomos arg l out tm hp h).2 (maskWellFormed_of_unique tr tm l hid)⟩

/-- the same with the hypothesis as a list property: the (tomogram, subtomo id) pairs are distinct -/
theorem cleanMask_spec_of_nodup_keys (tr : α → Int) (tomos : List α) (arg : MaskArg) (l out : Motl α)
    (hid : (l.map (fun p => (p.tomo_id, p.subtomo_id))).Nodup) (h : cleanMask tr tomos arg l = .ok out) :
    ∃ tm, pairMasks tomos arg = .ok tm ∧ KeepsExactly (fun p => ¬ OnZeroVoxel tr tm p) l out :=
  cleanMask_spec tr tomos arg l out (unique_of_nodup_keys l hid) h

/-- on a well-formed list the code computes the statement: same result, same refusals -/
theorem cleanMask_eq_stmt (tr : α → Int) (tomos : List α) (arg : MaskArg) (l : Motl α)
    (hwf : ∀ tm, pairMasks tomos arg = .ok tm → MaskWellFormed tr tm l) :
    cleanMask tr tomos arg l = cleanMaskStmt tr tomos arg l := by
  unfold cleanMaskStmt
  cases hp : pairMasks tomos arg with
  | error e => rw [cleanMask, cleanMaskWith, hp]
  | ok tm =>
    -- both results keep exactly the rows off the zero voxels, and such a list is unique
    have hc := cleanMaskWith_eq_filter maskCfgDoc tr tomos arg l tm hp
    rw [cleanMask, hc]
    exact congrArg _ (((cleanMask_spec_iff tr tomos arg l _ tm hp hc).2 (hwf tm hp)).unique
      ⟨_, rfl, fun p _ => not_onZeroVoxel_iff tr tm p⟩)

/-! ### regression: the code up to commit 0eff65b removed by subtomo id on the WHOLE list -/

/-- with removal by id, the statement needs ids that are unique in the WHOLE list -/
theorem cleanMaskById_spec (tr : α → Int) (tomos : List α) (arg : MaskArg) (l out : Motl α)
    (hid : (l.map (·.subtomo_id)).Nodup) (h : cleanMaskById tr tomos arg l = .ok out) :
    ∃ tm, pairMasks tomos arg = .ok tm ∧ KeepsExactly (fun p => ¬ OnZeroVoxel tr tm p) l out := by
  obtain ⟨tm, hp, _⟩ := cleanMaskWith_ok _ tr tomos arg l out h
  exact ⟨tm, hp, (cleanMaskWith_spec_iff .byId tr tomos arg l out tm hp h).2 fun p hpl p' hpl' hs hz =>
    List.inj_on_of_nodup_map hid hpl' hpl hs.2 ▸ hz⟩

/-- removal by id ignores the tomogram of the row that carries the id -/
theorem cleanMaskById_mem_iff (tr : α → Int) (tomos : List α) (arg : MaskArg) (l out : Motl α)
    (h : cleanMaskById tr tomos arg l = .ok out) (p : Particle α) :
    ∃ tm, pairMasks tomos arg = .ok tm ∧
      (p ∈ out ↔ p ∈ l ∧ ¬ ∃ p' ∈ l, p'.subtomo_id = p.subtomo_id ∧ OnZeroVoxel tr tm p') := by
  obtain ⟨tm, hp, rfl⟩ := cleanMaskWith_ok _ tr tomos arg l out h
  exact ⟨tm, hp, List.mem_filter.trans (and_congr_right fun _ =>
    (maskKeep_iff .byId tr tm l p).trans (by simp only [SameKey, reduceCtorEq, false_imp_iff, true_and]))⟩

/-- the only refused call: a LIST of masks whose length differs from the tomogram list -/
theorem cleanMask_rejects_iff (tr : α → Int) (tomos : List α) (arg : MaskArg) (l : Motl α) (e : MaskErr) :
    cleanMask tr tomos arg l = .error e ↔ ∃ ms, arg = .perTomo ms ∧ tomos.length ≠ ms.length := by
  unfold cleanMask cleanMaskWith
  cases arg with
  | single m => exact iff_of_false (fun h => nomatch h) (fun ⟨_, h, _⟩ => nomatch h)
  | perTomo ms =>
    simp only [pairMasks]
    by_cases hl : tomos.length = ms.length
    · rw [if_pos hl]
      exact iff_of_false (fun h => nomatch h) (fun ⟨_, h, hne⟩ => hne (MaskArg.perTomo.inj h ▸ hl))
    · rw [if_neg hl]
      cases e
      exact iff_of_true rfl ⟨ms, rfl, hl⟩

/-! ### the pairing: mask `i` belongs to entry `i` of the tomogram list AS GIVEN, for every form of `tomo_list` -/

theorem pairMasks_perTomo_getElem (tomos : List α) (ms : List Mask) (tm : List (α × Mask))
    (h : pairMasks tomos (.perTomo ms) = .ok tm) (i : Nat) (t : α) (m : Mask) :
    tm[i]? = some (t, m) ↔ tomos[i]? = some t ∧ ms[i]? = some m := by
  rcases pairMasks_ok tomos _ tm h with ⟨m', h1, _⟩ | ⟨ms', h1, _, h3⟩
  · cases h1
  · cases h1; subst h3
    exact List.getElem?_zip_eq_some

/-- **Pairing theorem for the whole call.** Whatever the form of `tomo_list` — list, tuple, array, single number or a FILE with
one number per line, sorted or not — today's code cleans with mask `i` exactly the tomogram that is entry `i` of the list as the
caller wrote it: its result is the documented loop on `ta.values`, hence (ids not repeated inside a tomogram) exactly the
particles not on a zero voxel of the mask listed AT THE SAME POSITION as their tomogram survive. -/
theorem cleanMaskArgCode_spec (tr : α → Int) (ta : TomoArg α) (arg : MaskArg) (l out : Motl α)
    (hid : UniqueIdsWithinTomograms l) (h : cleanMaskArgCode tr ta arg l = .ok out) :
    ∃ tm, pairMasks ta.values arg = .ok tm ∧ KeepsExactly (fun p => ¬ OnZeroVoxel tr tm p) l out := by
  rw [cleanMaskArgCode_eq] at h
  exact cleanMask_spec tr ta.values arg l out hid h

/-- on a well-formed list the code, from ANY form of `tomo_list`, computes the statement on the list as given -/
theorem cleanMaskArgCode_eq_stmt (tr : α → Int) (ta : TomoArg α) (arg : MaskArg) (l : Motl α)
    (hwf : ∀ tm, pairMasks ta.values arg = .ok tm → MaskWellFormed tr tm l) :
    cleanMaskArgCode tr ta arg l = cleanMaskStmt tr ta.values arg l := by
  rw [cleanMaskArgCode_eq]; exact cleanMask_eq_stmt tr ta.values arg l hwf

end generic2

/-! ### the truncation the driver uses (`astype(int)`): toward zero -/

/-- `truncRat` is `Round.trunc` on ℚ -/
theorem truncRat_eq (q : Rat) : truncRat q = Round.trunc q := Round.tdiv_num_den q

/-- **Convention: the voxel a particle sits on is the TRUNCATED complete position** (`get_coordinates().astype(int)`,
truncation toward zero). For `q ≥ 0` that is `⌊q⌋`; every position in the open interval `(-1, 0)` counts as
voxel `0` — so on the lower side "inside the mask volume" means `-1 < position`, not `0 ≤ position` —
and positions `≤ -1` have a negative index (outside). This is the code's convention; the statement's
"inside the mask volume" is read on this index (`InsideMask`), and RULE of the harness says so. -/
theorem voxel_truncation_convention (q : Rat) :
    (0 ≤ q → truncRat q = ⌊q⌋) ∧ (-1 < q → q < 0 → truncRat q = 0) ∧ (q ≤ -1 → truncRat q ≤ -1) := by
  rw [truncRat_eq]
  exact ⟨Round.trunc_of_nonneg, fun h1 h2 => Round.trunc_eq_zero h1 (h2.trans one_pos),
    fun h => Int.le_sub_one_of_lt ((Round.trunc_neg_iff q).2 h)⟩

/-- the convention at work: a particle at x = -1/2 sits on voxel (0,1,1); if that voxel is zero it is removed,
a particle at x = -1 is outside the volume and kept -/
theorem mask_position_below_zero_counts_as_voxel_zero :
    let m : Mask := { sx := 4, sy := 4, sz := 4, val := fun x y z => !(x == 0 && y == 1 && z == 1) }
    let p (x : Rat) : Particle Rat := Particle.ofFn (fun f => match f with
      | .x => x | .y => 1 | .z => 1 | .tomo_id => 1 | .subtomo_id => 1 | _ => 0)
    onZeroVoxel truncRat [((1 : Rat), m)] (p (-1/2)) = true ∧ onZeroVoxel truncRat [((1 : Rat), m)] (p (-1)) = false := by
  decide +kernel

/-- `cryomap.binarize` at the documented operator and threshold: non-zero iff `value > 1/2` -/
theorem binarize_doc_iff (v : Rat) : binarizeWith binarizeCfgDoc v = true ↔ (1 / 2 : Rat) < v := by
  have h : mkRat 1 2 = (1 / 2 : Rat) := by norm_num [Rat.mkRat_eq_div]
  simp [binarizeWith, binarizeCfgDoc, Cmp.eval, h]

/-- 4×4×4 mask with the single zero voxel (1,1,1) -/
def wMask : Mask := { sx := 4, sy := 4, sz := 4, val := fun x y z => !(x == 1 && y == 1 && z == 1) }
def wOnes : Mask := { sx := 4, sy := 4, sz := 4, val := fun _ _ _ => true }
def wP (tomo id x : Int) : Particle Int :=
  Particle.ofFn (fun f => match f with
    | .x => x | .y => 1 | .z => 1 | .tomo_id => tomo | .subtomo_id => id | _ => 0)

/-- **Regression witness of the defect repaired by 0eff65b.** Subtomo id 1 is used in two tomograms: the code
that removed by id on the whole list (`cleanMaskById`) loses the particle of tomogram 2 (all-ones mask)
together with the one of tomogram 1; today's code keeps it, as the statement demands. -/
theorem cleanMask_needs_unique_ids :
    (cleanMaskById id [1, 2] (.perTomo [wMask, wOnes]) [wP 1 1 1, wP 2 1 1]).toOption = some [] ∧
    ¬ OnZeroVoxel id [((1 : Int), wMask), (2, wOnes)] (wP 2 1 1) ∧
    (cleanMask id [1, 2] (.perTomo [wMask, wOnes]) [wP 1 1 1, wP 2 1 1]).toOption = some [wP 2 1 1] ∧
    (cleanMaskStmt id [1, 2] (.perTomo [wMask, wOnes]) [wP 1 1 1, wP 2 1 1]).toOption = some [wP 2 1 1] := by
  refine ⟨by decide +kernel, ?_, by decide +kernel, by decide +kernel⟩
  rintro ⟨tmk, htm, ht, _, hv⟩
  simp only [List.mem_cons, List.not_mem_nil, or_false] at htm
  rcases htm with rfl | rfl
  · revert ht; decide +kernel
  · revert hv; decide +kernel

/-- **Witness of the open finding C09-K2** (and: the remaining hypothesis of `cleanMask_spec` is necessary). Two particles of ONE tomogram carry
subtomo id 1, the first on the zero voxel, the second on a non-zero voxel: the code removes both, the
statement keeps the second; the list is not `MaskWellFormed`, and it is not `UniqueIdsWithinTomograms`. -/
theorem cleanMask_needs_unique_ids_within_tomogram :
    (cleanMask id [1] (.perTomo [wMask]) [wP 1 1 1, wP 1 1 2]).toOption = some [] ∧
    (cleanMaskStmt id [1] (.perTomo [wMask]) [wP 1 1 1, wP 1 1 2]).toOption = some [wP 1 1 2] ∧
    ¬ OnZeroVoxel id [((1 : Int), wMask)] (wP 1 1 2) ∧
    ¬ MaskWellFormed id [((1 : Int), wMask)] [wP 1 1 1, wP 1 1 2] := by
  have hnz : ¬ OnZeroVoxel id [((1 : Int), wMask)] (wP 1 1 2) := by
    rw [← onZeroVoxel_iff]; decide +kernel
  refine ⟨by decide +kernel, by decide +kernel, hnz, ?_⟩
  intro hwf
  apply hnz
  apply hwf (wP 1 1 2) (by simp) (wP 1 1 1) (by simp) rfl rfl
  rw [← onZeroVoxel_iff]; decide +kernel

def wZeros : Mask := { sx := 4, sy := 4, sz := 4, val := fun _ _ _ => false }

/-- **Witness of the defect repaired by `tlt_load(tomo_list, sort_angles=False)`.** Tomograms `[7, 2]` with masks
`[all ones, all zeros]`, one particle in each at voxel (1,1,1). Handed over as a LIST the code keeps the particle of tomogram 7
(as the statement demands); the same two numbers as the lines of a FILE were sorted to `[2, 7]` by the unrepaired code and so
paired with the wrong masks: it removed the particle on the non-zero voxel and kept the one on the zero voxel. The repaired
model gives the statement for both forms. -/
theorem cleanMask_sorted_file_counterexample :
    (cleanMaskArgSorted id (.asGiven [7, 2]) (.perTomo [wOnes, wZeros]) [wP 7 1 1, wP 2 2 1]).toOption = some [wP 7 1 1] ∧
    (cleanMaskArgSorted id (.fromFile [7, 2]) (.perTomo [wOnes, wZeros]) [wP 7 1 1, wP 2 2 1]).toOption = some [wP 2 2 1] ∧
    (cleanMaskArg id (.fromFile [7, 2]) (.perTomo [wOnes, wZeros]) [wP 7 1 1, wP 2 2 1]).toOption = some [wP 7 1 1] ∧
    (cleanMaskStmt id (TomoArg.fromFile [7, 2]).values (.perTomo [wOnes, wZeros]) [wP 7 1 1, wP 2 2 1]).toOption = some [wP 7 1 1] := by
  decide +kernel

/-- float32 has no odd integers above 2^24: 20230115 (a date-style tomogram number) is stored as 20230116, 16777217 as 16777216;
numbers below 2^24 and representable neighbours are exact -/
theorem f32Int_examples :
    f32Int 20230115 = 20230116 ∧ f32Int 16777217 = 16777216 ∧ f32Int 16777215 = 16777215 ∧ f32Int 20230116 = 20230116 ∧
    f32Int 204 = 204 ∧ f32Int 999999999 = 1000000000 ∧ f32Int (-20230115) = -20230116 := by decide +kernel

/-- **Witness of the defect repaired by reading the tomogram FILE with a 64-bit reader.** One particle of tomogram 20230115 on a
zero voxel. With the number handed over in a list the code removes it (as the statement demands); read from a file through the float32
reader the listed tomogram became 20230116, matched no particle, and the particle was kept. -/
theorem cleanMask_float32_file_counterexample :
    (cleanMaskArg id ((TomoArg.fromFile [20230115]).readWith f32Int) (.perTomo [wZeros]) [wP 20230115 1 1]).toOption = some [wP 20230115 1 1] ∧
    (cleanMaskArg id ((TomoArg.asGiven [20230115]).readWith f32Int) (.perTomo [wZeros]) [wP 20230115 1 1]).toOption = some [] ∧
    (cleanMaskStmt id (TomoArg.fromFile [20230115]).values (.perTomo [wZeros]) [wP 20230115 1 1]).toOption = some [] := by
  decide +kernel

/-- **Regression witness of defect D11 (repaired by a0240b0).** One particle beyond the mask volume in
front of a particle on the zero voxel: the old code removes the WRONG particle (index into the
filtered array used as a row label), the repaired code removes the right one. -/
theorem cleanMask_old_misaligned :
    (cleanMaskOld id [1] (.perTomo [wMask]) [wP 1 1 9, wP 1 2 1, wP 1 3 2]).toOption = some [wP 1 2 1, wP 1 3 2] ∧
    (cleanMask id [1] (.perTomo [wMask]) [wP 1 1 9, wP 1 2 1, wP 1 3 2]).toOption = some [wP 1 1 9, wP 1 3 2] := by
  decide +kernel

/-! ## non-vacuity: the hypotheses of the theorems above are met by non-trivial inputs -/

/-- `oob_spec`: a call that is not refused, keeps one particle and removes one on each side -/
example : (oob [⟨(1 : Int), 100, 100, 100⟩, ⟨2, 48, 60, 70⟩] .whole (some 2)
    [wP 1 1 50, wP 2 2 47, wP 2 3 0, wP 1 4 4]).toOption = some [wP 1 1 50, wP 1 4 4] := by decide +kernel
/-- `oob_partial`: a list that meets the hypothesis (all lower faces respected) and still loses a particle -/
example : (oobAsIs [⟨(1 : Int), 100, 100, 100⟩] .center none [wP 1 1 50, wP 1 2 100]).toOption = some [wP 1 1 50] ∧
    ∀ p ∈ [wP 1 1 50, wP 1 2 100], (0 : Int) ≤ (pos p).x - ((0 : Nat) : Int) := by decide +kernel
/-- `oob_rejects_iff`: all three refusals occur -/
example : (oob [⟨(1 : Int), 100, 100, 100⟩] .other none [wP 1 1 50]).toOption = none ∧
    (oob [⟨(1 : Int), 100, 100, 100⟩] .whole (some 0) [wP 1 1 50]).toOption = none ∧
    (oob [⟨(1 : Int), 100, 100, 100⟩] .center none [wP 3 1 50]).toOption = none := by decide +kernel
/-- `trim_spec` at `Int`: start (3,1,1), end (7,10,10) keeps x = 3 and x = 7, drops 2 and 8 -/
example : trim (⟨3, 1, 1⟩ : V3 Int) ⟨7, 10, 10⟩ [wP 1 1 2, wP 1 2 3, wP 1 3 7, wP 1 4 8] = [wP 1 2 1, wP 1 3 5] := by decide +kernel
/-- `cleanPoints_perm`: two tomograms, a tie on the ball surface is removed, the foreign point removes nothing -/
example : cleanPoints (5 : Int) [⟨1, ⟨4, 5, 1⟩⟩, ⟨7, ⟨0, 1, 1⟩⟩] [wP 2 1 0, wP 1 2 1, wP 2 3 5, wP 1 4 9]
    = [wP 2 1 0, wP 2 3 5, wP 1 4 9] := by decide +kernel
/-- `cleanMaskArgSorted_eq_of_ascending`: an ascending file meets the hypothesis, `[7, 2]` does not -/
example : ([2, 7] : List Int).Pairwise (· ≤ ·) ∧ ¬ ([7, 2] : List Int).Pairwise (· ≤ ·) := by decide +kernel
/-- `inBall_iff_dist_le`: the 3-4-5 triple, `d = 5` is the Euclidean distance; radius 5 reaches it, radius 4 does not -/
example : (5 : Int) * 5 = dist2 (⟨3, 4, 0⟩ : V3 Int) ⟨0, 0, 0⟩ ∧ inBall (5 : Int) ⟨0, 0, 0⟩ ⟨3, 4, 0⟩ = true ∧
    inBall (4 : Int) ⟨0, 0, 0⟩ ⟨3, 4, 0⟩ = false := by decide +kernel
/-- `cleanMask_spec`: the SAME subtomo ids in two tomograms (each id once per tomogram): only the row of the masked
tomogram on the zero voxel goes -/
example : (cleanMask id [1] (.single wMask) [wP 1 1 1, wP 2 1 1, wP 1 2 2, wP 2 2 2]).toOption
    = some [wP 2 1 1, wP 1 2 2, wP 2 2 2] ∧
    ([wP 1 1 1, wP 2 1 1, wP 1 2 2, wP 2 2 2].map (fun p => (p.tomo_id, p.subtomo_id))).Nodup := by decide +kernel
/-- `cleanMask_spec_iff`: an id repeated INSIDE a tomogram on a well-formed list (both rows on the zero voxel) -/
example : (cleanMask id [1] (.single wMask) [wP 1 1 1, wP 1 1 1, wP 1 2 2]).toOption = some [wP 1 2 2] ∧
    (cleanMaskStmt id [1] (.single wMask) [wP 1 1 1, wP 1 1 1, wP 1 2 2]).toOption = some [wP 1 2 2] := by decide +kernel
/-- `cleanMask_spec`: unique ids, a listed and an unlisted tomogram, inside/outside/zero/non-zero voxels -/
example : (cleanMask id [1] (.single wMask) [wP 1 1 1, wP 1 2 2, wP 1 3 (-1), wP 1 4 4, wP 2 5 1]).toOption
    = some [wP 1 2 2, wP 1 3 (-1), wP 1 4 4, wP 2 5 1] ∧
    ([wP 1 1 1, wP 1 2 2, wP 1 3 (-1), wP 1 4 4, wP 2 5 1].map (·.subtomo_id)).Nodup := by decide +kernel

end CryoCat.C09
