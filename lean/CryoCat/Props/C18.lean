import CryoCat.Lemmas.C18
import CryoCat.Lemmas.C18_Real
import Mathlib.Algebra.Order.Ring.Defs
/-! C18 — nearest-neighbour analysis equals brute force and is invariant under rigid motion.
Only property theorems and non-vacuity examples; helper lemmas live in `Lemmas/C18.lean`.

The model (`Model/C18.lean`, executed by the driver at `Float`) is `nnStats`: for every common
tomogram (ascending), every rank `i < min k #candidates`, every query of the first list in list order,
one row built by `mkRow` from the query and its `i`-th nearest candidate (`knnIdx`: candidates sorted by
squared distance of complete positions, first `k`). The theorems hold over every commutative ring with a
linear order (no compatibility between the two is needed; only `distances_ascending` asks for an ordered ring, and the
theorems of the last section are over ℝ), for all lists, all `k`, all pixel sizes. -/
namespace CryoCat.C18
variable {α : Type}

/-! ### translator obligations: the expressions the model transcribes are the ones in the source today -/

theorem anchors_ok : Gen.C18.anchorsOk = true := by decide

/-- complete position = `[x,y,z] + [shift_x,shift_y,shift_z]`; angles are read as `[phi, theta, psi]` -/
theorem coordinates_documented :
    Gen.C18.coordColumns = ["x", "y", "z"] ∧ Gen.C18.shiftColumns = ["shift_x", "shift_y", "shift_z"] ∧
    Gen.C18.angleColumns = ["phi", "theta", "psi"] :=
  ⟨rfl, rfl, rfl⟩

/-- both functions loop over the common tomogram numbers and restrict BOTH lists to the tomogram; the tree
works on complete positions (`get_coordinates`) -/
theorem tomogram_subsets_documented :
    Gen.C18.subsetsDistances = "np.intersect1d(features_a,features_nn,assume_unique=True);motl_a.get_motl_subset(f,feature_id=feature);motl_nn.get_motl_subset(f,feature_id=feature)" ∧
    Gen.C18.subsetsRotations = "np.intersect1d(features_a,features_nn,assume_unique=True);motl_a.get_motl_subset(f,feature_id=feature);motl_nn.get_motl_subset(f,feature_id=feature)" ∧
    Gen.C18.treeCoordinates = "fm_a.get_coordinates();fm_nn.get_coordinates()" :=
  ⟨rfl, rfl, rfl⟩

/-- the tree is built on the second list, queried with the first, for `min(k, #candidates)` neighbours -/
theorem knn_query_documented :
    Gen.C18.nnCountExpr = "min(nn_number,coord_nn.shape[0])" ∧ Gen.C18.treeExpr = "sn.KDTree(coord_nn)" ∧
    Gen.C18.queryExpr = "kdt_nn.query(coord_a,k=nn_count)" :=
  ⟨rfl, rfl, rfl⟩

/-- the inverse orientation is `from_euler("zxz", -[psi, theta, phi])` of the QUERY particle, in both functions -/
theorem inverse_angles_documented :
    Gen.C18.invAnglesDistances = "-fm_a.df[['psi','theta','phi']].values" ∧
    Gen.C18.invAnglesRotations = "-fm_a.get_feature(['psi','theta','phi'])" ∧
    Gen.C18.invColumnsDistances = ["psi", "theta", "phi"] ∧ Gen.C18.invColumnsRotations = ["psi", "theta", "phi"] :=
  ⟨rfl, rfl, rfl, rfl⟩

/-- **column access inside the model.** The model's orientation is `from_euler("zxz", ·)` of the columns `get_angles` reads
(the regenerated `Gen.C18.angleColumns`), and the model's inverse orientation is `from_euler("zxz", ·)` of the NEGATED columns
that the two functions read today (the regenerated `Gen.C18.invColumnsDistances` / `invColumnsRotations`): reordering either
column list in the source changes the left-hand sides, not the model, and the equation stops holding. -/
theorem orientation_from_columns [CommRing α] (p : Pt α) :
    fromEuler (getFeature Gen.C18.angleColumns p) = some (rot p) ∧
    fromEuler ((getFeature Gen.C18.invColumnsDistances p).map Ang.neg) = some (rotInv p) ∧
    fromEuler ((getFeature Gen.C18.invColumnsRotations p).map Ang.neg) = some (rotInv p) :=
  ⟨rfl, rfl, rfl⟩

/-- `get_motl_subset(f, feature_id="tomo_id")` with ONE requested value — the only way `nnana` calls it — is the model's
`subset`: the particles of that tomogram in list order; for any list of values a particle is in the result iff it is in the
list and its tomogram is among the values -/
theorem motl_subset_is_filter (t : Int) (vals : List Int) (l : List (Pt α)) (p : Pt α) :
    motlSubset [t] l = subset t l ∧ (p ∈ motlSubset vals l ↔ p ∈ l ∧ p.tomo ∈ vals) :=
  ⟨motlSubset_single t l, mem_motlSubset vals l p⟩

/-- every Euler conversion in the two functions is extrinsic `"zxz"` in degrees -/
theorem euler_convention_documented :
    Gen.C18.eulerCallsDistances = ["zxz:deg", "zxz:deg", "zxz:deg"] ∧
    Gen.C18.eulerCallsRotations = ["zxz:deg", "zxz:deg", "zxz:deg"] ∧
    Gen.C18.rotationsExpr = "srot.from_euler('zxz',angles=angles_a,degrees=True);srot.from_euler('zxz',angles=angles,degrees=True);srot.from_euler('zxz',angles=angles_nn_sel,degrees=True)" :=
  ⟨rfl, rfl, rfl⟩

/-- offset = neighbour − query (both scaled by the pixel size), distance = tree distance × pixel size,
frame offset = inverse orientation applied to the offset, subtomogram numbers taken at the neighbour /
query index, relative orientation = inverse(query) * neighbour -/
theorem row_expressions_documented :
    Gen.C18.offsetExpr = "coord_nn[nn_idx[:,i],:]-coord_a[idx,:]" ∧
    Gen.C18.distanceExpr = "dist[:,i]*pixel_size" ∧
    Gen.C18.frameOffsetExpr = "rot.apply(c_coord)" ∧
    Gen.C18.angularExpr = "geom.compare_rotations(rotations,rotations_nn,rotation_type=rotation_type)" ∧
    Gen.C18.subtomoNnExpr = "subtomos_nn[nn_idx[:,i]];fm_nn.df['subtomo_id'].to_numpy()" ∧
    Gen.C18.subtomoAExpr = "subtomos_a[idx];fm_a.df['subtomo_id'].to_numpy()" ∧
    Gen.C18.pixelScalingExpr = "fm_nn.get_coordinates()*pixel_size;fm_a.get_coordinates()*pixel_size" ∧
    Gen.C18.relativeExpr = "rot_to_zero*rot_nn;srot.from_euler('zxz',angles=angles_ref_to_zero[idx,:],degrees=True);srot.from_euler('zxz',angles=angles_nn[idx_nn[:,i],:],degrees=True)" :=
  ⟨rfl, rfl, rfl, rfl, rfl, rfl, rfl, rfl⟩

/-- the 16 numeric columns of the table, their order in the `hstack`, and the defaults -/
theorem stats_columns_documented :
    Gen.C18.statsColumns = ["distance", "coord_x", "coord_y", "coord_z", "coord_rx", "coord_ry", "coord_rz",
      "angular_distance", "rot_x", "rot_y", "rot_z", "phi", "theta", "psi", "subtomo_idx", "subtomo_nn_idx"] ∧
    Gen.C18.statsDefaults = ["tomo_id", "angular_distance"] ∧
    Gen.C18.statsHstack = "(nn_dist.reshape((nn_dist.shape[0],1)),centered_coord,rotated_coord,ang_dst.reshape((nn_dist.shape[0],1)),coord_rot,angles,subtomo_idx.reshape((nn_dist.shape[0],1)),subtomo_idx_nn.reshape((nn_dist.shape[0],1)))" :=
  ⟨rfl, rfl, rfl⟩

/-- angular distance = `degrees(2·arccos(min(|q₁·q₂|, 1)))` (the dot product IS clamped to ≤ 1: without the clamp a
pair of identical orientations gives NaN in binary64), selected by
`rotation_type == 'angular_distance'`; `rot_x,y,z` is the relative rotation applied to the z axis -/
theorem angular_formula_documented :
    Gen.C18.angularFormula = "np.degrees(2*np.arccos(np.abs(np.sum(q1*q2,axis=1))))" ∧
    Gen.C18.angularDotClamp = "clamped" ∧
    Gen.C18.compareBranch = "angular_distance(angles1,angles2,c_symmetry=c_symmetry)[0];rotation_type=='angular_distance';returndist_degrees" ∧
    Gen.C18.zAxisExpr = "np.array([0.0,0.0,radius]);np.array(rotations.apply(starting_point),ndmin=2)" :=
  ⟨rfl, rfl, rfl, rfl⟩

/-! ### signature defaults (the statement's call `get_nn_stats(a, b, nn_number=k, pixel_size=px)` relies on them) and whole bodies -/

/-- the defaults of `get_nn_stats` — tomograms are told apart by `tomo_id`, the angle reported is the angular
distance, one neighbour, pixel size 1 — and of the functions it calls; `get_nn_stats` hands every one of its
arguments on BY KEYWORD to the right parameter, asks `visualize_rotations` for no plot (unit radius by default) -/
theorem defaults_documented :
    Gen.C18.sigStats = ["pixel_size=1.0", "feature_id='tomo_id'", "nn_number=1", "rotation_type='angular_distance'"] ∧
    Gen.C18.sigDistances = ["pixel_size=1.0", "nn_number=1", "feature='tomo_id'", "rotation_type='angular_distance'"] ∧
    Gen.C18.sigRotations = ["nn_number=1", "feature='tomo_id'", "type_id='geom1'"] ∧
    Gen.C18.sigIndices = ["nn_number=1"] ∧
    Gen.C18.sigGeom = ["c_symmetry=1;rotation_type='all'", "convention='zxz';degrees=True;c_symmetry=1", "plot_rotations=True;color_map=None;marker_size=20;alpha=1.0;radius=1.0"] ∧
    Gen.C18.innerCalls = ["get_nn_distances(motl_a,motl_nn,nn_number=nn_number,pixel_size=pixel_size,feature=feature_id,rotation_type=rotation_type)", "get_nn_rotations(motl_a,motl_nn,feature=feature_id,nn_number=nn_number)", "geom.visualize_rotations(nn_rotations,plot_rotations=False)", "get_feature_nn_indices(fm_a,fm_nn,nn_number);get_feature_nn_indices(fm_a,fm_nn,nn_number)"] :=
  ⟨rfl, rfl, rfl, rfl, rfl, rfl⟩

/-- the whole body of `get_feature_nn_indices` (local variables renamed by binding order to the documented names) -/
theorem body_indices_documented : Gen.C18.bodyIndices = [
  "def get_feature_nn_indices(fm_a,fm_nn,nn_number=1)",
  ".coord_a=fm_a.get_coordinates()",
  ".coord_nn=fm_nn.get_coordinates()",
  ".nn_count=min(nn_number,coord_nn.shape[0])",
  ".kdt_nn=sn.KDTree(coord_nn)",
  ".nn_dist,nn_idx=kdt_nn.query(coord_a,k=nn_count)",
  ".ordered_idx=np.arange(0,nn_idx.shape[0],1)",
  ".return(ordered_idx,nn_idx.reshape((nn_idx.shape[0],nn_count)),nn_dist.reshape((nn_idx.shape[0],nn_count)),nn_count)"] := rfl

/-- the whole body of `get_nn_distances`, including the `isinstance(·, str)` branches no case executes and the
empty-result path taken when the two lists share no tomogram (`k1_model_returns_empty`). Annotations are dropped,
message texts are written `<msg>`, every spelling of `len(X) == 0` is written that way, locals are renamed by binding
occurrence and never-read locals are written `_` — none of these can change behaviour. -/
theorem body_distances_documented : Gen.C18.bodyDistances = [
  "def get_nn_distances(motl_a,motl_nn,pixel_size=1.0,nn_number=1,feature='tomo_id',rotation_type='angular_distance')",
  ".if isinstance(motl_a,str)",
  "..motl_a=cryomotl.Motl(motl_path=motl_a)",
  ".if isinstance(motl_nn,str)",
  "..motl_nn=cryomotl.Motl(motl_path=motl_nn)",
  ".features_a=np.unique(motl_a.df.loc[:,feature].values)",
  ".features_nn=np.unique(motl_nn.df.loc[:,feature].values)",
  ".features=np.intersect1d(features_a,features_nn,assume_unique=True)",
  ".centered_coord=[]",
  ".nn_dist=[]",
  ".angular_distances=[]",
  ".rotated_coord=[]",
  ".subtomo_idx=[]",
  ".subtomo_idx_nn=[]",
  ".for f in features",
  "..fm_a=motl_a.get_motl_subset(f,feature_id=feature)",
  "..fm_nn=motl_nn.get_motl_subset(f,feature_id=feature)",
  "..idx,nn_idx,dist,nn_count=get_feature_nn_indices(fm_a,fm_nn,nn_number)",
  "..if len(idx)==0",
  "...continue",
  "..coord_nn=fm_nn.get_coordinates()*pixel_size",
  "..coord_a=fm_a.get_coordinates()*pixel_size",
  "..angles_a=fm_a.get_angles()",
  "..angles_a=angles_a[idx,:]",
  "..angles_nn=fm_nn.get_angles()",
  "..rotations=srot.from_euler('zxz',angles=angles_a,degrees=True)",
  "..angles=-fm_a.df[['psi','theta','phi']].values",
  "..angles=angles[idx,:]",
  "..rot=srot.from_euler('zxz',angles=angles,degrees=True)",
  "..subtomos_nn=fm_nn.df['subtomo_id'].to_numpy()",
  "..subtomos_a=fm_a.df['subtomo_id'].to_numpy()",
  "..for i in range(nn_count)",
  "...c_coord=coord_nn[nn_idx[:,i],:]-coord_a[idx,:]",
  "...centered_coord.append(c_coord)",
  "...nn_dist.append(dist[:,i]*pixel_size)",
  "...angles_nn_sel=angles_nn[nn_idx[:,i],:]",
  "...rotations_nn=srot.from_euler('zxz',angles=angles_nn_sel,degrees=True)",
  "...angular_distances.append(geom.compare_rotations(rotations,rotations_nn,rotation_type=rotation_type))",
  "...rotated_coord.append(rot.apply(c_coord))",
  "...subtomo_idx_nn.append(subtomos_nn[nn_idx[:,i]])",
  "...subtomo_idx.append(subtomos_a[idx])",
  ".if len(nn_dist)==0",
  "..return(np.empty((0,3)),np.empty((0,3)),np.empty(0),np.empty(0),np.empty(0),np.empty(0))",
  ".return(np.vstack(centered_coord),np.vstack(rotated_coord),np.concatenate(nn_dist),np.concatenate(angular_distances),np.concatenate(subtomo_idx),np.concatenate(subtomo_idx_nn))"] := rfl

theorem body_rotations_documented : Gen.C18.bodyRotations = [
  "def get_nn_rotations(motl_a,motl_nn,nn_number=1,feature='tomo_id',type_id='geom1')",
  ".if isinstance(motl_a,str)",
  "..motl_a=cryomotl.Motl(motl_path=motl_a)",
  ".if isinstance(motl_nn,str)",
  "..motl_nn=cryomotl.Motl(motl_path=motl_nn)",
  ".features_a=np.unique(motl_a.df.loc[:,feature].values)",
  ".features_nn=np.unique(motl_nn.df.loc[:,feature].values)",
  ".features=np.intersect1d(features_a,features_nn,assume_unique=True)",
  ".nn_rotations=[]",
  ".for f in features",
  "..fm_a=motl_a.get_motl_subset(f,feature_id=feature)",
  "..fm_nn=motl_nn.get_motl_subset(f,feature_id=feature)",
  "..idx,idx_nn,_,nn_count=get_feature_nn_indices(fm_a,fm_nn,nn_number)",
  "..angles_nn=fm_nn.get_angles()",
  "..angles_ref_to_zero=-fm_a.get_feature(['psi','theta','phi'])",
  "..rot_to_zero=srot.from_euler('zxz',angles=angles_ref_to_zero[idx,:],degrees=True)",
  "..for i in range(nn_count)",
  "...rot_nn=srot.from_euler('zxz',angles=angles_nn[idx_nn[:,i],:],degrees=True)",
  "...nn_rotations.append(rot_to_zero*rot_nn)",
  ".if len(nn_rotations)==0",
  "..return(np.empty((0,3)),np.empty((0,3)))",
  ".nn_rotations=srot.concatenate(nn_rotations)",
  ".points_on_sphere=geom.visualize_rotations(nn_rotations,plot_rotations=False)",
  ".angles=nn_rotations.as_euler('zxz',degrees=True)",
  ".return(points_on_sphere,angles)"] := rfl

theorem body_stats_documented : Gen.C18.bodyStats = [
  "def get_nn_stats(motl_a,motl_nn,pixel_size=1.0,feature_id='tomo_id',nn_number=1,rotation_type='angular_distance')",
  ".centered_coord,rotated_coord,nn_dist,ang_dst,subtomo_idx,subtomo_idx_nn=get_nn_distances(motl_a,motl_nn,nn_number=nn_number,pixel_size=pixel_size,feature=feature_id,rotation_type=rotation_type)",
  ".coord_rot,angles=get_nn_rotations(motl_a,motl_nn,feature=feature_id,nn_number=nn_number)",
  ".nn_stats=pd.DataFrame(np.hstack((nn_dist.reshape((nn_dist.shape[0],1)),centered_coord,rotated_coord,ang_dst.reshape((nn_dist.shape[0],1)),coord_rot,angles,subtomo_idx.reshape((nn_dist.shape[0],1)),subtomo_idx_nn.reshape((nn_dist.shape[0],1)))),columns=['distance','coord_x','coord_y','coord_z','coord_rx','coord_ry','coord_rz','angular_distance','rot_x','rot_y','rot_z','phi','theta','psi','subtomo_idx','subtomo_nn_idx'])",
  ".nn_stats['type']='nn'",
  ".returnnn_stats"] := rfl

/-- the whole bodies of `geom.angular_distance` (with the `c_symmetry > 1` branch no case executes) and
`geom.compare_rotations` (with the other `rotation_type` branches) -/
theorem body_geom_documented :
    Gen.C18.bodyAngular = [
  "def angular_distance(input_rot1,input_rot2,convention='zxz',degrees=True,c_symmetry=1)",
  ".if isinstance(input_rot1,np.ndarray)",
  "..rot1=srot.from_euler(convention,input_rot1,degrees=degrees)",
  ".else",
  "..rot1=input_rot1",
  ".if isinstance(input_rot2,np.ndarray)",
  "..rot2=srot.from_euler(convention,input_rot2,degrees=degrees)",
  ".else",
  "..rot2=input_rot2",
  ".if c_symmetry>1",
  "..angles1=rot1.as_euler(convention,degrees=degrees)",
  "..angles2=rot2.as_euler(convention,degrees=degrees)",
  "..sym_div=360.0/c_symmetry",
  "..angles1[:,0]=np.mod(angles1[:,0],sym_div)",
  "..angles2[:,0]=np.mod(angles2[:,0],sym_div)",
  "..rot1=srot.from_euler(convention,angles1,degrees=degrees)",
  "..rot2=srot.from_euler(convention,angles2,degrees=degrees)",
  ".q1=np.array(rot1.as_quat(),ndmin=2)",
  ".q2=np.array(rot2.as_quat(),ndmin=2)",
  ".if q1.shape!=q2.shape",
  "..print('<msg>')",
  "..return",
  ".angle=np.degrees(2*np.arccos(np.minimum(np.abs(np.sum(q1*q2,axis=1)),1.0)))",
  ".angle=angle.astype(float)",
  ".dist=1-np.power(np.sum(q1*q2,1),2)",
  ".dist[dist<1e-07]=0",
  ".return(angle,dist)"] ∧
    Gen.C18.bodyCompare = [
  "def compare_rotations(angles1,angles2,c_symmetry=1,rotation_type='all')",
  ".dist_degrees=angular_distance(angles1,angles2,c_symmetry=c_symmetry)[0]",
  ".dist_degrees_normals,dist_degrees_inplane=cone_inplane_distance(angles1,angles2,c_symmetry=c_symmetry)",
  ".if rotation_type=='all'",
  "..return(dist_degrees,dist_degrees_normals,dist_degrees_inplane)",
  ".else",
  "..if rotation_type=='angular_distance'",
  "...returndist_degrees",
  "..else",
  "...if rotation_type=='cone_distance'",
  "....returndist_degrees_normals",
  "...else",
  "....if rotation_type=='in_plane_distance'",
  ".....returndist_degrees_inplane",
  "....else",
  ".....raiseUserInputError('<msg>')"] :=
  ⟨rfl, rfl⟩

/-- the whole bodies of the helpers the analysis goes through: `geom.visualize_rotations` (image of the z axis, no plot),
`Motl.get_motl_subset` (the rows of one tomogram, list order, positions from 0), `Motl.get_feature` (column access),
`Motl.get_coordinates` (complete positions), `Motl.get_angles` -/
theorem body_helpers_documented :
    Gen.C18.bodyVisualize = [
  "def visualize_rotations(rotations,plot_rotations=True,color_map=None,marker_size=20,alpha=1.0,radius=1.0)",
  ".starting_point=np.array([0.0,0.0,radius])",
  ".new_points=np.array(rotations.apply(starting_point),ndmin=2)",
  ".if plot_rotations",
  "..fig=plt.figure()",
  "..ax=fig.add_subplot(projection='3d')",
  "..if color_mapisNone",
  "...ax.scatter(new_points[:,0],new_points[:,1],new_points[:,2],s=marker_size,alpha=alpha)",
  "..else",
  "...ax.scatter(new_points[:,0],new_points[:,1],new_points[:,2],s=marker_size,alpha=alpha,c=color_map)",
  "..ax.set_xlim3d(-radius,radius)",
  "..ax.set_ylim3d(-radius,radius)",
  "..ax.set_zlim3d(-radius,radius)",
  ".returnnew_points"] ∧
    Gen.C18.bodySubset = [
  "def get_motl_subset(self,feature_values,feature_id='tomo_id',return_df=False,reset_index=True)",
  ".feature_values=np.atleast_1d(np.asarray(feature_values))",
  ".new_df=Motl.create_empty_motl_df()",
  ".for i in feature_values",
  "..df_i=self.df.loc[self.df[feature_id]==i].copy()",
  "..new_df=pd.concat([new_df,df_i])",
  ".if reset_index",
  "..new_df=new_df.reset_index(drop=True)",
  ".if return_df",
  "..returnnew_df",
  ".else",
  "..returnMotl(motl_df=new_df)"] ∧
    Gen.C18.bodyFeature = [
  "def get_feature(self,feature_id)",
  ".if isinstance(feature_id,str)",
  "..feature_id=[feature_id]",
  ".missing_columns=set(feature_id)-set(self.df.columns)",
  ".if missing_columns",
  "..raiseUserInputError('<msg>')",
  ".returnself.df[feature_id].values"] ∧
    Gen.C18.bodyCoordinates = [
  "def get_coordinates(self,tomo_number=None)",
  ".if tomo_numberisNone",
  "..coord=self.df.loc[:,['x','y','z']].values+self.df.loc[:,['shift_x','shift_y','shift_z']].values",
  ".else",
  "..coord=self.df.loc[self.df.loc[:,'tomo_id']==tomo_number,['x','y','z']].values+self.df.loc[self.df.loc[:,'tomo_id']==tomo_number,['shift_x','shift_y','shift_z']].values",
  ".returncoord"] ∧
    Gen.C18.bodyAngles = [
  "def get_angles(self,tomo_number=None)",
  ".if tomo_numberisNone",
  "..angles=self.df.loc[:,['phi','theta','psi']].values",
  ".else",
  "..angles=self.df.loc[self.df.loc[:,'tomo_id']==tomo_number,['phi','theta','psi']].values",
  ".returnnp.atleast_2d(angles)"] :=
  ⟨rfl, rfl, rfl, rfl, rfl⟩

/-! ### the k reported neighbours are the k closest, in ascending order -/

/-- **kNN = brute force.** For every number of candidates `n`, every `k` and every key function, the
model's answer consists of `min k n` distinct candidate indices, ascending in the key, and no candidate
that is left out has a smaller key than one that is reported. -/
theorem knn_spec [LinearOrder α] (k n : Nat) (key : Nat → α) : KnnSpec k n key (knnIdx k n key) :=
  knnSpec_knnIdx k n key

/-- **Without distance ties the answer is unique**: whatever list meets `KnnSpec` is the model's list. -/
theorem knn_unique [LinearOrder α] (k n : Nat) (key : Nat → α) (out : List Nat) (hties : NoTies n key)
    (h : KnnSpec k n key out) : out = knnIdx k n key :=
  KnnSpec.unique hties h (knnSpec_knnIdx k n key)

/-- **Verified checker** (run by the driver on the neighbour lists the real code reports): it answers
`true` exactly on the lists that meet `KnnSpec`. -/
theorem checkKnn_iff [LinearOrder α] (k n : Nat) (key : Nat → α) (out : List Nat) :
    checkKnn k n key out = true ↔ KnnSpec k n key out := by
  simp only [checkKnn, Bool.and_eq_true, beq_iff_eq, List.all_eq_true, decide_eq_true_eq, Bool.or_eq_true,
    List.contains_iff_mem, List.mem_range]
  constructor
  · rintro ⟨⟨⟨⟨h1, h2⟩, h3⟩, h4⟩, h5⟩
    exact ⟨h1, h3, h2, h4, fun j hj hnot i hi => (h5 j hj).elim (fun h => absurd h hnot) (fun h => h i hi)⟩
  · intro h
    exact ⟨⟨⟨⟨h.len, h.bound⟩, h.nodup⟩, h.sorted⟩, fun j hj => (Decidable.em (j ∈ out)).imp_right (h.closest j hj)⟩

/-- **The checker as the driver runs it**: on exact integers (`checkKnnInt`, core `Int` order — every complete position is
decoded from its double to its exact dyadic value and all are scaled by one common power of two), so `checkKnn_iff` applies to
the driver's verdict literally, with no floating-point comparison in between. -/
theorem checkKnnInt_iff (k n : Nat) (key : Nat → Int) (out : List Nat) :
    checkKnnInt k n key out = true ↔ KnnSpec k n key out := by
  unfold checkKnnInt
  exact checkKnn_iff k n key out

/-- scaling all positions by a common factor `c ≠ 0` (the driver's `2^(-emin)`) multiplies every squared distance by `c²`:
over an ordered field with `c ≠ 0` no comparison of keys changes -/
theorem keys_scale [CommRing α] (c : α) (q n : Pt α) (q' n' : Pt α)
    (hq : pos q' = V3.smul c (pos q)) (hn : pos n' = V3.smul c (pos n)) : d2 q' n' = c * c * d2 q n := by
  unfold d2
  rw [hq, hn, ← V3.smul_sub, V3.normSq_smul]

/-- the sort key of a candidate is the squared Euclidean distance of the COMPLETE positions
(`x+shift_x, …`) of candidate and query -/
theorem key_is_squared_distance [CommRing α] (q : Pt α) (cn : List (Pt α)) (j : Nat) (n : Pt α)
    (h : cn[j]? = some n) :
    keyOf q cn j = V3.normSq ((n.base + n.shift) - (q.base + q.shift)) := by
  have : cn.getD j q = n := by rw [List.getD_eq_getElem?_getD, h]; rfl
  simp only [keyOf, this, d2, pos]

/-- the tomograms that are analysed are exactly the common ones, each once, ascending -/
theorem features_spec (ta tn : List Int) :
    (∀ t, t ∈ features ta tn ↔ t ∈ ta ∧ t ∈ tn) ∧ (features ta tn).Pairwise (· < ·) :=
  ⟨fun t => mem_features t ta tn, pairwise_foldr_insU _⟩

/-- **Soundness of every row.** Each row of the table reports a query `q` of the first list and a particle
`n` of the second list IN THE SAME TOMOGRAM; `n` is the candidate at position `rank` of a list that meets
`KnnSpec` (the `min k #candidates` closest, ascending); the row carries both subtomogram numbers, the
Euclidean distance of the complete positions times the pixel size, the offset in the query's own frame
(transposed = inverse orientation applied to the offset), the relative orientation `R_qᵀ·R_n` and the
angle of that relative orientation. -/
theorem nnStats_sound [CommRing α] [LinearOrder α] (S : Num α) (px : α) (k : Nat) (a nn : List (Pt α))
    (r : Row α) (h : r ∈ nnStats S px k a nn) : ∃ q n, RowOf S px k a nn r q n := by
  obtain ⟨tm, _, _, hr⟩ := (mem_nnStats S px k a nn r).1 h
  obtain ⟨i, hi, q, hq, rfl⟩ := (mem_tomoRows S px k a nn tm r).1 hr
  exact ⟨q, rowOf_rowAt S px k a nn tm i q hq hi⟩

/-- **Completeness.** Every particle of the first list whose tomogram also occurs in the second list gets a
row for every rank below `min k #candidates`. -/
theorem nnStats_complete [CommRing α] [LinearOrder α] (S : Num α) (px : α) (k : Nat) (a nn : List (Pt α))
    (q : Pt α) (hq : q ∈ a) (hn : ∃ p ∈ nn, p.tomo = q.tomo) (i : Nat)
    (hi : i < min k (subset q.tomo nn).length) :
    ∃ r ∈ nnStats S px k a nn, r.tomo = q.tomo ∧ r.rank = i ∧ ∃ n, RowOf S px k a nn r q n := by
  have hqs : q ∈ subset q.tomo a := (mem_subset _ _ _).2 ⟨hq, rfl⟩
  refine ⟨_, (mem_nnStats S px k a nn _).2 ⟨q.tomo, ⟨q, hq, rfl⟩, hn,
    (mem_tomoRows S px k a nn q.tomo _).2 ⟨i, hi, q, hqs, rfl⟩⟩, rfl, rfl,
    rowOf_rowAt S px k a nn q.tomo i q hqs hi⟩

/-- rows come tomogram by tomogram (ascending), inside a tomogram rank by rank -/
theorem nnStats_order [CommRing α] [LinearOrder α] (S : Num α) (px : α) (k : Nat) (a nn : List (Pt α)) :
    (nnStats S px k a nn).Pairwise (fun r r' => r.tomo < r'.tomo ∨ (r.tomo = r'.tomo ∧ r.rank ≤ r'.rank)) := by
  unfold nnStats
  rw [List.pairwise_flatMap]
  refine ⟨fun tm _ => ?_, (pairwise_foldr_insU _).imp ?_⟩
  · rw [tomoRows_eq_flatMap, List.pairwise_flatMap]
    refine ⟨fun i _ => ?_, List.pairwise_lt_range.imp ?_⟩
    · rw [List.pairwise_map]
      exact List.pairwise_of_forall (fun _ _ => Or.inr ⟨rfl, Nat.le_refl _⟩)
    · intro i j hij x hx y hy
      obtain ⟨_, _, rfl⟩ := List.mem_map.1 hx
      obtain ⟨_, _, rfl⟩ := List.mem_map.1 hy
      exact Or.inr ⟨rfl, Nat.le_of_lt hij⟩
  · intro t t' htt x hx y hy
    obtain ⟨_, _, _, _, rfl⟩ := (mem_tomoRows S px k a nn t x).1 hx
    obtain ⟨_, _, _, _, rfl⟩ := (mem_tomoRows S px k a nn t' y).1 hy
    exact Or.inl htt

/-- inside one rank block the queries appear in the order of the first list: the query subtomogram numbers of
the rows of a tomogram are the tomogram's query numbers, repeated once per rank -/
theorem tomoRows_queries_in_list_order [CommRing α] [LinearOrder α] (S : Num α) (px : α) (k : Nat)
    (a nn : List (Pt α)) (tm : Int) :
    (tomoRows S px k a nn tm).map (·.sub)
      = (List.range (min k (subset tm nn).length)).flatMap (fun _ => (subset tm a).map (·.sub)) := by
  rw [tomoRows_eq_flatMap, List.map_flatMap]
  simp only [List.map_map]
  rfl

/-- **Ascending distances.** If the square-root service is monotone and the pixel size is not negative, the
distances reported for one query increase (weakly) with the rank. -/
theorem distances_ascending [CommRing α] [LinearOrder α] [IsOrderedRing α] (S : Num α) (px : α) (k : Nat)
    (q : Pt α) (cn : List (Pt α)) (hmono : ∀ x y, x ≤ y → S.sqrt x ≤ S.sqrt y) (hpx : 0 ≤ px) :
    (neighbours k q cn).Pairwise (fun i j => S.sqrt (keyOf q cn i) * px ≤ S.sqrt (keyOf q cn j) * px) :=
  (knnSpec_knnIdx k cn.length (keyOf q cn)).sorted.imp
    (fun h => mul_le_mul_of_nonneg_right (hmono _ _ h) hpx)

/-- number of rows of one tomogram: (number of queries) × min(k, number of candidates) -/
theorem tomoRows_length [CommRing α] [LinearOrder α] (S : Num α) (px : α) (k : Nat) (a nn : List (Pt α)) (tm : Int) :
    (tomoRows S px k a nn tm).length = min k (subset tm nn).length * (subset tm a).length := by
  simp only [tomoRows_eq_flatMap, List.length_flatMap, List.length_map, List.map_const', List.sum_replicate_nat,
    List.length_range]

/-- The squared length of the reported offset is `px²` times the row's squared distance `d2` (a fact about vectors; first
conjunct). The second conjunct only UNFOLDS `mkRow` (`rfl`): that the reported distance is `sqrt(d2)·px` is how the model is
written, not a proved clause. What ties the statement's "distance = Euclidean distance of complete positions times the pixel
size" to the source is (i) the anchor `dist[:,i]*pixel_size` (`row_expressions_documented`), (ii) the recorded assumption that
the KD-tree returns Euclidean distances of the coordinates it was built on, checked on every run, and (iii) over ℝ
`realNum_distance` (the reported distance squared is `px²·‖pos n − pos q‖²`). -/
theorem offset_length [CommRing α] (S : Num α) (px : α) (tm : Int) (i j : Nat) (q n : Pt α) :
    V3.normSq (mkRow S px tm i q j n).offset = px * px * (mkRow S px tm i q j n).d2 ∧
    (mkRow S px tm i q j n).dist = S.sqrt (mkRow S px tm i q j n).d2 * px := by
  refine ⟨?_, rfl⟩
  simp only [mkRow, ← V3.smul_sub, V3.normSq_smul, d2]

/-- **Distance = Euclidean distance of the complete positions × pixel size**, for every square-root service that is exact
on the squared distance at hand (`sqrt(d)·sqrt(d) = d`; the real square root is, `realNum_distance`): the reported distance
squared is `px²·‖(n.base + n.shift) − (q.base + q.shift)‖²`. -/
theorem distance_is_scaled_euclid [CommRing α] (S : Num α) (px : α) (tm : Int) (i j : Nat) (q n : Pt α)
    (hs : S.sqrt (d2 q n) * S.sqrt (d2 q n) = d2 q n) :
    (mkRow S px tm i q j n).dist * (mkRow S px tm i q j n).dist
      = px * px * V3.normSq ((n.base + n.shift) - (q.base + q.shift)) := by
  show S.sqrt (d2 q n) * px * (S.sqrt (d2 q n) * px) = px * px * d2 q n
  rw [mul_mul_mul_comm, hs, mul_comm]

/-- the code's `from_euler("zxz", -[psi, theta, phi])` is the transpose of the orientation (any numbers) and,
for genuine angles, its two-sided inverse -/
theorem inverse_orientation [CommRing α] (p : Pt α) :
    rotInv p = (rot p).transpose ∧ (p.WF → rotInv p * rot p = M3.one ∧ rot p * rotInv p = M3.one) :=
  ⟨rotInv_eq_transpose p, fun h => ⟨rotInv_mul_rot p h, rot_mul_rotInv p h⟩⟩

/-- the particle-frame offset has the length of the offset, and the relative orientation is a rotation matrix -/
theorem frame_offset_isometric [CommRing α] (S : Num α) (px : α) (tm : Int) (i j : Nat) (q n : Pt α)
    (hq : q.WF) (hn : n.WF) :
    V3.normSq (mkRow S px tm i q j n).frame = V3.normSq (mkRow S px tm i q j n).offset ∧
    (mkRow S px tm i q j n).rel.Orth :=
  ⟨(rotInv_orth q hq).normSq_apply _, (rotInv_orth q hq).mul (rot_orth n hn)⟩

/-- **One pair under a rigid motion.** For orthogonal `Q` (`QᵀQ = 1`) and any translation: the squared
distance, the particle-frame offset and the relative orientation of a (query, neighbour) pair are unchanged;
the tomogram-frame offset co-rotates. -/
theorem pair_rigid [CommRing α] {Q : M3 α} {t : V3 α} {q q' n n' : Pt α} (px : α) (hQ : Q.Orth)
    (hq : Moved Q t q q') (hn : Moved Q t n n') :
    d2 q' n' = d2 q n ∧
    (rotInv q').apply (V3.smul px (pos n') - V3.smul px (pos q'))
      = (rotInv q).apply (V3.smul px (pos n) - V3.smul px (pos q)) ∧
    rotInv q' * rot n' = rotInv q * rot n ∧
    V3.smul px (pos n') - V3.smul px (pos q') = Q.apply (V3.smul px (pos n) - V3.smul px (pos q)) := by
  refine ⟨hq.d2_eq hQ hn, ?_, hq.rel_eq hQ hn, hq.offset_eq px hn⟩
  rw [hq.offset_eq px hn, hq.frame_eq hQ]

/-- **The whole table under a rigid motion.** Move both lists by the same `(Q, t)` (`Q` orthogonal; every
particle keeps its identifiers, its complete position becomes `Q·pos + t`, its orientation `Q·R`, described
by whatever Euler angles). Then the table is the same table — same rows in the same order, same neighbours,
distances, particle-frame offsets, angular distances, relative orientations, subtomogram numbers — except
that each tomogram-frame offset is rotated by `Q`. No hypothesis on ties, sizes, `k` or the pixel size. The hypothesis
`Forall₂ (Moved Q t)` is satisfiable for every pair of lists and every PROPER rotation, and for no reflection
(`moved_exists_iff_proper`); `nnStats_rigid_real` states the invariance with the moved lists constructed. -/
theorem nnStats_rigid [CommRing α] [LinearOrder α] (S : Num α) (px : α) (k : Nat) {Q : M3 α} {t : V3 α}
    {a a' nn nn' : List (Pt α)} (hQ : Q.Orth)
    (ha : List.Forall₂ (Moved Q t) a a') (hn : List.Forall₂ (Moved Q t) nn nn') :
    nnStats S px k a' nn' = (nnStats S px k a nn).map (Row.turn Q) := by
  unfold nnStats
  rw [tomos_moved ha, tomos_moved hn, List.map_flatMap]
  congr 1
  funext tm
  exact tomoRows_moved S px k hQ ha hn tm

/-- **The hypothesis of `nnStats_rigid` can be met for every input, and only by proper rotations.** Over ℝ: for every
list of well-formed particles (Euler angles on the unit circle), every proper rotation `Q` (`Q.Orth ∧ det Q = 1`) and every
translation `t` a moved copy `l'` with `Forall₂ (Moved Q t) l l'` EXISTS (zxz Euler angles of `Q·R_p` exist for every
particle, `exists_moved`); and whenever `Moved Q t p p'` holds — over any commutative ring — `det Q = 1`: `Q.Orth` in
`nnStats_rigid` admits reflections only formally, no particle has an image under one. -/
theorem moved_exists_iff_proper (Q : M3 ℝ) (t : V3 ℝ) (hQ : Q.Orth) (p : Pt ℝ) (hp : p.WF) :
    (∃ p', Moved Q t p p') ↔ Q.det = 1 :=
  ⟨fun ⟨_, h⟩ => h.det_eq_one, fun hd => exists_moved Q t p hp ⟨hQ, hd⟩⟩

/-- **Rigid-motion invariance with the moved lists constructed** (ℝ): for all lists of well-formed particles, every
proper rotation `Q`, every translation `t`, every `k`, pixel size and services there ARE moved copies `a'`, `nn'` of the
two lists, and the table of the moved copies is the table of the originals with the tomogram-frame offsets rotated by
`Q` — `nnStats_rigid` with its hypothesis discharged instead of assumed. -/
theorem nnStats_rigid_real (S : Num ℝ) (px : ℝ) (k : Nat) (Q : M3 ℝ) (t : V3 ℝ) (hQ : IsRot Q)
    (a nn : List (Pt ℝ)) (ha : ∀ p ∈ a, p.WF) (hn : ∀ p ∈ nn, p.WF) :
    ∃ a' nn', List.Forall₂ (Moved Q t) a a' ∧ List.Forall₂ (Moved Q t) nn nn' ∧
      nnStats S px k a' nn' = (nnStats S px k a nn).map (Row.turn Q) := by
  obtain ⟨a', ha'⟩ := exists_moved_list Q t hQ a ha
  obtain ⟨nn', hn'⟩ := exists_moved_list Q t hQ nn hn
  exact ⟨a', nn', ha', hn', nnStats_rigid S px k hQ.1 ha' hn'⟩

/-- Reading aid for `nnStats_rigid` (thirteen `rfl`: `Row.turn` is a record update of the field `offset`): what
`Row.turn` leaves alone is everything but the tomogram-frame offset. Not a clause of the statement by itself — the clause is
`nnStats_rigid`, whose right-hand side this lemma lets one read field by field. -/
theorem turn_keeps [CommRing α] (Q : M3 α) (r : Row α) :
    (r.turn Q).tomo = r.tomo ∧ (r.turn Q).rank = r.rank ∧ (r.turn Q).sub = r.sub ∧ (r.turn Q).subNn = r.subNn ∧
    (r.turn Q).nnIdx = r.nnIdx ∧ (r.turn Q).d2 = r.d2 ∧ (r.turn Q).dist = r.dist ∧ (r.turn Q).frame = r.frame ∧
    (r.turn Q).rel = r.rel ∧ (r.turn Q).tr = r.tr ∧ (r.turn Q).skewSq = r.skewSq ∧ (r.turn Q).ang = r.ang ∧
    (r.turn Q).offset = Q.apply r.offset :=
  ⟨rfl, rfl, rfl, rfl, rfl, rfl, rfl, rfl, rfl, rfl, rfl, rfl, rfl⟩

/-- **The reported neighbour order is invariant under rigid motion when distances are pairwise distinct** — for ANY
neighbour search, not only the model's. Let `out` be what some search reports for query `q` among the candidates `cn`, and
`out'` what some (possibly different) search reports after both were moved by the same `(Q, t)`. If both answers are
correct (`KnnSpec`: the `min k n` closest, ascending) and no two candidates are equally far from `q`, then `out' = out`:
the same candidate positions in the same order. (With ties a correct search may legitimately answer differently; the
model's own deterministic answer is invariant even then, `nnStats_rigid`.) -/
theorem neighbour_order_rigid [CommRing α] [LinearOrder α] {Q : M3 α} {t : V3 α} (k : Nat) {q q' : Pt α}
    {cn cn' : List (Pt α)} (hQ : Q.Orth) (hq : Moved Q t q q') (hc : List.Forall₂ (Moved Q t) cn cn')
    (out out' : List Nat) (hties : NoTies cn.length (keyOf q cn))
    (h : KnnSpec k cn.length (keyOf q cn) out) (h' : KnnSpec k cn'.length (keyOf q' cn') out') :
    out' = out ∧ NoTies cn'.length (keyOf q' cn') := by
  rw [keyOf_moved hQ hq hc, ← hc.length_eq] at h' ⊢
  exact ⟨KnnSpec.unique hties h' h, hties⟩

/-- **Any correct neighbour search gives the model's table.** If the search `nb` (the KD-tree) answers every query of a
common tomogram with a list meeting `KnnSpec` and no query has two candidates at the same distance, the table assembled
from ITS answers is the model's table `nnStats` — so everything proved about `nnStats` holds for it. This is the exact
content of the recorded assumption "KD-tree = brute force": only `KnnSpec` of the tree's answers is needed, and that is
what the verified checker `checkKnn` decides on every run. -/
theorem nnStatsWith_eq [CommRing α] [LinearOrder α] (nb : Pt α → List (Pt α) → List Nat) (S : Num α) (px : α) (k : Nat)
    (a nn : List (Pt α)) (h : CorrectSearch nb k a nn) : nnStatsWith nb S px k a nn = nnStats S px k a nn := by
  unfold nnStatsWith nnStats
  congr 1
  funext tm
  exact tomoRowsWith_eq nb S px k a nn h tm

/-- **Rigid-motion invariance for any two correct neighbour searches** (`k` neighbours, any `k`): the table built from the
answers of `nb` on the original lists and the table built from the answers of `nb'` on the moved lists are the same table
up to the co-rotation of the tomogram-frame offsets, provided both searches are correct and distances are pairwise distinct
on both sides. -/
theorem nnStats_rigid_any_search [CommRing α] [LinearOrder α] (nb nb' : Pt α → List (Pt α) → List Nat) (S : Num α) (px : α)
    (k : Nat) {Q : M3 α} {t : V3 α} {a a' nn nn' : List (Pt α)} (hQ : Q.Orth)
    (ha : List.Forall₂ (Moved Q t) a a') (hn : List.Forall₂ (Moved Q t) nn nn')
    (h : CorrectSearch nb k a nn) (h' : CorrectSearch nb' k a' nn') :
    nnStatsWith nb' S px k a' nn' = (nnStatsWith nb S px k a nn).map (Row.turn Q) := by
  rw [nnStatsWith_eq nb' S px k a' nn' h', nnStatsWith_eq nb S px k a nn h]
  exact nnStats_rigid S px k hQ ha hn

/-- **Lists that share no tomogram give the empty table** (the documented "work only with the intersection"). This is what
the model answers on the class of finding C18-K1 (fixed by C18-fix-1); the witness of the defect was on the IMPLEMENTATION side
(`ValueError: need at least one array to concatenate` from `np.vstack([])`, replayed by the harness on the unrepaired
source), the model never raised. The source has the empty-result path (`body_distances_documented`,
`body_rotations_documented`) and the harness compares the real empty table with this one. -/
theorem k1_model_returns_empty [CommRing α] [LinearOrder α] (S : Num α) (px : α) (k : Nat) (a nn : List (Pt α))
    (h : ∀ p ∈ a, ∀ p' ∈ nn, p.tomo ≠ p'.tomo) : nnStats S px k a nn = [] := by
  unfold nnStats
  rw [features_nil_of_disjoint]
  · rfl
  · intro tm hta htn
    obtain ⟨p, hp, rfl⟩ := List.mem_map.1 hta
    obtain ⟨p', hp', e⟩ := List.mem_map.1 htn
    exact h p hp p' hp' e.symm

/-! ### the angular distance IS the rotation angle of the relative orientation (over ℝ, through C06)

In the theorems above the angle is whatever the service `S.ang` returns. Here the service is the real
counterpart `realNum` of the driver's (`atan2(√skewSq/2, (trace−1)/2)` in degrees), and the value is tied to
C06: `angDist_is_rotation_angle`, `trace_rel` — imported from `Lemmas/C06_Export.lean`, which carries none of C06's
translator obligations, so an edit of a `geom.py` function C18 does not use cannot stop this file from building. -/

/-- **One row.** For a query and a neighbour whose Euler angles are real numbers, the row's angular distance
(i) is the angle in `[0°, 180°]` whose cosine is `(trace − 1)/2` of the relative orientation `R_qᵀ·R_n` reported in
the same row — the rotation angle of the relative orientation — and (ii) is the quaternion form
`degrees(2·arccos(min(|q₁·q₂|, 1)))` that `geom.angular_distance` evaluates on the quaternions of the two
orientations (C06's model `angDist` of that function). -/
theorem angular_distance_is_rotation_angle (at2 : ℝ → ℝ → ℝ) (px : ℝ) (tm : Int) (i j : Nat) (q n : Pt ℝ)
    (φq θq ψq φn θn ψn : ℝ) (hq : q.HasAngles φq θq ψq) (hn : n.HasAngles φn θn ψn) :
    (mkRow realNum px tm i q j n).rel = (rot q).transpose * rot n ∧
    (mkRow realNum px tm i q j n).ang
      = deg (Real.arccos ((trace ((rot q).transpose * rot n) - 1) / 2)) ∧
    (mkRow realNum px tm i q j n).ang
      = C06.angDist (C06.realLibm at2) (quatOf φq θq ψq) (quatOf φn θn ψn) ∧
    0 ≤ (mkRow realNum px tm i q j n).ang ∧ (mkRow realNum px tm i q j n).ang ≤ 180 := by
  obtain ⟨uq, mq⟩ := hq.quat
  obtain ⟨un, mn⟩ := hn.quat
  have hrel : (mkRow realNum px tm i q j n).rel = (rot q).transpose * rot n := by
    simp only [mkRow, rotInv_eq_transpose]
  obtain ⟨h1, h2⟩ := row_ang_real at2 hrel rfl uq un mq mn
  refine ⟨hrel, h1, h2, ?_⟩
  rw [h2]
  exact C06.Export.angDist_range at2 _ _

/-- **Every row of the table.** When every particle's Euler angles are real numbers, each row of the table
computed with the real services is the report about a query `q` and a same-tomogram particle `n` (`RowOf`, as in
`nnStats_sound`) and its angular distance is the rotation angle of `R_qᵀ·R_n`; it equals
`degrees(2·arccos(min(|p·p'|, 1)))` for ANY unit quaternions `p`, `p'` of the two orientations (either sign, as
scipy may return). -/
theorem nnStats_angular_real (at2 : ℝ → ℝ → ℝ) (px : ℝ) (k : Nat) (a nn : List (Pt ℝ))
    (ha : ∀ p ∈ a, ∃ φ θ ψ, p.HasAngles φ θ ψ) (hn : ∀ p ∈ nn, ∃ φ θ ψ, p.HasAngles φ θ ψ)
    (r : Row ℝ) (h : r ∈ nnStats realNum px k a nn) :
    ∃ q n, RowOf realNum px k a nn r q n ∧
      r.ang = deg (Real.arccos ((trace ((rot q).transpose * rot n) - 1) / 2)) ∧
      ∀ p p' : C06.Q4 ℝ, C06.qnormSq p = 1 → C06.qnormSq p' = 1 → C06.toM3 p = rot q → C06.toM3 p' = rot n →
        r.ang = C06.angDist (C06.realLibm at2) p p' := by
  obtain ⟨q, n, ro⟩ := nnStats_sound realNum px k a nn r h
  obtain ⟨φq, θq, ψq, hq⟩ := ha q ro.q_mem
  obtain ⟨φn, θn, ψn, hnn⟩ := hn n ro.n_mem
  obtain ⟨uq, mq⟩ := hq.quat
  obtain ⟨un, mn⟩ := hnn.quat
  exact ⟨q, n, ro, (row_ang_real at2 ro.rel ro.ang uq un mq mn).1,
    fun p p' hp hp' ep ep' => (row_ang_real at2 ro.rel ro.ang hp hp' ep ep').2⟩

/-- the real square root is the square-root service the distance clause needs: monotone, and the reported
distance squared is `px²` times the squared distance of the complete positions -/
theorem realNum_distance (px : ℝ) (tm : Int) (i j : Nat) (q n : Pt ℝ) :
    (mkRow realNum px tm i q j n).dist * (mkRow realNum px tm i q j n).dist
      = px * px * V3.normSq ((n.base + n.shift) - (q.base + q.shift)) ∧
    (∀ x y : ℝ, x ≤ y → realNum.sqrt x ≤ realNum.sqrt y) := by
  have h0 : 0 ≤ d2 q n := V3.normSq_nonneg _
  exact ⟨distance_is_scaled_euclid realNum px tm i j q n (Real.mul_self_sqrt h0), fun x y h => Real.sqrt_le_sqrt h⟩

/-! ### non-vacuity: the hypotheses above are satisfiable by non-trivial inputs -/

/-- a quarter turn about z is orthogonal -/
example : (rz (0 : Int) 1).Orth := rz_orth 0 1 (by decide)

/-- a particle with non-zero shift and a non-trivial orientation (phi = 90°, theta = 180°), and its image under
the quarter turn about z followed by a translation: the image has psi = 90° -/
example : Moved (rz (0 : Int) 1) ⟨5, 6, 7⟩
    { tomo := 3, sub := 11, base := ⟨1, 2, 3⟩, shift := ⟨1, 0, -1⟩, phi := ⟨0, 1⟩, theta := ⟨-1, 0⟩, psi := ⟨1, 0⟩ }
    { tomo := 3, sub := 11, base := ⟨3, 7, 10⟩, shift := ⟨0, 1, -1⟩, phi := ⟨0, 1⟩, theta := ⟨-1, 0⟩, psi := ⟨0, 1⟩ } :=
  { tomo := rfl, sub := rfl, pos := by decide +kernel, rot := by decide +kernel,
    wf := by unfold Pt.WF Ang.Unit; decide +kernel, wf' := by unfold Pt.WF Ang.Unit; decide +kernel }

/-- a particle over ℝ whose Euler angles are real numbers (1, 2, 3 radians), with a non-zero shift: the hypothesis
of `angular_distance_is_rotation_angle` / `nnStats_angular_real` -/
noncomputable example : ∃ p : Pt ℝ, p.HasAngles 1 2 3 ∧ p.shift = ⟨1, 0, -1⟩ :=
  ⟨{ tomo := 3, sub := 11, base := ⟨1, 2, 3⟩, shift := ⟨1, 0, -1⟩, phi := angOf 1, theta := angOf 2, psi := angOf 3 },
    ⟨rfl, rfl, rfl⟩, rfl⟩

/-- two lists without a common tomogram (hypothesis of `k1_model_returns_empty`) -/
example : ∀ p ∈ [({ tomo := 1, sub := 1, base := ⟨0, 0, 0⟩, shift := ⟨0, 0, 0⟩, phi := ⟨1, 0⟩, theta := ⟨1, 0⟩, psi := ⟨1, 0⟩ } : Pt Int)],
    ∀ p' ∈ [({ tomo := 2, sub := 1, base := ⟨0, 0, 0⟩, shift := ⟨0, 0, 0⟩, phi := ⟨1, 0⟩, theta := ⟨1, 0⟩, psi := ⟨1, 0⟩ } : Pt Int)],
    p.tomo ≠ p'.tomo := by decide

/-- the model's own search is a correct search when there are no ties (hypothesis of `nnStatsWith_eq` /
`nnStats_rigid_any_search`): two queries and three candidates on a line, all distances distinct -/
example : CorrectSearch (α := Int) (neighbours 2) 2
    [{ tomo := 1, sub := 1, base := ⟨0, 0, 0⟩, shift := ⟨0, 0, 0⟩, phi := ⟨1, 0⟩, theta := ⟨1, 0⟩, psi := ⟨1, 0⟩ }]
    [{ tomo := 1, sub := 7, base := ⟨1, 0, 0⟩, shift := ⟨0, 0, 0⟩, phi := ⟨1, 0⟩, theta := ⟨1, 0⟩, psi := ⟨1, 0⟩ },
     { tomo := 1, sub := 8, base := ⟨3, 0, 0⟩, shift := ⟨0, 0, 0⟩, phi := ⟨1, 0⟩, theta := ⟨1, 0⟩, psi := ⟨1, 0⟩ },
     { tomo := 1, sub := 9, base := ⟨-2, 0, 0⟩, shift := ⟨0, 0, 0⟩, phi := ⟨1, 0⟩, theta := ⟨1, 0⟩, psi := ⟨1, 0⟩ }] := by
  intro tm q hq
  obtain ⟨hq1, rfl⟩ := (mem_subset _ _ _).1 hq
  rw [List.mem_singleton] at hq1
  subst hq1
  refine ⟨knnSpec_knnIdx _ _ _, fun i j (hi : i < 3) (hj : j < 3) => ?_⟩
  interval_cases i <;> interval_cases j <;> decide +kernel

/-- an exact square root of a squared distance (hypothesis of `distance_is_scaled_euclid`): positions 3-4-0 apart, root 5 -/
example : (5 : Int) * 5 = d2 (α := Int)
    { tomo := 1, sub := 1, base := ⟨0, 0, 0⟩, shift := ⟨1, 0, 0⟩, phi := ⟨1, 0⟩, theta := ⟨1, 0⟩, psi := ⟨1, 0⟩ }
    { tomo := 1, sub := 2, base := ⟨3, 4, 0⟩, shift := ⟨1, 0, 0⟩, phi := ⟨1, 0⟩, theta := ⟨1, 0⟩, psi := ⟨1, 0⟩ } := by decide +kernel

/-- a proper rotation over ℝ that is no axis permutation (hypothesis of `nnStats_rigid_real`): the turn about z with
cos = 3/5, sin = 4/5 -/
example : IsRot (rz (3 / 5 : ℝ) (4 / 5)) :=
  rz_isRot _ _ (by norm_num)

/-- distinct keys exist -/
example : NoTies 4 (fun i => (3 * i : Int)) := by
  intro i j _ _ h
  simp only at h
  omega

/-- a list meeting `KnnSpec` with something left out (k = 2 of 3 candidates with keys 5, 1, 3) -/
example : checkKnn 2 3 (fun i => [5, 1, 3].getD i (0 : Int)) [1, 2] = true := by decide +kernel

end CryoCat.C18
