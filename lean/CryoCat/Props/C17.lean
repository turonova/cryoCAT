import CryoCat.Lemmas.C17_ParseWF
import CryoCat.Lemmas.C17_Ops
import CryoCat.Lemmas.C17_Wedge
import CryoCat.Model.C17_Load
import Mathlib.Tactic.Ring
import Mathlib.Algebra.Field.Basic
/-! C17 — tilt-series metadata: the property theorems and their non-vacuity examples. -/
namespace CryoCat.C17

/-! ### translator obligations: the constants re-extracted from the source are the documented ones -/

theorem anchors_ok : Gen.C17.anchorsOk = true := rfl

/-- `_read_mdoc` recognises `[ZValue` then `[FrameSet` -/
theorem section_prefixes_documented : Gen.C17.sectionPrefixes =
    [(['[', 'Z', 'V', 'a', 'l', 'u', 'e'], ['Z', 'V', 'a', 'l', 'u', 'e']),
     (['[', 'F', 'r', 'a', 'm', 'e', 'S', 'e', 't'], ['F', 'r', 'a', 'm', 'e', 'S', 'e', 't'])] := rfl

/-- `write` prints `key = value`, `[section = n]`, `[title]` -/
theorem write_formats_documented :
    Gen.C17.kvSep = [' ', '=', ' '] ∧ Gen.C17.secOpen = ['['] ∧ Gen.C17.secSep = [' ', '=', ' '] ∧ Gen.C17.secClose = [']'] ∧
    Gen.C17.titleOpen = ['['] ∧ Gen.C17.titleClose = [']'] := ⟨rfl, rfl, rfl, rfl, rfl, rfl⟩

/-- `write(removed=False)` keeps exactly the rows whose flag is not set -/
theorem write_filter_documented : Gen.C17.writeKeepsWhenNotRemoved = true := rfl

/-- `write` does not print the cells pandas filled with NaN for images whose section lacked a key (fix C17-fix-1; before it the
file gained an invented `key = nan` line that was re-read as the TEXT "nan") -/
theorem write_skips_nan_documented : Gen.C17.writeSkipsNan = true := rfl

/-- `_parse_images` builds the one-row frame of every section with `dtype=object` (fix C17-fix-2): a key that first appears in a later
section keeps the type `_format_value` gave its value, as the keys of the first section always did (before the fix pandas inferred
float64 for such a column: `N = 8` was read as 8.0, and which section came first decided what a cell held) -/
theorem row_frames_object_documented : Gen.C17.rowFramesObjectTyped = true := rfl

/-- `sort_by_tilt` sorts ascending by the column the reader converts to float: "TiltAngle" -/
theorem sort_key_documented : Gen.C17.sortKey = ['T', 'i', 'l', 't', 'A', 'n', 'g', 'l', 'e'] ∧ Gen.C17.sortAscending = true ∧
    Gen.C17.tiltKey = Gen.C17.sortKey ∧ Gen.C17.removedKey = ['R', 'e', 'm', 'o', 'v', 'e', 'd'] := ⟨rfl, rfl, rfl, rfl⟩

/-- mdoc dose = `ExposureDose` + `PriorRecordDose` -/
theorem dose_keys_documented : Gen.C17.exposureKey = ['E', 'x', 'p', 'o', 's', 'u', 'r', 'e', 'D', 'o', 's', 'e'] ∧
    Gen.C17.priorKey = ['P', 'r', 'i', 'o', 'r', 'R', 'e', 'c', 'o', 'r', 'd', 'D', 'o', 's', 'e'] ∧
    Gen.C17.doseIsExposurePlusPrior = true := ⟨rfl, rfl, rfl⟩

/-- Å → µm is ×10⁻⁴ in both defocus readers, the mean divides by 2; `tlt_load` sorts by default -/
theorem defocus_constants_documented : Gen.C17.angToMicronGctf = 1 / 10000 ∧ Gen.C17.angToMicronCtffind = 1 / 10000 ∧
    Gen.C17.meanDivisor = 2 ∧ Gen.C17.tltSortsByDefault = true ∧ Gen.C17.emMinMax = true := by decide +kernel

/-- the STOPGAP wedge-list columns and their order (the `columns=[…]` list of the table), and WHAT is assigned to each column — a map
column ↦ value, listed here by column name: the order in which the code fills the columns is not observable and not pinned (moving
`wedge_list_df["cs"] = cs` above the voltage assignment is a harmless edit). Local variables are inlined by the translator: only
parameters and loader calls are named, so renaming a local does not change the value -/
theorem wedge_columns_documented : Gen.C17.wedgeColumns =
    ["tomo_num", "pixelsize", "tomo_x", "tomo_y", "tomo_z", "z_shift", "tilt_angle", "defocus", "exposure", "voltage", "amp_contrast", "cs"] ∧
    Gen.C17.wedgeAssignments = [
      ("['tomo_x','tomo_y','tomo_z']", "np.repeat(ioutils.dimensions_load(tomo_dim).values,ioutils.tlt_load(tlt_file).shape[0],axis=0)"),
      ("amp_contrast", "amp_contrast"), ("cs", "cs"),
      ("defocus", "ioutils.defocus_load(ctf_file,ctf_file_type)['defocus_mean'].values"), ("exposure", "ioutils.total_dose_load(dose_file)"),
      ("pixelsize", "pixel_size"), ("tilt_angle", "ioutils.tlt_load(tlt_file)"), ("tomo_num", "tomo_id"), ("voltage", "voltage"),
      ("z_shift", "ioutils.z_shift_load(z_shift).values[0][0]")] ∧
    Gen.C17.wedgeEmColumns = ["tomo_num", "min_angle", "max_angle"] := ⟨rfl, rfl, rfl⟩

/-- both wedge-list functions write the STAR file from the COMPLETE table: the `if output_file is not None: Starfile.write([df], …)` block is
the last statement before `return df` and writes the very table that is returned (a write placed before the microscope constants are
assigned gives a file with NaN constants next to a correct return value) -/
theorem wedge_written_last_documented : Gen.C17.wedgeWrittenLast = true := rfl

/-- `Mdoc.write` opens with `open(out_path, "w")` and `_read_mdoc` with `open(file_path, "r")`: no `encoding=` / `errors=` argument that could
drop characters (µ, ü) between writing and re-reading -/
theorem mdoc_open_documented : Gen.C17.mdocOpenArgs = ["out_path,'w'", "file_path,'r'"] := rfl

/-! ### sorting by tilt changes only the order -/

/-- the table after `sort_by_tilt()` is a permutation of the table before -/
theorem sort_perm (m : Mdoc) : (sortByTilt false m).rows.Perm m.rows :=
  -- without the reset the new table is `sortRowsBy … m.rows`, a `mergeSort`
  List.mergeSort_perm m.rows _

/-- `sort_by_tilt(reset_z_value=True)` assigns to the section-id column of the object, `self.imgs[self.section_id]` (fix 6061ac6; before
it the key was the literal "ZValue", which `resetKey` still records as the documented fallback) -/
theorem reset_key_documented : Gen.C17.resetKey = ['Z', 'V', 'a', 'l', 'u', 'e'] ∧ Gen.C17.resetUsesSectionId = true := ⟨rfl, rfl⟩

/-- so the reset hits the section column of EVERY object, ZValue and FrameSet alike -/
theorem reset_hits_section (m : Mdoc) : resetHitsSection m = true := by
  simp [resetHitsSection, reset_key_documented.2]

/-- header entries, titles and the section id are untouched, in every case -/
theorem sort_keeps_info (m : Mdoc) (reset : Bool) :
    (sortByTilt reset m).info = m.info ∧ (sortByTilt reset m).titles = m.titles ∧ (sortByTilt reset m).sid = m.sid := by
  unfold sortByTilt resetForeign
  dsimp only
  split
  · split <;> exact ⟨rfl, rfl, rfl⟩
  · exact ⟨rfl, rfl, rfl⟩

/-- header entries, titles, section id and columns are untouched, with and without `reset_z_value`, for every object (no hypothesis on
the section id: since fix 6061ac6 the reset writes the section column whatever it is called, `reset_hits_section`) -/
theorem sort_keeps_header (m : Mdoc) (reset : Bool) :
    (sortByTilt reset m).info = m.info ∧ (sortByTilt reset m).titles = m.titles ∧
    (sortByTilt reset m).sid = m.sid ∧ (sortByTilt reset m).cols = m.cols := by
  have hc : (reset && !resetHitsSection m) = false := by simp [reset_hits_section m]
  simp only [sortByTilt, hc, Bool.false_eq_true, if_false, and_self]

/-- **regression witness of the behaviour before fix 6061ac6 (then open finding C17-K3).** The statement speaks about `resetForeign`, the
transcription of the OLD assignment `self.imgs["ZValue"] = range(n)`, applied to the sorted table of ANY object without a data column of
that name (e.g. every FrameSet mdoc) — not about `sortByTilt true` under a hypothesis `resetHitsSection m = false`, which
`reset_hits_section` shows unsatisfiable for the repaired source. That assignment did NOT change "only the order": the table gains a
column `ZValue`, every image gains one entry (which `write` prints as `ZValue = k` inside every section), and the section values stay as
they were. The repaired `sortByTilt true` never takes this path (`sort_keeps_header`); the revert of the fix makes
`reset_key_documented` fail. Non-vacuous: `fs₀` below meets the hypothesis. -/
theorem sort_reset_foreign_adds_entry (m : Mdoc) (hk : Gen.C17.resetKey ∉ m.cols) :
    (resetForeign { m with rows := (sortByTilt false m).rows }).cols = m.cols ++ [Gen.C17.resetKey] ∧
    (resetForeign { m with rows := (sortByTilt false m).rows }).cols ≠ m.cols ∧
    (resetForeign { m with rows := (sortByTilt false m).rows }).rows.map (·.z) = (sortByTilt false m).rows.map (·.z) ∧
    (resetForeign { m with rows := (sortByTilt false m).rows }).rows.map (fun r => r.cells.length)
      = (sortByTilt false m).rows.map (fun r => r.cells.length + 1) := by
  have hi : ¬ (List.idxOf Gen.C17.resetKey m.cols < m.cols.length) := by
    intro h; exact hk (List.idxOf_lt_length_iff.mp h)
  simp only [resetForeign, hi, if_false, List.map_map]
  refine ⟨trivial, ?_, by apply map_zipIdx_of_fst; intro _; rfl, by apply map_zipIdx_of_fst; intro _; simp⟩
  intro h
  have := congrArg List.length h
  simp at this

example : Gen.C17.resetKey ∉ ({ info := [], titles := [], sid := "FrameSet".toList, cols := ["TiltAngle".toList], rows := [] } : Mdoc).cols := by decide +kernel

/-- what the old assignment did, on a concrete FrameSet object, independent of the flag: `resetForeign` (the transcription of
`self.imgs["ZValue"] = range(n)`) appends a column and leaves the FrameSet values alone; the repaired `sortByTilt true` renumbers them -/
def fs₀ : Mdoc :=
  { info := [], titles := [], sid := "FrameSet".toList, cols := ["TiltAngle".toList],
    rows := [{ z := "0".toList, cells := [Val.tilt false "3".toList "0".toList], removed := false },
             { z := "0".toList, cells := [Val.tilt true "3".toList "0".toList], removed := false }] }
example : (resetForeign fs₀).cols = ["TiltAngle".toList, "ZValue".toList] ∧ (resetForeign fs₀).rows.map (·.z) = ["0".toList, "0".toList] := by decide +kernel
example : (sortByTilt true fs₀).cols = ["TiltAngle".toList] ∧ (sortByTilt true fs₀).sid = "FrameSet".toList :=
  ⟨(sort_keeps_header fs₀ true).2.2.2, (sort_keeps_header fs₀ true).2.2.1⟩
/-- (the old-source reading of the flag) -/
example : Gen.C17.resetUsesSectionId = false →
    resetHitsSection { info := [], titles := [], sid := "FrameSet".toList, cols := ["TiltAngle".toList], rows := [] } = false := by decide +kernel
example : resetHitsSection { info := [], titles := [], sid := "ZValue".toList, cols := ["TiltAngle".toList], rows := [] } = true := by decide +kernel

/-- the comparison the source sorts with is `≤` on the key -/
theorem keyLe_sortAscending {α : Type} (key : α → Rat) (a b : α) : keyLe key Gen.C17.sortAscending a b = true ↔ key a ≤ key b := by
  simp [keyLe, sort_key_documented.2.1]

/-- the table after `sort_by_tilt()` is ascending in the tilt angle -/
theorem sort_sorted (m : Mdoc) :
    (sortByTilt false m).rows.Pairwise
      (fun a b => Row.tiltAt (m.cols.idxOf Gen.C17.sortKey) a ≤ Row.tiltAt (m.cols.idxOf Gen.C17.sortKey) b) :=
  (sortRowsBy_sorted (Row.tiltAt (m.cols.idxOf Gen.C17.sortKey)) Gen.C17.sortAscending m.rows).2.imp
    (fun hab => (keyLe_sortAscending _ _ _).1 hab)

/-! ### equal tilt angles: every ascending arrangement is a correct result of the sort -/

/-- `DataFrame.sort_values` (quicksort) promises an ascending table, not the order of images with EQUAL
tilt angles, and the statement asks no more ("change only the order"). Let `rows'` be ANY rearrangement of the table that is ascending in
the tilt angle. Then, compared with the model's stable sort: (1) the sequence of tilt angles is the same; (2) for every angle, the
images carrying it are the same up to their order — and so is anything computed image by image from them (`f`: cells, dose, flag);
(3) if no two images share an angle, `rows'` IS the model's result. -/
theorem sorted_perm_unique_up_to_ties (m : Mdoc) (rows' : List Row) (hp : rows'.Perm m.rows)
    (hs : rows'.Pairwise (fun a b => Row.tiltAt (m.cols.idxOf Gen.C17.sortKey) a ≤ Row.tiltAt (m.cols.idxOf Gen.C17.sortKey) b)) :
    rows'.map (Row.tiltAt (m.cols.idxOf Gen.C17.sortKey)) = (sortByTilt false m).rows.map (Row.tiltAt (m.cols.idxOf Gen.C17.sortKey)) ∧
    (∀ (k : Rat) {β : Type} (f : Row → β),
      ((rows'.filter (fun r => Row.tiltAt (m.cols.idxOf Gen.C17.sortKey) r == k)).map f).Perm
        (((sortByTilt false m).rows.filter (fun r => Row.tiltAt (m.cols.idxOf Gen.C17.sortKey) r == k)).map f)) ∧
    ((∀ a ∈ m.rows, ∀ b ∈ m.rows, Row.tiltAt (m.cols.idxOf Gen.C17.sortKey) a = Row.tiltAt (m.cols.idxOf Gen.C17.sortKey) b → a = b) →
      rows' = (sortByTilt false m).rows) := by
  obtain ⟨h1, h2, h3⟩ := sorted_perm_unique_up_to_ties_gen (Row.tiltAt (m.cols.idxOf Gen.C17.sortKey)) rows' (sortByTilt false m).rows
    (hp.trans (sort_perm m).symm) hs (sort_sorted m)
  exact ⟨h1, fun k _ f => (h2 k).map f, fun hinj => h3 (fun a ha b hb => hinj a (hp.subset ha) b (hp.subset hb))⟩

theorem renumber_cells (rows : List Row) :
    (renumber rows).map (fun r => (r.cells, r.removed)) = rows.map (fun r => (r.cells, r.removed)) := by
  rw [renumber, List.map_map]
  exact map_zipIdx_of_fst _ (fun r => (r.cells, r.removed)) (fun _ => rfl) rows 0

/-- what `sort_by_tilt` does after the rows are in order, for the source as it is (`reset_hits_section`) -/
theorem finishSort_rows (reset : Bool) (m : Mdoc) (rows : List Row) :
    finishSort reset m rows = { m with rows := if reset then renumber rows else rows } := by
  simp only [finishSort, reset_hits_section m, Bool.not_true, Bool.and_false, Bool.false_eq_true, if_false]

theorem sortByTiltAs_some (m : Mdoc) (o : List Nat) (reset : Bool) (m' : Mdoc) :
    sortByTiltAs (some o) reset m = some m' ↔
      (o.Perm (List.range m.rows.length) ∧
        (pick m.rows o).Pairwise (fun a b => Row.tiltAt (m.cols.idxOf Gen.C17.sortKey) a ≤ Row.tiltAt (m.cols.idxOf Gen.C17.sortKey) b)) ∧
      m' = finishSort reset m (pick m.rows o) := by
  simp only [sortByTiltAs, ← keyLe_sortAscending, ← arrangeOk_iff]
  split <;> simp [*, eq_comm]

/-- **the arrangement checker is sound and complete, and an accepted arrangement is a correct sort.** When the driver is told the
arrangement the implementation chose (`order`: for every row of the new table its position in the old one), `sortByTiltAs` accepts it
exactly when it names every position once and the rows in that order are ascending; the table it continues from is then a permutation of
the old one, ascending in the tilt angle — to which `sorted_perm_unique_up_to_ties` applies; header, titles, section id, columns untouched.
Third conjunct: with `reset_z_value=True` the accepted arrangement is renumbered 0, 1, … and nothing else in a row changes -/
theorem sort_as_spec (m : Mdoc) (o : List Nat) (reset : Bool) :
    ((sortByTiltAs (some o) reset m).isSome ↔
      (o.Perm (List.range m.rows.length) ∧
       (pick m.rows o).Pairwise (fun a b => Row.tiltAt (m.cols.idxOf Gen.C17.sortKey) a ≤ Row.tiltAt (m.cols.idxOf Gen.C17.sortKey) b))) ∧
    (∀ m', sortByTiltAs (some o) false m = some m' →
      m'.rows = pick m.rows o ∧ m'.rows.Perm m.rows ∧ m'.info = m.info ∧ m'.titles = m.titles ∧ m'.sid = m.sid ∧ m'.cols = m.cols) ∧
    (∀ m', sortByTiltAs (some o) true m = some m' →
      m'.rows = renumber (pick m.rows o) ∧ m'.rows.map (fun r => (r.cells, r.removed)) = (pick m.rows o).map (fun r => (r.cells, r.removed)) ∧
      (pick m.rows o).Perm m.rows ∧ m'.info = m.info ∧ m'.titles = m.titles ∧ m'.sid = m.sid ∧ m'.cols = m.cols) := by
  have hsome := sortByTiltAs_some m o
  refine ⟨?_, fun m' hm => ?_, fun m' hm => ?_⟩
  · rw [Option.isSome_iff_exists]
    simp only [hsome, exists_and_left, exists_eq, and_true]
  · obtain ⟨⟨hp, _⟩, rfl⟩ := (hsome false m').1 hm
    exact ⟨rfl, pick_perm m.rows o hp, rfl, rfl, rfl, rfl⟩
  · obtain ⟨⟨hp, _⟩, rfl⟩ := (hsome true m').1 hm
    rw [finishSort_rows]
    exact ⟨rfl, renumber_cells _, pick_perm m.rows o hp, rfl, rfl, rfl, rfl⟩

theorem sort_as_none (m : Mdoc) (reset : Bool) :
    sortByTiltAs none reset m = some (sortByTilt reset m) ∧
    sortByTilt reset m = finishSort reset m (sortRowsBy (Row.tiltAt (m.cols.idxOf Gen.C17.sortKey)) Gen.C17.sortAscending m.rows) := ⟨rfl, rfl⟩

/-- two images at 3° (one spelled `3.0`, one `3`): both arrangements are accepted, a descending one and a non-permutation are not -/
def tie₀ : Mdoc :=
  { info := [], titles := [], sid := "ZValue".toList, cols := ["TiltAngle".toList, "N".toList],
    rows := [{ z := "0".toList, cells := [Val.tilt false "3".toList "0".toList, Val.text "a".toList], removed := false },
             { z := "1".toList, cells := [Val.tilt true "3".toList "0".toList, Val.text "b".toList], removed := false },
             { z := "2".toList, cells := [Val.tilt false "3".toList "0".toList, Val.text "c".toList], removed := false }] }
example : (sortByTiltAs (some [1, 0, 2]) false tie₀).isSome = true ∧ (sortByTiltAs (some [1, 2, 0]) false tie₀).isSome = true ∧
    (sortByTiltAs (some [0, 1, 2]) false tie₀).isSome = false ∧ (sortByTiltAs (some [1, 1, 2]) false tie₀).isSome = false ∧
    hasTiltTies tie₀ = true := by decide +kernel
example : (sortByTiltAs (some [1, 2, 0]) false tie₀).map (fun m => m.rows.map (·.z)) = some ["1".toList, "2".toList, "0".toList] := by decide +kernel

/-- `reset_z_value=True` renumbers the section values and changes nothing else in a row, for every object (ZValue and FrameSet) -/
theorem sort_reset_cells (m : Mdoc) :
    (sortByTilt true m).rows.map (fun r => (r.cells, r.removed)) = (sortByTilt false m).rows.map (fun r => (r.cells, r.removed)) := by
  rw [(sort_as_none m true).2, (sort_as_none m false).2, finishSort_rows, finishSort_rows]
  exact renumber_cells _

/-! ### removing images changes only the removed flag, at exactly the addressed rows -/

/-- **kept-index mapping**: the `j`-th candidate position is the position of the `j`-th kept image
(`kept_only=True`), resp. of the `j`-th image (`kept_only=False`), in the current table order -/
theorem kept_index_mapping (rows : List Row) (keptOnly : Bool) (j p : Nat)
    (h : (candidates keptOnly rows)[j]? = some p) :
    rows[p]? = (rows.filter (fun r => !keptOnly || !r.removed))[j]? ∧ (rows[p]?).isSome := by
  simp only [candidates, List.getElem?_map, Option.map_eq_some_iff] at h
  obtain ⟨q, hq, rfl⟩ := h
  -- `q` is a row paired with its position; dropping the positions commutes with the filter
  have hget : rows[q.2]? = some q.1 :=
    List.mk_mem_zipIdx_iff_getElem?.1 (by cases q; exact (List.mem_filter.1 (List.mem_of_getElem? hq)).1)
  have hmap : (rows.zipIdx.filter (fun q => !keptOnly || !q.1.removed)).map Prod.fst
      = rows.filter (fun r => !keptOnly || !r.removed) :=
    (List.filter_map (f := Prod.fst) (p := fun r : Row => !keptOnly || !r.removed) (l := rows.zipIdx)).symm.trans
      (by rw [List.zipIdx_map_fst])
  rw [hget, ← hmap, List.getElem?_map, hq]
  exact ⟨rfl, rfl⟩

/-- with `kept_only=False` the candidates are simply all positions -/
example : candidates false [⟨['0'], [], true⟩, ⟨['1'], [], false⟩] = [0, 1] := by decide +kernel
example : candidates true [⟨['0'], [], true⟩, ⟨['1'], [], false⟩, ⟨['2'], [], false⟩] = [1, 2] := by decide +kernel

/-- **only the flag changes**: header, columns, number and order of rows, section values and all
cells are as before; the flag of row `p` is set iff it was set or `p` is one of the addressed positions -/
theorem remove_flags_only (m m' : Mdoc) (idxs : List Int) (keptOnly : Bool) (h : removeImages idxs keptOnly m = some m') :
    m'.info = m.info ∧ m'.titles = m.titles ∧ m'.sid = m.sid ∧ m'.cols = m.cols ∧
    m'.rows.map (fun r => (r.z, r.cells)) = m.rows.map (fun r => (r.z, r.cells)) ∧
    ∃ ts, targets idxs keptOnly m.rows = some ts ∧
      ∀ (p : Nat) (r : Row), m.rows[p]? = some r → m'.rows[p]? = some { r with removed := r.removed || ts.contains p } := by
  obtain ⟨ts, ht, rfl⟩ := (removeImages_some idxs keptOnly m m').1 h
  refine ⟨rfl, rfl, rfl, rfl, ?_, ts, ht, fun p r hp => ?_⟩
  · rw [List.map_map]
    apply map_zipIdx_of_fst
    intro p
    dsimp only [Function.comp]
    split <;> rfl
  · simp only [List.getElem?_map, List.getElem?_zipIdx, hp, Option.map_some, Nat.zero_add]
    by_cases hc : p ∈ ts <;> simp [hc]

/-- every addressed position comes from the candidate list through Python indexing (negative
indices count from the end; an index out of range makes the call raise = `none`) -/
theorem targets_spec (rows : List Row) (idxs : List Int) (keptOnly : Bool) (ts : List Nat)
    (h : targets idxs keptOnly rows = some ts) :
    ts.length = idxs.length ∧ ∀ (n : Nat) (i : Int), idxs[n]? = some i →
      ∃ j p, pyIndex (candidates keptOnly rows).length i = some j ∧ (candidates keptOnly rows)[j]? = some p ∧ ts[n]? = some p := by
  obtain ⟨hlen, hget⟩ := Lists.mapM_some_spec _ idxs ts h
  refine ⟨hlen, ?_⟩
  intro n i hi
  obtain ⟨p, hp, hf⟩ := hget n i hi
  cases hj : pyIndex (candidates keptOnly rows).length i with
  | none => simp [hj] at hf
  | some j => exact ⟨j, p, rfl, by simpa [hj] using hf, hp⟩

example : pyIndex 5 (-1) = some 4 ∧ pyIndex 5 4 = some 4 ∧ pyIndex 5 5 = none ∧ pyIndex 5 (-6) = none := by decide +kernel

/-- `write()` (removed=False) emits exactly the kept images -/
theorem filter_written_false (m : Mdoc) : m.rows.filter (written false) = keptImages m :=
  List.filter_congr (fun r _ => by simp [written, write_filter_documented])

/-- (definitional anchor: unfolds `written true`; not a clause of the statement by itself) `write(removed=True)` prints every image -/
theorem write_all (m : Mdoc) : (m.rows.filter (written true)) = m.rows := by
  simp [written]

/-- **the written file omits exactly the removed images**: `write(removed=False)` prints what
`write(removed=True)` prints for the object restricted to its kept images -/
theorem write_omits_removed (m : Mdoc) : printMdoc false m = printMdoc true { m with rows := keptImages m } := by
  simp only [printMdoc, filter_written_false, write_all { m with rows := keptImages m }]

/-- `tlt_load`: the returned angles are the file's numbers (a permutation) … -/
theorem tlt_perm {α : Type} (le : α → α → Bool) (s : Bool) (xs : List α) : (tltLoad le s xs).Perm xs := by
  unfold tltLoad; split
  · exact List.mergeSort_perm _ _
  · exact List.Perm.refl _

/-- … ascending (default `sort_angles=True`), for any total transitive order -/
theorem tlt_sorted {α : Type} (le : α → α → Bool) (htr : ∀ a b c, le a b = true → le b c = true → le a c = true)
    (htot : ∀ a b, (le a b || le b a) = true) (xs : List α) :
    (tltLoad le Gen.C17.tltSortsByDefault xs).Pairwise (fun a b => le a b = true) := by
  simp only [tltLoad, defocus_constants_documented.2.2.2.1, if_true]
  exact List.pairwise_mergeSort htr htot xs

/-- (definitional anchor, `rfl`: `doseLoad` IS the identity — that the real loader returns the file's numbers in file order is carried by
the correspondence run, clause `dose-values`, not by this line) dose files are returned in file order -/
theorem dose_file_order {α : Type} (xs : List α) : doseLoad xs = xs := rfl

/-- **defocus units and mean** over any field: with the factor 10⁻⁴ and divisor 2 the reader returns
U/10⁴, V/10⁴ and the mean (U+V)/2 of the converted values; angle and phase are passed through -/
theorem defocus_units {K : Type} [Field K] (u v a p : K) :
    (defocusRow ((1 : K) / 10000) 2 u v a p).defocus1 = u / 10000 ∧
    (defocusRow ((1 : K) / 10000) 2 u v a p).defocus2 = v / 10000 ∧
    (defocusRow ((1 : K) / 10000) 2 u v a p).astigmatism = a ∧
    (defocusRow ((1 : K) / 10000) 2 u v a p).phaseShift = p ∧
    (defocusRow ((1 : K) / 10000) 2 u v a p).defocusMean = (u / 10000 + v / 10000) / 2 ∧
    (defocusRow ((1 : K) / 10000) 2 u v a p).defocusMean = (u + v) / 2 / 10000 := by
  refine ⟨?_, ?_, rfl, rfl, ?_, ?_⟩ <;> simp only [defocusRow] <;> ring

/-- the readers apply `defocusRow` to every row, in order, with the source's constants -/
theorem gctf_rows {K : Type} [Field K] (f d : K) (rows : List (K × K × K × Option K)) (i : Nat) (r : K × K × K × Option K)
    (h : rows[i]? = some r) : (gctfRead f d rows)[i]? = some (defocusRow f d r.1 r.2.1 r.2.2.1 (r.2.2.2.getD 0)) := by
  simp [gctfRead, h]

theorem ctffind_rows {K : Type} [Field K] (f d : K) (rows : List (K × K × K × K)) (i : Nat) (r : K × K × K × K)
    (h : rows[i]? = some r) : (ctffindRead f d rows)[i]? = some (defocusRow f d r.1 r.2.1 r.2.2.1 r.2.2.2) := by
  simp [ctffindRead, h]

/-- `create_wedge_list_sg`: one row per tilt; row `i` pairs the i-th tilt angle with the i-th defocus and
the i-th exposure (when given — and then there are exactly as many as tilts) and with the tomogram's
number, dimensions, z-shift, the pixel size and the microscope constants -/
theorem wedge_single_rows {α : Type} (c : Consts α) (t : Tomo α) (rows : List (WedgeRow α)) (h : wedgeSingle c t = some rows) :
    rows.length = t.tilts.length ∧
    (∀ d, t.defocus = some d → d.length = t.tilts.length) ∧ (∀ d, t.dose = some d → d.length = t.tilts.length) ∧
    ∀ (i : Nat) (tilt : α), t.tilts[i]? = some tilt →
      rows[i]? = some (mkWedgeRow c t tilt (optAt t.defocus i) (optAt t.dose i)) := by
  obtain ⟨hc, rfl⟩ := (wedgeSingle_some c t rows).1 h
  exact ⟨by simp, ((consistent_iff t).1 hc).1, ((consistent_iff t).1 hc).2,
    fun i tilt hi => by simp [List.getElem?_map, List.getElem?_zipIdx, hi]⟩

/-- row `i` of the single list carries the `i`-th defocus / exposure value when a CTF / dose input was given -/
theorem wedge_single_optional {α : Type} (t : Tomo α) (d : List α) (i : Nat) (hd : d.length = t.tilts.length) (hi : i < t.tilts.length) :
    optAt (some d) i = some (d[i]'(by omega)) := by
  simp [optAt, List.getElem?_eq_getElem (by omega : i < d.length)]

/-- **`create_wedge_list_sg_batch`: one row per tilt per tomogram**, tomogram blocks in processing order;
the `i`-th row of the `k`-th block is the single-tomogram row above -/
theorem wedge_rows {α : Type} (c : Consts α) :
    ∀ (ts : List (Tomo α)) (rows : List (WedgeRow α)), wedgeBatch c ts = some rows →
      rows.length = (ts.map (fun t => t.tilts.length)).sum ∧
      ∀ (k : Nat) (t : Tomo α) (i : Nat) (tilt : α), ts[k]? = some t → t.tilts[i]? = some tilt →
        rows[((ts.take k).map (fun t => t.tilts.length)).sum + i]? = some (mkWedgeRow c t tilt (optAt t.defocus i) (optAt t.dose i)) := by
  intro ts rows h
  obtain ⟨rss, hm, rfl⟩ := Option.map_eq_some_iff.1 h
  -- the list is the concatenation of the single lists; block `k` is as long as tomogram `k` has tilts
  have hl := Lists.mapM_map_eq _ List.length (fun t : Tomo α => t.tilts.length) (fun t rs hs => (wedge_single_rows c t rs hs).1) ts rss hm
  refine ⟨by rw [length_flatten_sum, hl], ?_⟩
  intro k t i tilt hk hi
  obtain ⟨rs, hrs, hs⟩ := (Lists.mapM_some_spec _ ts rss hm).2 k t hk
  obtain ⟨hn, _, _, hrow⟩ := wedge_single_rows c t rs hs
  rw [List.map_take, ← hl, ← List.map_take,
    getElem?_flatten_block rss k i rs hrs (by rw [hn]; exact (List.getElem?_eq_some_iff.1 hi).1)]
  exact hrow i tilt hi

/-- the inconsistent case is refused (ValueError of `check_data_consistency`) -/
example : wedgeSingle (⟨1, 300, 7, 27⟩ : Consts Int) { id := 3, dimX := 1, dimY := 2, dimZ := 3, zShift := 0, tilts := [1, 2], defocus := some [5], dose := none } = none := by decide +kernel
example : (wedgeBatch (⟨1, 300, 7, 27⟩ : Consts Int)
    [{ id := 3, dimX := 1, dimY := 2, dimZ := 3, zShift := 0, tilts := [1, 2], defocus := some [5, 6], dose := none },
     { id := 9, dimX := 4, dimY := 5, dimZ := 6, zShift := 8, tilts := [7], defocus := some [1], dose := none }]).map (·.map (fun r => (r.tomoNum, r.tomoX, r.zShift, r.tiltAngle, r.defocus)))
    = some [(3, 1, 0, 1, some 5), (3, 1, 0, 2, some 6), (9, 4, 8, 7, some 1)] := by decide +kernel

/-- the returned columns: the documented list, without `defocus` / `exposure` when no such input was given -/
theorem wedge_header_full : wedgeHeader true true =
    ["tomo_num", "pixelsize", "tomo_x", "tomo_y", "tomo_z", "z_shift", "tilt_angle", "defocus", "exposure", "voltage", "amp_contrast", "cs"] ∧
    wedgeHeader false false = ["tomo_num", "pixelsize", "tomo_x", "tomo_y", "tomo_z", "z_shift", "tilt_angle", "voltage", "amp_contrast", "cs"] := by decide +kernel

/-- **EM wedge list**: per tomogram the minimum and the maximum tilt — members of the tilt list that bound all of it -/
theorem wedge_em_minmax {α : Type} (le : α → α → Bool) (htr : ∀ a b c, le a b = true → le b c = true → le a c = true)
    (htot : ∀ a b, (le a b || le b a) = true) (ts : List (Int × List α)) (out : List (Int × α × α)) (h : wedgeEm le ts = some out) :
    out.length = ts.length ∧ ∀ (k : Nat) (t : Int × List α), ts[k]? = some t →
      ∃ lo hi, out[k]? = some (t.1, lo, hi) ∧ lo ∈ t.2 ∧ hi ∈ t.2 ∧ ∀ x ∈ t.2, le lo x = true ∧ le x hi = true := by
  obtain ⟨hlen, hget⟩ := Lists.mapM_some_spec _ ts out h
  refine ⟨hlen, fun k t hk => ?_⟩
  obtain ⟨b, hb, hf⟩ := hget k t hk
  obtain ⟨h1, h2, h3, h4⟩ := wedgeEm_row le htr htot t b hf
  exact ⟨b.2.1, b.2.2, by rw [hb, ← h1], h2, h3, h4⟩

example : wedgeEm (fun (a b : Int) => decide (a ≤ b)) [(7, [3, -5, 9]), (2, [4])] = some [(7, -5, 9), (2, 4, 4)] := by decide +kernel

theorem colIdx_spec (m : Mdoc) (k : Str) (i : Nat) (h : colIdx m k = some i) : m.cols[i]? = some k := by
  unfold colIdx at h
  by_cases hlt : m.cols.idxOf k < m.cols.length
  · simp only [hlt, if_true, Option.some.injEq] at h
    subst h
    rw [List.getElem?_eq_getElem hlt]
    exact congrArg some (List.getElem_idxOf hlt)
  · simp [hlt] at h

/-- **mdoc dose = prior + exposure dose**, per image, in ascending-tilt order (the order `tlt_load` returns
the angles of the same file in): entry `i` is `ExposureDose + PriorRecordDose` of the `i`-th image of the
sorted table, both read as numbers -/
theorem mdoc_dose (m : Mdoc) (ds : List Rat) (h : mdocDose m = some ds) :
    ∃ e p, m.cols[e]? = some Gen.C17.exposureKey ∧ m.cols[p]? = some Gen.C17.priorKey ∧
      ds.length = m.rows.length ∧
      ∀ (i : Nat) (r : Row), (sortByTilt false m).rows[i]? = some r →
        ∃ a b, r.numAt e = some a ∧ r.numAt p = some b ∧ ds[i]? = some (a + b) := by
  unfold mdocDose at h
  split at h
  · rename_i e p he hp
    obtain ⟨hlen, hget⟩ := Lists.mapM_some_spec _ _ ds h
    refine ⟨e, p, colIdx_spec m _ e he, colIdx_spec m _ p hp, by rw [hlen]; exact (sort_perm m).length_eq, fun i r hr => ?_⟩
    obtain ⟨d, hd, hf⟩ := hget i r hr
    split at hf
    · rename_i a b ha hb
      simp only [dose_keys_documented.2.2, if_true, Option.some.injEq] at hf
      exact ⟨a, b, ha, hb, by rw [hd, hf]⟩
    · cases hf
  · cases h

/-- `tlt_load(<mdoc>)`: the TiltAngle column, ascending -/
theorem mdoc_tilts_sorted (m : Mdoc) : (mdocTilts true m).Pairwise (· ≤ ·) ∧ (mdocTilts true m).Perm (mdocTilts false m) := by
  constructor
  · simp only [mdocTilts, if_true]
    exact Lists.pairwise_mergeSort_key (fun a : Rat => a) _
  · simp only [mdocTilts, if_true]
    exact List.mergeSort_perm _ _

/-- **which values round trip**: an int, a text the reader itself would produce, and a float outside the
exponent-form class (`stableVal`) is typed back from its printed form as exactly itself -/
theorem stable_of_plain (v : Val) (h : stableVal v = true) : classify v.fmt = v := classify_fmt v h

/-- a TiltAngle cell (float64 column; negative angles pass through the text branch of `_format_value`) -/
theorem tilt_cell_roundtrip (v : Val) (h : stableTilt v = true) : toTilt (classify v.fmt) = some v := toTilt_classify_fmt v h

/-- **the class that does not round trip, exactly** (known finding C17-K1): every canonical float with
`x ≥ 1e16` or `0 < x < 1e-4` is written in exponent form and comes back as that text, not as a float -/
theorem unstable_class_reads_as_text (i f : Str) (hi : canonI i = true) (hf : canonF f = true) (he : expClass i f = true) :
    classify (Val.flt i f).fmt = .text (pyRepr i f) ∧ classify (Val.flt i f).fmt ≠ .flt i f := by
  have := exp_reads_as_text i f hi hf he
  exact ⟨this, by simp only [Val.fmt]; rw [this]; intro e; cases e⟩

/-- closed witness: `0.00001` is read as the float 1e-05, written as `1e-05`, re-read as the text `1e-05` -/
theorem small_float_not_stable :
    classify ['0', '.', '0', '0', '0', '0', '1'] = .flt ['0'] ['0', '0', '0', '0', '1'] ∧
    classify (classify ['0', '.', '0', '0', '0', '0', '1']).fmt = .text ['1', 'e', '-', '0', '5'] :=
  ⟨small_float_counterexample.2, small_float_counterexample.1⟩

/-- a written `key = value` line reads back as that key and that value -/
theorem kv_line_roundtrip (k : Str) (v : Val) (hk : goodKey k = true) (hv : stableVal v = true) :
    parseKV (printKV k v) = some (k, v) := parseKV_printKV k v hk hv

/-- **mdoc round trip and omission of removed images, in one statement.** For every well-formed Mdoc object
(any number of header entries, titles, columns and images; `WF` = keys, titles and values are what the reader
produces for files of the grammar, floats outside the exponent-form class) and both values of
`write(removed=…)`: reading the written lines gives the same header entries, titles, section id and
columns, and exactly the written images (all of them for `removed=True`, the kept ones for
`removed=False`) with equal section values and cells, in order, flags cleared. -/
theorem mdoc_roundtrip (m : Mdoc) (wr : Bool) (h : WF m) (hne : m.rows.filter (written wr) ≠ []) :
    parseMdoc (printMdoc wr m)
      = some { m with rows := (m.rows.filter (written wr)).map (fun r => { r with removed := false }) } := by
  unfold printMdoc
  exact parse_print m h _ (fun r hr => (List.mem_filter.1 hr).1) hne

/-- `write(removed=True)` then read: the same header entries and the same per-image table -/
theorem mdoc_roundtrip_all (m : Mdoc) (h : WF m) (hne : m.rows ≠ []) :
    parseMdoc (printMdoc true m) = some { m with rows := m.rows.map (fun r => { r with removed := false }) } := by
  have := mdoc_roundtrip m true h (by rw [write_all]; exact hne)
  rw [write_all] at this; exact this

/-- `write()` then read: exactly the kept images -/
theorem written_file_has_kept_images (m : Mdoc) (h : WF m) (hne : keptImages m ≠ []) :
    parseMdoc (printMdoc false m) = some { m with rows := (keptImages m).map (fun r => { r with removed := false }) } := by
  have := mdoc_roundtrip m false h (by rw [filter_written_false]; exact hne)
  rw [filter_written_false] at this; exact this

/-- non-vacuity: a two-image object with a negative tilt, int / float / text cells, a header entry, a title
and one removed image is well-formed, and the theorem's conclusion is checked by evaluation on it -/
def m₀ : Mdoc :=
  { info := [("Voltage".toList, .int "300".toList), ("PixelSpacing".toList, .flt "1".toList "971".toList), ("ImageSize".toList, .text "4096 4096".toList)],
    titles := ["T = SerialEM: x".toList],
    sid := zvalue,
    cols := ["TiltAngle".toList, "Defocus".toList, "SubFramePath".toList, "Binning".toList],
    rows := [{ z := "0".toList, cells := [.tilt true "52".toList "0064".toList, .flt "2".toList "25".toList, .text "a_01.mrc".toList, .int "1".toList], removed := true },
             { z := "1".toList, cells := [.tilt false "3".toList "0".toList, .text "-1.5".toList, .text "X:\\f 2.tif".toList, .int "1".toList], removed := false }] }

theorem wfb_m₀ : wfb m₀ = true := by
  -- the kernel decodes a string literal through its UTF-8 bytes, quadratically in its length: rewrite the
  -- literals to lists of characters first (the evaluation itself is unchanged)
  unfold m₀
  repeat rw [String.toList_ofList]
  decide +kernel

example : WF m₀ := wf_of_wfb m₀ wfb_m₀

example : parseMdoc (printMdoc false m₀) = some { m₀ with rows := [{ (m₀.rows[1]!) with removed := false }] } := by
  unfold m₀
  repeat rw [String.toList_ofList]
  decide +kernel

/-- **the property as stated, for a file cryoCAT has read**: if `lines` is read into `m` and `m` passes the
executable well-formedness test `wfb` (run by the driver on every generated file; it fails exactly when a value
is outside the stable class, e.g. a float of the exponent-form class), then writing `m` and reading the
result gives `m` again — same header entries, same per-image table -/
theorem read_write_read (lines : List Str) (m : Mdoc) (hp : parseMdoc lines = some m) (hw : wfb m = true) :
    parseMdoc (printMdoc true m) = some m := by
  obtain ⟨hne, hfresh⟩ := parse_rows_fresh lines m hp
  -- clearing the flags of a freshly read table changes nothing
  have : m.rows.map (fun r => { r with removed := false }) = m.rows :=
    (List.map_congr_left fun r hr => show _ = id r by rw [← hfresh r hr]; rfl).trans (List.map_id _)
  rw [mdoc_roundtrip_all m (wf_of_wfb m hw) hne, this]

example : wfb m₀ = true := wfb_m₀

/-- **the class is exact**: for a text the reader accepts, membership in `textOk` is *equivalent* to the well-formedness of
the object read — no larger class of texts yields well-formed objects -/
theorem text_class_exact (lines : List Str) (m : Mdoc) (hp : parseMdoc lines = some m) : textOk lines = true ↔ wfb m = true := by
  obtain ⟨first, rest, s0, secs, hd, hs, hh, hg, hcols, hcont, hm⟩ := parseMdoc_some lines m hp
  obtain ⟨hn, hhead⟩ := parseHeader_wf _ _ _ hh
  obtain ⟨r0, rs, hr0, _, hrows⟩ := (Lists.mapM_cons_some _ s0 secs m.rows).1 hm
  obtain ⟨hsid, hpre⟩ := secStart_some first m.sid hs
  obtain ⟨hnb, hdata⟩ := secGo_tails m.sid first rest (bracket_of_prefix m.sid first hpre)
  rw [hg] at hnb hdata
  have hrow := Lists.mapM_forall_iff (mkRow m.cols) (fun sec => ∀ l ∈ sec.drop 1, dataLineOk l = true)
    (fun r => goodRow m.cols r = true ∧ ∀ k ∈ m.cols, goodKey k = true) _ _ hm
    (fun sec hsec r hr => (mkRow_wf m.cols sec r hr (hnb sec hsec)).2)
  have hnd := (mkRow_wf m.cols s0 r0 hr0 (hnb s0 List.mem_cons_self)).1
  simp only [textOk, wfb, Bool.and_eq_true, List.all_eq_true, decide_eq_true_eq, Bool.or_eq_true, beq_iff_eq]
  rw [hd, hhead, hdata, hrow]
  constructor
  · rintro ⟨⟨ht, hi⟩, hr⟩
    exact ⟨⟨⟨⟨⟨⟨⟨hi, hn⟩, ht⟩, hsid⟩, (hr r0 (hrows ▸ List.mem_cons_self)).2⟩, hnd⟩, hcont⟩,
      fun r hr' => (hr r hr').1⟩
  · rintro ⟨⟨⟨⟨⟨⟨⟨hi, _⟩, ht⟩, _⟩, hk⟩, _⟩, _⟩, hr⟩
    exact ⟨⟨ht, hi⟩, fun r hr' => ⟨hr r hr', hk⟩⟩

/-- For every text of the class `textOk` — decided line by line, without running the reader: every
header title survives bracket stripping, every `key = value` line has a non-empty key that does not begin with '[' and a
value that is not a float of the exponent-form class (C17-K1; for `TiltAngle`: after the conversion to float) — whatever
`_read_mdoc` returns is a well-formed object. No per-case evaluation of `wfb` is needed. -/
theorem parse_wf (lines : List Str) (m : Mdoc) (hp : parseMdoc lines = some m) (hok : textOk lines = true) :
    wfb m = true ∧ WF m :=
  have h := (text_class_exact lines m hp).1 hok
  ⟨h, wf_of_wfb m h⟩

/-- **read ∘ write ∘ read = read, unconditionally on the class**: an mdoc text of the class that cryoCAT can read at all is
read, written (all images) and re-read to the same header entries and the same per-image table -/
theorem read_write_read_text (lines : List Str) (m : Mdoc) (hp : parseMdoc lines = some m) (hok : textOk lines = true) :
    parseMdoc (printMdoc true m) = some m :=
  read_write_read lines m hp (parse_wf lines m hp hok).1

/-- … and the written text is a fixed point of write ∘ read: a second round trip reproduces the file character by character -/
theorem write_read_write_text (lines : List Str) (m : Mdoc) (hp : parseMdoc lines = some m) (hok : textOk lines = true) :
    (parseMdoc (printMdoc true m)).map (printMdoc true) = some (printMdoc true m) := by
  rw [read_write_read_text lines m hp hok]; rfl

/-- **the whole property for a text of the class, in one statement**: read it, apply any sequence of `sort_by_tilt` and
`remove_images` calls that does not raise, write with `removed=False`, read the result — the header entries, titles and
columns are those of the first read, and the table holds exactly the kept images of the final object (cells and section
values unchanged, flags cleared) -/
theorem text_ops_write_read (lines : List Str) (m m' : Mdoc) (ops : List Op) (hp : parseMdoc lines = some m)
    (hok : textOk lines = true) (ha : applyOps ops m = some m') (hne : keptImages m' ≠ []) :
    parseMdoc (printMdoc false m') = some { m' with rows := (keptImages m').map (fun r => { r with removed := false }) } :=
  written_file_has_kept_images m' (wf_applyOps ops m m' (parse_wf lines m hp hok).2 ha) hne

/-- a value line of the class is typed into a value that is stable, whatever the raw spelling (leading zeros, `.5`, `5.`,
blanks, negative numbers and other text) -/
theorem typed_value_stable (raw : Str) (hne : '=' ∉ raw) (hp : plainVal (classify raw) = true) :
    classify (classify raw).fmt = classify raw :=
  stable_of_plain _ ((stableVal_classify raw hne).trans hp)

/-- non-vacuity: a text with blanks around '=', leading zeros, a negative tilt, a title and a text value is in the class,
is read, and the theorem's conclusion holds on it by evaluation -/
def t₀ : List Str :=
  ["PixelSpacing = 1.9710".toList, "Voltage=300".toList, "Empty = ".toList, "".toList, "[T = SerialEM: x]".toList, "".toList,
   "[ZValue = 00]".toList, "TiltAngle = -052.0064".toList, "SubFramePath = X:\\f 1.tif".toList, "Dose  =  .5".toList, "".toList,
   "[ZValue = 1]".toList, "TiltAngle = 3".toList, "SubFramePath = a.tif".toList, "Dose = 7.".toList]

example : textOk t₀ = true := by
  unfold t₀
  repeat rw [String.toList_ofList]
  decide +kernel
example : (parseMdoc t₀).isSome = true := by
  unfold t₀
  repeat rw [String.toList_ofList]
  decide +kernel
example : (parseMdoc t₀).bind (fun m => parseMdoc (printMdoc true m)) = parseMdoc t₀ := by
  unfold t₀
  repeat rw [String.toList_ofList]
  decide +kernel
/-- outside the class: a float of the exponent-form class, a key beginning with '[' -/
example : textOk ["[ZValue = 0]".toList, "TiltAngle = 1".toList, "Dose = 0.00001".toList] = false := by
  repeat rw [String.toList_ofList]
  decide +kernel
example : textOk ["[ZValue = 0]".toList, "TiltAngle = 1".toList, " [ZValue = 2".toList] = false := by
  repeat rw [String.toList_ofList]
  decide +kernel

/-! ### the wedge list through a STAR file (relative to the round-trip property C02 of the STAR layer) -/

/-- the STAR block name and column numbering the wedge list is written with; `wedge_list_sg_to_em` groups by `tomo_num` -/
theorem wedge_star_documented : Gen.C17.wedgeSpecifier = "data_stopgap_wedgelist" ∧ Gen.C17.wedgeNumberColumns = false ∧
    Gen.C17.sgToEmGroupAgg = ["tomo_num", "tilt_angle", "min", "max"] := ⟨rfl, rfl, rfl⟩

/-- the columns of the written table: the documented list without `defocus` / `exposure` when no row carries one -/
theorem wedge_table_columns {α : Type} (rows : List (WedgeRow α)) (hne : rows ≠ []) :
    (sgTable rows).cols = wedgeHeader (rows.any (fun r => r.defocus.isSome)) (rows.any (fun r => r.exposure.isSome)) ∧
    (sgTable rows).rows.length = rows.length := ⟨sgTable_cols rows hne, by simp [sgTable]⟩

/-- the table is readable row by row also when some tomograms have no CTF / dose input (NaN cells), for any conversion `q` -/
theorem wedge_table_rows {α β : Type} (q : α → β) (rows : List (WedgeRow α)) :
    loadSg ((sgTable rows).mapCells q) = some (rows.map (WedgeRow.map q)) := by
  unfold loadSg StarTable.mapCells
  simp only
  have : (sgTable rows).rows = rows.map (fun r => (sgTable rows).cols.map r.cellOf) := rfl
  rw [this, List.map_map]
  exact Lists.mapM_map_some _ _ rows (WedgeRow.map q) (fun r hr => loadSgRow_sgTable q rows r hr)

/-- For every STAR layer that round-trips well-formed tables (`q` = its number conversion), every
batch of tomograms with a CTF input for all or none and a dose input for all or none: the wedge list written by
`create_wedge_list_sg_batch(output_file=…)` has the documented columns (one table row per tilt per tomogram), and
`load_wedge_list_sg` of that file gives the same rows in the same order, every number through `q`, the tomogram number
unchanged. -/
theorem wedge_via_file {α β F : Type} (q : α → β) (write : String → StarTable α → F) (read : F → Option (StarTable β))
    (hstar : StarRoundTrip q write read) (c : Consts α) (ts : List (Tomo α)) (rows : List (WedgeRow α))
    (h : wedgeBatch c ts = some rows) (hne : rows ≠ []) (hasCtf hasDose : Bool)
    (huni : ∀ t ∈ ts, t.defocus.isSome = hasCtf ∧ t.dose.isSome = hasDose) :
    (sgTable rows).cols = wedgeHeader hasCtf hasDose ∧
    (read (write Gen.C17.wedgeSpecifier (sgTable rows))).bind loadSg = some (rows.map (WedgeRow.map q)) := by
  have hflags := wedgeBatch_flags c ts rows h
  have hd : ∀ r ∈ rows, r.defocus.isSome = hasCtf := fun r hr => by
    obtain ⟨t, ht, h1, _⟩ := hflags r hr; rw [h1]; exact (huni t ht).1
  have he : ∀ r ∈ rows, r.exposure.isSome = hasDose := fun r hr => by
    obtain ⟨t, ht, _, h2⟩ := hflags r hr; rw [h2]; exact (huni t ht).2
  constructor
  · rw [sgTable_cols rows hne, any_eq_of_forall _ _ rows hne hd, any_eq_of_forall _ _ rows hne he]
  · rw [hstar _ _ (sgTable_starWF rows hne hasCtf hasDose hd he)]
    exact wedge_table_rows q rows

/-- **sg_to_em grouping.** `wedge_list_sg_to_em` never fails on a wedge list and returns **one EM row per tomogram**:
the tomogram numbers strictly ascending (so duplicates — also interleaved ones — are merged), exactly the numbers that
occur in the list; each row's minimum and maximum are tilt angles of that tomogram's rows and bound all of them. -/
theorem sg_to_em_groups {α : Type} (le : α → α → Bool) (htr : ∀ a b c, le a b = true → le b c = true → le a c = true)
    (htot : ∀ a b, (le a b || le b a) = true) (rows : List (Int × α)) :
    ∃ out, sgToEm le rows = some out ∧
      (out.map (·.1)).Pairwise (· < ·) ∧ (∀ k, k ∈ out.map (·.1) ↔ k ∈ rows.map (·.1)) ∧
      ∀ e ∈ out, (e.1, e.2.1) ∈ rows ∧ (e.1, e.2.2) ∈ rows ∧ ∀ x, (e.1, x) ∈ rows → le e.2.1 x = true ∧ le x e.2.2 = true := by
  have hkeys := groupKeys_spec (rows.map (·.1))
  -- the group of `k`: the values paired with `k`
  have mem_grp : ∀ (k : Int) x, x ∈ (rows.filter (fun r => r.1 == k)).map (·.2) ↔ (k, x) ∈ rows := by
    intro k x
    simp only [List.mem_map, List.mem_filter, beq_iff_eq]
    exact ⟨by rintro ⟨r, ⟨hr, rfl⟩, rfl⟩; exact hr, fun hx => ⟨_, ⟨hx, rfl⟩, rfl⟩⟩
  have hnonempty : ∀ t ∈ (groupKeys (rows.map (·.1))).map (fun k => (k, (rows.filter (fun r => r.1 == k)).map (·.2))), t.2 ≠ [] := by
    intro t ht
    obtain ⟨k, hk, rfl⟩ := List.mem_map.1 ht
    obtain ⟨r, hr, rfl⟩ := List.mem_map.1 ((hkeys.2 k).1 hk)
    exact List.ne_nil_of_mem ((mem_grp r.1 r.2).2 hr)
  obtain ⟨out, ho⟩ := wedgeEm_some le _ hnonempty
  have hfst : out.map (·.1) = groupKeys (rows.map (·.1)) := by
    rw [Lists.mapM_map_eq _ (·.1) (·.1) (fun t e he => (wedgeEm_row le htr htot t e he).1) _ out ho, List.map_map]
    exact List.map_id _
  refine ⟨out, ho, hfst ▸ hkeys.1, fun k => hfst ▸ hkeys.2 k, fun e he => ?_⟩
  obtain ⟨t, ht, hte⟩ := Lists.mapM_mem _ _ out ho e he
  obtain ⟨k, _, rfl⟩ := List.mem_map.1 ht
  obtain ⟨h1, hlo, hhi, hb⟩ := wedgeEm_row le htr htot _ e hte
  rw [h1]
  exact ⟨(mem_grp k _).1 hlo, (mem_grp k _).1 hhi, fun x hx => hb x ((mem_grp k x).2 hx)⟩

/-- the order hypotheses are met by `≤` on the integers (the driver uses `≤` on `Rat`): interleaved duplicates of 7 and 2 -/
example : ∃ out, sgToEm (fun (a b : Int) => decide (a ≤ b)) [(7, 3), (2, 4), (7, -5), (2, 1), (7, 9)] = some out ∧
    (out.map (·.1)).Pairwise (· < ·) :=
  let ⟨out, h1, h2, _⟩ := sg_to_em_groups (fun (a b : Int) => decide (a ≤ b))
    (fun a b c hab hbc => by simp only [decide_eq_true_eq] at *; omega)
    (fun a b => by simp only [Bool.or_eq_true, decide_eq_true_eq]; omega) [(7, 3), (2, 4), (7, -5), (2, 1), (7, 9)]
  ⟨out, h1, h2⟩

/-- **sg_to_em through the file**: converting the written wedge list gives, for every tomogram of the batch, the minimum and
maximum of its (converted) tilt angles — the grouping theorem applies to `rows.map (tomo_num, q tilt_angle)` -/
theorem sg_to_em_via_file {α β F : Type} (q : α → β) (write : String → StarTable α → F) (read : F → Option (StarTable β))
    (hstar : StarRoundTrip q write read) (le : β → β → Bool) (c : Consts α) (ts : List (Tomo α)) (rows : List (WedgeRow α))
    (h : wedgeBatch c ts = some rows) (hne : rows ≠ []) (hasCtf hasDose : Bool)
    (huni : ∀ t ∈ ts, t.defocus.isSome = hasCtf ∧ t.dose.isSome = hasDose) :
    (read (write Gen.C17.wedgeSpecifier (sgTable rows))).bind (sgToEmFile le)
      = sgToEm le (rows.map (fun r => (r.tomoNum, q r.tiltAngle))) := by
  have hv := (wedge_via_file q write read hstar c ts rows h hne hasCtf hasDose huni).2
  cases hr : read (write Gen.C17.wedgeSpecifier (sgTable rows)) with
  | none => rw [hr] at hv; cases hv
  | some t =>
    rw [hr] at hv
    simp only [Option.bind_some] at hv ⊢
    simp only [sgToEmFile, hv, Option.bind_some, List.map_map]
    rfl

/-! ### loaders return the numbers in their files: the text → number step is inside the model -/

/-- The driver receives the decimal TOKENS of the tilt / dose / gctf / ctffind4 files (and of the dimension,
z-shift and constant arguments) as text and turns them into exact rationals with `parseDecimal`. On the class of tokens the generators
write — an optional '-', a non-empty digit string, optionally '.' and a digit string (`printDecimal`) — the parser returns exactly the
rational `±i.f` those digits denote (`decVal`, the value the mdoc model computes with): the parser inverts the printer, for every sign
and all digit strings (leading / trailing zeros and integers included; `printDecimal` prints no bare `5.` or `.5` — those spellings, `+`
and exponents are read by the parser too, but only shown on the examples below, not covered by this theorem). The implementation's number is then required to be the
binary float NEAREST to this rational (float32 / float64), compared exactly by the harness (`_nearest`, probed against `float()` and
`numpy.float32` on every run) — the rounding itself is the one step left outside Lean. -/
theorem parse_print_decimal (neg : Bool) (i f : Str) (hi : allDigits i = true) (hf : ∀ c ∈ f, c.isDigit = true) :
    parseDecimal (printDecimal neg i f) = some (decVal neg i f) := by
  obtain ⟨hine, hid⟩ := (allDigits_iff i).1 hi
  have hbody : ∀ c ∈ i ++ (if f.isEmpty then [] else '.' :: f), (c == 'e' || c == 'E') = false := by
    intro c hc
    rcases List.mem_append.1 hc with h | h
    · exact digit_not_exp c (hid c h)
    · split at h
      · cases h
      · rcases List.mem_cons.1 h with rfl | h
        · decide
        · exact digit_not_exp c (hf c h)
  have hu := uDec_print i f hi hf
  cases i with
  | nil => exact absurd rfl hine
  | cons d cs =>
    rw [printDecimal, List.append_assoc]
    exact parseDecimal_plain neg d _ _ (hid d (by simp)) hbody hu

/-- non-vacuity and the forms beyond the printer's class that Python's `float()` reads as well: `+`, `.5`, `5.`, exponents; what is no
decimal literal is refused -/
example : parseDecimal "-12.50".toList = some (-25 / 2) ∧ parseDecimal "007".toList = some 7 ∧ parseDecimal "+.5e1".toList = some 5 ∧
    parseDecimal "5.".toList = some 5 ∧ parseDecimal "1e-3".toList = some (1 / 1000) ∧ parseDecimal "2.5E+2".toList = some 250 ∧
    parseDecimal ".".toList = none ∧ parseDecimal "nan".toList = none ∧ parseDecimal "1_0".toList = none ∧ parseDecimal "".toList = none ∧
    printDecimal true "12".toList "50".toList = "-12.50".toList ∧ decVal true "12".toList "50".toList = -25 / 2 := by
  repeat rw [String.toList_ofList]
  decide +kernel

/-- the dispatch tables of `tlt_load`, `total_dose_load` and `defocus_load`, re-extracted from the source (`total_dose_load` takes a
tuple like a list since fix fb2f9e8: second entry of its type chain `(list, tuple)`) -/
theorem loader_dispatch_documented :
    Gen.C17.tltTypeChain = ["np.ndarray", "list", "str"] ∧
    Gen.C17.tltDispatch = [(['.', 'm', 'd', 'o', 'c'], "mdoc.Mdoc"), (['.', 'x', 'm', 'l'], "get_data_from_warp_xml")] ∧
    Gen.C17.tltDefault = "one_value_per_line_read" ∧
    Gen.C17.tltReturns = [("np.ndarray", "input_tlt"), ("list", "np.asarray(input_tlt)")] ∧ Gen.C17.tltSortsFilesOnly = true ∧
    Gen.C17.doseTypeChain = ["np.ndarray", "(list, tuple)", "str"] ∧
    Gen.C17.doseDispatch = [(['.', 'c', 's', 'v'], "pd.read_csv"), (['.', 'm', 'd', 'o', 'c'], "mdoc.Mdoc"), (['.', 'x', 'm', 'l'], "get_data_from_warp_xml")] ∧
    Gen.C17.doseDefault = "one_value_per_line_read" ∧
    Gen.C17.doseReturns = [("np.ndarray", "input_dose"), ("(list, tuple)", "np.asarray(input_dose)")] ∧ Gen.C17.doseSortsMdocByDefault = true ∧
    Gen.C17.defocusTypeChain = ["pd.DataFrame", "str"] ∧
    Gen.C17.defocusDispatch = [("gctf", "gctf_read"), ("ctffind4", "ctffind4_read"), ("warp", "warp_ctf_read")] ∧
    Gen.C17.defocusLowers = true ∧
    Gen.C17.defocusArrayColumns = ["defocus1", "defocus2", "astigmatism", "phase_shift", "defocus_mean"] := ⟨rfl, rfl, rfl, rfl, rfl, rfl, rfl, rfl, rfl, rfl, rfl, rfl, rfl, rfl⟩

/-- `.mdoc` paths go to the mdoc reader, in both loaders -/
theorem mdoc_extension (path : List Char) (h : endsWith path ['.', 'm', 'd', 'o', 'c'] = true) :
    dispatch Gen.C17.tltDispatch Gen.C17.tltDefault path = "mdoc.Mdoc" ∧
    (endsWith path ['.', 'c', 's', 'v'] = false → dispatch Gen.C17.doseDispatch Gen.C17.doseDefault path = "mdoc.Mdoc") := by
  constructor
  · simp [dispatch, Gen.C17.tltDispatch, h]
  · intro h2; simp [dispatch, Gen.C17.doseDispatch, List.find?, h, h2]

/-- every other extension that is not `.xml` (resp. `.csv`) — `.tlt`, `.rawtlt`, `.txt`, none at all — goes to `one_value_per_line_read` -/
theorem default_extension (path : List Char) (h1 : endsWith path ['.', 'm', 'd', 'o', 'c'] = false) (h2 : endsWith path ['.', 'x', 'm', 'l'] = false) :
    dispatch Gen.C17.tltDispatch Gen.C17.tltDefault path = "one_value_per_line_read" ∧
    (endsWith path ['.', 'c', 's', 'v'] = false → dispatch Gen.C17.doseDispatch Gen.C17.doseDefault path = "one_value_per_line_read") := by
  constructor
  · simp [dispatch, Gen.C17.tltDispatch, Gen.C17.tltDefault, List.find?, h1, h2]
  · intro h3; simp [dispatch, Gen.C17.doseDispatch, Gen.C17.doseDefault, List.find?, h1, h2, h3]

example : dispatch Gen.C17.tltDispatch Gen.C17.tltDefault "TS_01/017.rawtlt".toList = "one_value_per_line_read" ∧
    dispatch Gen.C17.tltDispatch Gen.C17.tltDefault "a.tlt".toList = "one_value_per_line_read" ∧
    dispatch Gen.C17.tltDispatch Gen.C17.tltDefault "a.mdoc.txt".toList = "one_value_per_line_read" ∧
    dispatch Gen.C17.tltDispatch Gen.C17.tltDefault "TS_01.mrc.mdoc".toList = "mdoc.Mdoc" ∧
    dispatch Gen.C17.doseDispatch Gen.C17.doseDefault "dose.txt".toList = "one_value_per_line_read" := by
  repeat rw [String.toList_ofList]
  decide +kernel

/-- (definitional anchor, four `rfl`s: restates the array / list branches of the MODEL `tltLoadIn`; that the real `tlt_load` returns arrays
and lists as given is carried by the translator obligation `loader_dispatch_documented` (tltReturns) and the correspondence clauses
`loader-values` / `tlt-array-input`) `tlt_load`: arrays and lists are returned as given — in the given order, not sorted — and an empty
one raises -/
theorem tlt_array_as_given {α : Type} (le : α → α → Bool) (s : Bool) (xs : List α) (hne : xs ≠ []) :
    tltLoadIn le s (.array xs) = some xs ∧ tltLoadIn le s (.list xs) = some xs ∧
    tltLoadIn le s (.array ([] : List α)) = none ∧ tltLoadIn le s (.list ([] : List α)) = none := by
  cases xs with
  | nil => exact absurd rfl hne
  | cons x xs => exact ⟨rfl, rfl, rfl, rfl⟩

/-- **`tlt_load(path)`**: whatever reader the extension selects, the result is a permutation of what that reader returns,
ascending when `sort_angles` (default) -/
theorem tlt_file_sorted {α : Type} (le : α → α → Bool) (htr : ∀ a b c, le a b = true → le b c = true → le a c = true)
    (htot : ∀ a b, (le a b || le b a) = true) (path : List Char) (v : FileViews α) (out : List α)
    (h : tltLoadIn le true (.file path v) = some out) :
    out.Pairwise (fun a b => le a b = true) ∧
    ∃ raw, readByExt Gen.C17.tltDispatch Gen.C17.tltDefault path v = some raw ∧ out.Perm raw := by
  simp only [tltLoadIn, loader_dispatch_documented.2.2.2.2.1, Bool.and_self] at h
  cases hr : readByExt Gen.C17.tltDispatch Gen.C17.tltDefault path v with
  | none => simp [hr] at h
  | some raw =>
    simp only [hr, Option.map_some, Option.some.injEq] at h
    subst h
    exact ⟨by simpa [tltLoad] using List.pairwise_mergeSort htr htot raw, raw, rfl, tlt_perm le true raw⟩

/-- an `.mdoc` path yields the mdoc's TiltAngle column, any other non-xml path the numbers of the file; an empty file raises -/
theorem tlt_file_reader {α : Type} (le : α → α → Bool) (s : Bool) (path : List Char) (v : FileViews α) :
    (endsWith path ['.', 'm', 'd', 'o', 'c'] = true → tltLoadIn le s (.file path v) = v.mdoc.map (tltLoad le s)) ∧
    (endsWith path ['.', 'm', 'd', 'o', 'c'] = false → endsWith path ['.', 'x', 'm', 'l'] = false →
      tltLoadIn le s (.file path v) = (oneValuePerLine v).map (tltLoad le s)) := by
  constructor
  · intro h
    simp [tltLoadIn, readByExt, (mdoc_extension path h).1, loader_dispatch_documented.2.2.2.2.1]
  · intro h1 h2
    simp [tltLoadIn, readByExt, (default_extension path h1 h2).1, loader_dispatch_documented.2.2.2.2.1]

/-- `total_dose_load`: (first two conjuncts: definitional anchors, `rfl`) arrays and lists as given; (proved from the regenerated dispatch
table) an `.mdoc` path yields the mdoc dose (prior + exposure, theorem `mdoc_dose`), any other path that is not `.csv` / `.xml` the numbers
of the file in file order -/
theorem dose_input_dispatch {α : Type} (xs : List α) (path : List Char) (v : FileViews α) :
    doseLoadIn (.array xs) = some xs ∧ doseLoadIn (.list xs) = some xs ∧
    (endsWith path ['.', 'c', 's', 'v'] = false → endsWith path ['.', 'm', 'd', 'o', 'c'] = true → doseLoadIn (.file path v) = v.mdoc) ∧
    (endsWith path ['.', 'c', 's', 'v'] = false → endsWith path ['.', 'm', 'd', 'o', 'c'] = false → endsWith path ['.', 'x', 'm', 'l'] = false →
      doseLoadIn (.file path v) = oneValuePerLine v) := by
  have hid : (doseLoad : List α → List α) = id := rfl
  refine ⟨rfl, rfl, ?_, ?_⟩
  · intro h0 h
    simp [doseLoadIn, readByExt, (mdoc_extension path h).2 h0, hid]
  · intro h0 h1 h2
    simp [doseLoadIn, readByExt, (default_extension path h1 h2).2 h0, hid]

/-- `defocus_load` (first conjunct: definitional anchor, `rfl`; the others are proved from the regenerated dispatch table): a DataFrame is
returned as is; an N×5 array becomes the five documented columns row by row (any other
width raises); a path is sent to the reader named by `file_type`, compared case-insensitively; an unknown type raises -/
theorem defocus_input_dispatch {K : Type} [_root_.Field K] (fG fC d : K) (rows : List (Defocus K))
    (g : Option (List (K × K × K × Option K))) (c : Option (List (K × K × K × K))) (ft : String) :
    defocusLoadIn fG fC d (.frame rows) = some rows ∧
    (asciiLower ft = "gctf" → defocusLoadIn fG fC d (.file ft g c) = g.map (gctfRead fG d)) ∧
    (asciiLower ft = "ctffind4" → defocusLoadIn fG fC d (.file ft g c) = c.map (ctffindRead fC d)) ∧
    (Gen.C17.defocusDispatch.lookup (asciiLower ft) = none → defocusLoadIn fG fC d (.file ft g c) = none) := by
  refine ⟨rfl, ?_, ?_, ?_⟩
  · intro h
    simp [defocusLoadIn, defocusReader, Gen.C17.defocusLowers, Gen.C17.defocusDispatch, h]
  · intro h
    simp [defocusLoadIn, defocusReader, Gen.C17.defocusLowers, Gen.C17.defocusDispatch, h, List.lookup]
  · intro h
    simp [defocusLoadIn, defocusReader, Gen.C17.defocusLowers, h]

theorem defocus_array_rows {K : Type} [_root_.Field K] (fG fC d : K) (rows : List (List K)) (out : List (Defocus K))
    (h : defocusLoadIn fG fC d (.array rows) = some out) :
    out.length = rows.length ∧ ∀ (i : Nat) (r : List K), rows[i]? = some r →
      ∃ o, out[i]? = some o ∧ r = [o.defocus1, o.defocus2, o.astigmatism, o.phaseShift, o.defocusMean] := by
  obtain ⟨hlen, hget⟩ := Lists.mapM_some_spec _ rows out h
  refine ⟨hlen, ?_⟩
  intro i r hr
  obtain ⟨o, ho, hf⟩ := hget i r hr
  refine ⟨o, ho, ?_⟩
  match r, hf with
  | [a, b, c, d', e], hf =>
    simp only [Option.some.injEq] at hf
    subst hf; rfl

example : asciiLower "GCTF" = "gctf" ∧ asciiLower "CtfFind4" = "ctffind4" ∧ defocusReader "relion" = none ∧
    defocusReader "Warp" = some "warp_ctf_read" := by decide +kernel

/-- float32 is the `data_type` default of `one_value_per_line_read` (pinned here; the oracle compares the loaders' numbers with the
numbers of the file within rel. 2e-6, whatever the float width) -/
theorem one_value_dtype_documented : Gen.C17.oneValueDtype = "np.float32" := rfl

/-- `gctf_read` selects its columns by an explicit NAME list (U, V, angle, phase shift — the order of the result, not of the
file) and scales positions 0 and 1 of that selection -/
theorem gctf_columns_documented : Gen.C17.gctfColumns = ["rlnDefocusU", "rlnDefocusV", "rlnDefocusAngle", "rlnPhaseShift"] ∧
    Gen.C17.gctfPhaseColumn = "rlnPhaseShift" ∧ Gen.C17.gctfScaleLo = 0 ∧ Gen.C17.gctfScaleHi = 2 := ⟨rfl, rfl, rfl, rfl⟩

/-- `indices_load` builds a new array for the 1-based → 0-based shift (`x = x - 1`), counts from 1 by default -/
theorem indices_load_documented : Gen.C17.indicesShiftPure = true ∧ Gen.C17.indicesFrom1Default = true := ⟨rfl, rfl⟩

/-- the signature defaults the statement's operations rely on: `write(removed=False, overwrite=False)`,
`remove_images(kept_only=True)`, `sort_by_tilt(reset_z_value=False)`, `Mdoc(section_id="ZValue")`,
`mdoc.remove_images(numbered_from_1=True)`, `defocus_load(file_type="gctf")`, and in both wedge-list functions
`ctf_file_type="gctf"`, `z_shift=0`, `voltage=300`, `amp_contrast=0.07`, `cs=2.7` -/
theorem defaults_documented : Gen.C17.writeRemovedDefault = false ∧ Gen.C17.writeOverwriteDefault = false ∧
    Gen.C17.removeKeptOnlyDefault = true ∧ Gen.C17.sortResetDefault = false ∧ Gen.C17.mdocSectionIdDefault = "ZValue" ∧
    Gen.C17.scriptFrom1Default = true ∧ Gen.C17.defocusFileTypeDefault = "gctf" ∧
    Gen.C17.sgDefaults = ("gctf", [0, 300, 7 / 100, 27 / 10]) ∧ Gen.C17.batchDefaults = ("gctf", [0, 300, 7 / 100, 27 / 10]) ∧
    Gen.C17.sgDropsNanColumnsByDefault = true ∧ Gen.C17.batchLooksUpByTomoId = true := by decide +kernel

/-- normalised whole-body dumps (docstring dropped, locals renamed to v0, v1, … in binding order, signature included) of the
functions that have branches the correspondence run never executes (`.xml` / `.csv` / warp / DateTime paths, index files) and of
the short helpers of `Mdoc`: an added, removed or edited statement changes the digest; renaming a local does not -/
theorem body_digests_documented : Gen.C17.bodyDigests = [("ioutils.py:tlt_load", "f1a813181975bb3b"), ("ioutils.py:total_dose_load", "c988f324f390f9a5"), ("ioutils.py:defocus_load", "ed98e8f108f7fc82"), ("ioutils.py:indices_load", "911e9762e0258c73"), ("ioutils.py:one_value_per_line_read", "9c168f21992844f6"), ("mdoc.py:Mdoc.__init__", "598807ac4017f061"), ("mdoc.py:Mdoc.remove_image", "bdad76b605305919"), ("mdoc.py:Mdoc.remove_images", "0054452332c8cb73"), ("mdoc.py:Mdoc.kept_images", "60ca13db7754f731"), ("mdoc.py:Mdoc.removed_images", "8c7ce118d7aefa10"), ("mdoc.py:Mdoc.get_image_feature", "748c3b4ab5eed2a2"), ("mdoc.py:remove_images", "3e0771a349297a93"), ("mdoc.py:sort_mdoc_by_tilt_angles", "907075bac05c704b"), ("mdoc.py:get_tilt_angles", "57ad7e985d7ec918"), ("ioutils.py:dimensions_load", "b22362e611223afd"), ("ioutils.py:z_shift_load", "4a1218ad96f3f2b0"), ("ioutils.py:imod_com_read", "6b54cdac51146903"), ("wedgeutils.py:check_data_consistency", "919fffe59226f242"), ("wedgeutils.py:load_wedge_list_sg", "e5c51b4fa75302c9")] := rfl

/-- **the extended reader is conservative**: every text the strict model `parseMdoc` reads is read by `parseMdocX` (which follows
the code on duplicate header keys and on every decimal / exponent TiltAngle spelling) into the same object — so all theorems
about `parseMdoc` speak about what the driver compares the implementation with -/
theorem parse_ext_conservative (lines : List Str) (m : Mdoc) (h : parseMdoc lines = some m) : parseMdocX lines = some m := by
  obtain ⟨first, rest, s0, secs, hd, hs, hh, hg, hcols, hcont, hm⟩ := parseMdoc_some lines m h
  simp only [parseMdocX, hd, hs, parseHeaderX_of_parseHeader _ _ hh, hg, ← hcols, hcont, Bool.not_true, Bool.false_eq_true,
    if_false, Lists.mapM_mono _ _ (mkRowX_of_mkRow m.cols) _ _ hm]

/-- **the theorems transfer to what the driver runs.** The driver reads with `parseMdocX`; on every text of the strict class (driver
field `strict = true`) `parseMdocX` IS `parseMdoc` (`parse_ext_conservative`), so for a text of the class `textOk` the round trip holds
for the driver's reader as well: read, written (all images), re-read with `parseMdocX` — the same object. OUTSIDE the strict class
(`strict = false`: a repeated header key, a `float()`-only tilt spelling such as `+5` / `5e0`, the same keys in another order in a later
section) no round-trip THEOREM applies: there the round trip is judged on the implementation alone (spec clause `mdoc-roundtrip`) and
the model is compared by execution (corr); the theorems about operations (`sort_perm`, `sorted_perm_unique_up_to_ties`,
`remove_flags_only`, `write_omits_removed`, `kept_index_mapping`, `mdoc_dose`) speak about ANY object and hold there unchanged. -/
theorem read_write_read_text_driver (lines : List Str) (m : Mdoc) (hp : parseMdocX lines = some m) (hs : (parseMdoc lines).isSome = true)
    (hok : textOk lines = true) : parseMdocX (printMdoc true m) = some m := by
  cases hq : parseMdoc lines with
  | none => rw [hq] at hs; cases hs
  | some m' =>
    have := parse_ext_conservative lines m' hq
    rw [hp] at this
    injection this with this
    subst this
    exact parse_ext_conservative _ _ (read_write_read_text lines m hq hok)

/-- **witness of the open finding C17-K1 at the level of a whole file**: a two-line image whose `Dose = 0.00001` is read as a float, written as
`1e-05`, and the written file re-reads to ANOTHER object (the cell is now text) -/
theorem k1_roundtrip_counterexample :
    ∃ lines m, parseMdoc lines = some m ∧ parseMdoc (printMdoc true m) ≠ some m ∧ (parseMdoc (printMdoc true m)).isSome = true :=
  by
  -- one evaluation: the text is read, and the written form of what was read is read into something else
  have h : (parseMdoc ["[ZValue = 0]".toList, "TiltAngle = 1".toList, "Dose = 0.00001".toList]).any
      (fun m => (parseMdoc (printMdoc true m)).any (· != m)) = true := by decide +kernel
  obtain ⟨m, hm, h⟩ := (Option.any_eq_true _ _).1 h
  obtain ⟨m', hm', hne⟩ := (Option.any_eq_true _ _).1 h
  exact ⟨_, m, hm, by rw [hm']; simpa using hne, by rw [hm']; rfl⟩

/-- **witness of the open finding C17-K4**: when every image is removed, `write()` (removed=False) prints the header entries and titles
and NO section; as soon as none of these lines begins with `[ZValue` / `[FrameSet` (true of every header entry, and of every title that
is not itself spelled like a section), the reader finds no section and refuses the file — strict and extended reader alike. So the file
cryoCAT wrote does not re-read to "the same header entries and the same (empty) per-image table". -/
theorem all_removed_unreadable (m : Mdoc) (hk : keptImages m = [])
    (hi : ∀ kv ∈ m.info, secStart (printKV kv.1 kv.2) = none) (ht : ∀ t ∈ m.titles, secStart (printTitle t) = none) :
    parseMdoc (printMdoc false m) = none ∧ parseMdocX (printMdoc false m) = none := by
  have hd : (printMdoc false m).dropWhile (fun l => (secStart l).isNone) = [] := by
    rw [printMdoc, filter_written_false, hk, List.dropWhile_append_of_pos (header_no_section m.info m.titles hi ht)]
    rfl
  constructor
  · simp only [parseMdoc, hd]
  · simp only [parseMdocX, hd]

/-- non-vacuity: `m₀` with both images removed meets the hypotheses; evaluated: the written text has no section line and is refused -/
example : keptImages { m₀ with rows := m₀.rows.map (fun r => { r with removed := true }) } = [] ∧
    parseMdoc (printMdoc false { m₀ with rows := m₀.rows.map (fun r => { r with removed := true }) }) = none := by decide +kernel

/-- what the extension adds: a repeated header key (dict overwrite: first position, last value), `+5` and `1e-05` tilts -/
example : (parseMdocX ["A = 1".toList, "B = 2".toList, "A = 3".toList, "[ZValue = 0]".toList, "TiltAngle = +5".toList]).map (fun m => (m.info, m.rows)) =
    some ([("A".toList, Val.int "3".toList), ("B".toList, Val.int "2".toList)], [⟨"0".toList, [Val.tilt false "5".toList "0".toList], false⟩]) := by
  repeat rw [String.toList_ofList]
  decide +kernel
example : parseMdoc ["A = 1".toList, "A = 3".toList, "[ZValue = 0]".toList, "TiltAngle = 5".toList] = none := by
  repeat rw [String.toList_ofList]
  decide +kernel
example : toTiltX (classify "1e-05".toList) = some (Val.tilt false "0".toList "00001".toList) ∧
    toTiltX (classify "-2.50E+1".toList) = some (Val.tilt true "25".toList "0".toList) ∧ toTilt (classify "1e-05".toList) = none := by decide +kernel
/-- a TiltAngle of the exponent-form class survives write + re-read in the extended reader (as it does in the code: the column
is converted with `astype(float)`), unlike any other cell of that class (C17-K1) -/
example : toTiltX (classify (Val.tilt false "0".toList "00001".toList).fmt) = some (Val.tilt false "0".toList "00001".toList) := by decide +kernel
/-- the named classes outside the quantifier, and a text the code refuses -/
example : whyNone ["[ZValue = 0]".toList, "TiltAngle = 1".toList, "X = 5".toList, "[ZValue = 1]".toList, "TiltAngle = 2".toList] = .diffKeys ∧
    whyNone ["[ZValue = 0]".toList, "TiltAngle = 1".toList, "[T = 5]".toList] = .bracketInSection ∧
    whyNone ["[ZValue = 0]".toList, "TiltAngle = 1".toList, "X = 1".toList, "X = 2".toList] = .dupKeyInSection ∧
    whyNone ["[ZValue = +3]".toList, "TiltAngle = 1".toList] = .secValueForm ∧
    whyNone ["[ZValue = 3]".toList, "TiltAngle = nan".toList] = .tiltForm ∧
    whyNone ["[ZValue = 3]".toList, "TiltAngle = abc".toList] = .raises ∧ whyNone ["A = 1".toList] = .raises := by
  repeat rw [String.toList_ofList]
  decide +kernel

/-- `indices_load`: the j-th index is the j-th given index, minus one when the input counts from 1; as given otherwise. The result
is a function of the given list alone (the model has no state: using the same list for a second mdoc addresses the same
positions — the code keeps that promise only because it builds a new array, `indices_load_documented`) -/
theorem indices_load_spec (xs : List Int) (j : Nat) :
    (indicesLoad true xs)[j]? = xs[j]?.map (· - 1) ∧ indicesLoad false xs = xs := by
  simp [indicesLoad]

/-- the console-level `mdoc.remove_images(path, idx, numbered_from_1)` is `Mdoc.remove_images` on the shifted indices among the KEPT
images (so `remove_flags_only`, `kept_index_mapping`, `targets_spec` apply to it) -/
theorem remove_script_spec (f1 : Bool) (xs : List Int) (m : Mdoc) :
    removeImagesScript f1 xs m = removeImages (if f1 then xs.map (· - 1) else xs) true m := by
  simp [removeImagesScript, indicesLoad, defaults_documented.2.2.1]

/-- **gctf column order is irrelevant** (seeded change `gctf-column-order`): the code-level model of `gctf_read` — select by the
source's name list from a table whose columns are in FILE order, scale positions 0..1 of the selection — returns for every
file order the Å→µm-scaled U and V found by name, the angle, the phase shift, and the mean (`defocusRow`, about which
`defocus_units` speaks) -/
theorem gctf_column_order_irrelevant {K : Type} [_root_.Field K] (f d : K) (cols : List String) (row : List K) (u v a p : K)
    (hph : cols.contains "rlnPhaseShift" = true)
    (hu : (cols.zip row).lookup "rlnDefocusU" = some u) (hv : (cols.zip row).lookup "rlnDefocusV" = some v)
    (ha : (cols.zip row).lookup "rlnDefocusAngle" = some a) (hp : (cols.zip row).lookup "rlnPhaseShift" = some p) :
    gctfReadCode f d cols [row] = some [defocusRow f d u v a p] := gctf_code_row f d cols row u v a p hph hu hv ha hp

theorem gctf_without_phase_shift {K : Type} [_root_.Field K] (f d : K) (cols : List String) (row : List K) (u v a : K)
    (hph : cols.contains "rlnPhaseShift" = false)
    (hu : (cols.zip row).lookup "rlnDefocusU" = some u) (hv : (cols.zip row).lookup "rlnDefocusV" = some v)
    (ha : (cols.zip row).lookup "rlnDefocusAngle" = some a) :
    gctfReadCode f d cols [row] = some [defocusRow f d u v a 0] := gctf_code_row_nophase f d cols row u v a hph hu hv ha

/-- alphabetical column order (angle before U and V), an unrelated column in between -/
example : gctfReadCode (1 / 10000 : Rat) 2 ["rlnDefocusAngle", "rlnDefocusU", "rlnVoltage", "rlnDefocusV", "rlnPhaseShift"] [[45, 20000, 300, 30000, 1]]
    = some [{ defocus1 := 2, defocus2 := 3, astigmatism := 45, phaseShift := 1, defocusMean := 5 / 2 }] := by decide +kernel

/-- **`create_wedge_list_sg`, code = specification**: `np.repeat(dimensions.values, n, axis=0)` of the one-row dimension table and
`z_shift.values[0][0]` give every row that tomogram's dimensions and z-shift: the code-level list is `wedgeSingle` -/
theorem wedge_single_code_spec {α : Type} (c : Consts α) (id : Int) (x y z zs : α) (tilts : List α) (defocus dose : Option (List α)) :
    wedgeSingleCode c { id := id, dims := [[x, y, z]], zTable := [[zs]], tilts := tilts, defocus := defocus, dose := dose }
      = wedgeSingle c { id := id, dimX := x, dimY := y, dimZ := z, zShift := zs, tilts := tilts, defocus := defocus, dose := dose } :=
  wedge_single_code_eq c id x y z zs tilts defocus dose

/-- **`create_wedge_list_sg_batch`, code = specification**: the dimensions and the z-shift are looked up BY TOMOGRAM NUMBER (first
row of the table with that `tomo_id`, whatever the order or extent of the table — seeded change `wedge-zshift-pairing` pairs by
position instead), then the batch list is `wedgeBatch` of the tomograms these look-ups denote, to which `wedge_rows` applies -/
theorem wedge_batch_code_spec {α : Type} (c : Consts α) (b : BatchIn α) (ts : List (Tomo α)) (h : b.ids.mapM (batchTomo b) = some ts) :
    wedgeBatchCode c b = wedgeBatch c ts := by
  unfold wedgeBatchCode wedgeBatch
  congr 1
  generalize b.ids = ids at h
  induction ids generalizing ts with
  | nil => simp at h; subst h; rfl
  | cons t ids ih =>
    obtain ⟨tm, tms, ht, hr, rfl⟩ := (Lists.mapM_cons_some _ t ids ts).1 h
    rw [List.mapM_cons, List.mapM_cons, ih tms hr, batchSingleIn_code c b t tm ht]

/-- a z-shift table listed in another order than the tomogram list, and covering more tomograms -/
example : wedgeBatchCode (⟨1, 300, 7, 27⟩ : Consts Int)
    { ids := [7, 2], dimTable := [(2, [10, 20, 30]), (7, [11, 21, 31])], zTable := [(5, 55), (2, 22), (7, 77)],
      files := [(7, ([1, 2], none, none)), (2, ([3], none, none))] }
    = some [⟨7, 1, 11, 21, 31, 77, 1, none, none, 300, 7, 27⟩, ⟨7, 1, 11, 21, 31, 77, 2, none, none, 300, 7, 27⟩,
            ⟨2, 1, 10, 20, 30, 22, 3, none, none, 300, 7, 27⟩] := by decide +kernel

end CryoCat.C17
