import CryoCat.Lemmas.C13
import CryoCat.Lemmas.C13_Shapes
import CryoCat.Lemmas.C13_Conv
import CryoCat.Lemmas.C13_Blur
import CryoCat.Lemmas.C13_Gauss
import CryoCat.Lemmas.C13_Parse
import Mathlib.Algebra.Order.BigOperators.Ring.Finset
import Mathlib.Algebra.BigOperators.Ring.Finset
/-! C13 — `hardMask q` is the array a constructor call `q` returns for `gaussian = 0` and the
array it hands to the Gaussian filter otherwise; `render nx ny nz f` is the C-order array whose voxel
`(i,j,k)` holds `f i j k` (`mask_layout`). -/
namespace CryoCat.C13

/-! ### translator obligations: the statements of `cryomask.py` the model was written from -/

theorem anchors_ok : Gen.C13.anchorsOk = true := by decide

theorem blur_factor_documented : blurFactor = 5 := blurFactor_eq (by decide) (by decide)

theorem mask_expansion_default : Gen.C13.maskExpansionDefault = 4 := by decide

/-- `preprocess_params`, complete body (locals numbered `v0, v1, …` in order of first binding): `np.ceil(radius + gaussian * 5.0)` only for a non-zero blur applied outwards -/
theorem preprocess_documented :
    Gen.C13.body_preprocess_params = ["v0=5.0", "if:gaussian!=0.0andgaussian_outwards", "v1=np.ceil(radius+gaussian*v0).astype(int)", "else:", "v1=radius", "end",
      "returnv1"] :=
  rfl

/-- sphere, complete body: Euclidean distance, cut with `>` (so `distance <= r` stays), centre voxel forced, then `postprocess` -/
theorem sphere_source_documented :
    Gen.C13.body_spherical_mask = ["mask_size=get_correct_format(mask_size)", "center=get_correct_format(center,reference_size=mask_size)", "if:radiusisNone",
      "radius=np.amin(mask_size)//2", "end", "radius=preprocess_params(radius,gaussian,gaussian_outwards)",
      "v0,v1,v2=np.mgrid[0:mask_size[0]:1,0:mask_size[1]:1,0:mask_size[2]:1]",
      "v3=np.sqrt((v0-center[0])**2+(v1-center[1])**2+(v2-center[2])**2)", "v3[v3>radius]=0", "v3[v3>0]=1",
      "v3[center[0],center[1],center[2]]=1", "v3=postprocess(v3,gaussian,np.asarray([0,0,0]),output_name)", "returnv3"] :=
  rfl

/-- cylinder, complete body: `int(height // 2)`, planar disc cut with `>`, slab clipped to the box -/
theorem cylinder_source_documented :
    Gen.C13.body_cylindrical_mask = ["mask_size=get_correct_format(mask_size)", "center=get_correct_format(center,reference_size=mask_size)", "if:radiusisNone",
      "radius=np.amin(mask_size[:2])//2", "end", "if:heightisNone", "height=mask_size[2]", "end", "height=int(height//2)",
      "radius=preprocess_params(radius,gaussian,gaussian_outwards)", "height=preprocess_params(height,gaussian,gaussian_outwards)",
      "v0,v1=np.mgrid[0:mask_size[0]:1,0:mask_size[1]:1]", "v2=np.sqrt((v0-center[0])**2+(v1-center[1])**2)", "v2[v2>radius]=0",
      "v2[v2>0]=1", "v2[center[0],center[1]]=1", "v3=np.zeros(mask_size)", "v4=max(center[2]-height,0)",
      "v5=min(center[2]+height+1,mask_size[2])", "if:v5>v4", "v3[:,:,v4:v5]=np.tile(v2[:,:,None],(1,1,v5-v4))", "end",
      "v3=postprocess(v3,gaussian,angles,output_name)", "returnv3"] :=
  rfl

/-- ellipsoid, complete body: the grid, the reversal of the point list, `distance <= 1` -/
theorem ellipsoid_source_documented :
    Gen.C13.body_ellipsoid_mask = ["v0=get_correct_format(mask_size)", "center=get_correct_format(center,reference_size=v0)",
      "radii=get_correct_format(radii,reference_size=v0)", "radii=preprocess_params(radii,gaussian,gaussian_outwards)",
      "v1=tuple((np.linspace(1,v2,v2)-np.floor(0.5*v2)forv2inv0))", "v1=np.meshgrid(*v1,indexing='ij')",
      "v3=np.array(v1).reshape(3,-1)[::-1]", "v4=0.5*v0-center", "v4=np.tile(v4.reshape(3,1),(1,v3.shape[1]))", "v3=v3[:,::-1]",
      "v4=v4[::-1]", "radii=radii[::-1]", "radii=np.tile(radii.reshape(3,1),(1,v3.shape[1]))", "v5=(v3-v4)**2", "v5=v5/radii**2",
      "v6=np.sum(v5,axis=0).reshape(v0)", "v7=v6<=1", "v7=postprocess(v7,gaussian,angles,output_name)", "returnv7"] :=
  rfl

/-- shells, complete bodies: half the thickness added / subtracted, outer minus inner (`v0 - v1`, `v0 & ~v1`) -/
theorem shell_source_documented :
    Gen.C13.body_spherical_shell_mask = ["mask_size=get_correct_format(mask_size)", "center=get_correct_format(center,reference_size=mask_size)", "if:radiusisNone",
      "radius=np.amin(mask_size)//2", "end", "shell_thickness=shell_thickness/2",
      "v0=spherical_mask(mask_size,radius=radius+shell_thickness,center=center)",
      "v1=spherical_mask(mask_size,radius=radius-shell_thickness,center=center)", "v2=v0-v1",
      "v2=postprocess(v2,gaussian,np.asarray([0,0,0]),output_name)", "returnv2"] ∧
    Gen.C13.body_ellipsoid_shell_mask = ["mask_size=get_correct_format(mask_size)", "center=get_correct_format(center,reference_size=mask_size)",
      "radii=get_correct_format(radii,reference_size=mask_size)", "shell_thickness=shell_thickness/2",
      "v0=ellipsoid_mask(mask_size,radii=radii+shell_thickness,center=center)",
      "v1=ellipsoid_mask(mask_size,radii=radii-shell_thickness,center=center)", "v2=v0&~v1",
      "v2=postprocess(v2,gaussian,angles,output_name)", "returnv2"] :=
  ⟨rfl, rfl⟩

/-- `get_correct_format`, complete body: integer truncation, default = half the reference size (a `raise` is recorded by its exception type only: message texts are free) -/
theorem format_source_documented :
    Gen.C13.body_get_correct_format = ["def:v0(v1)", "if:isinstance(v1,(tuple,list,np.ndarray))", "if:len(v1)==3", "returnnp.asarray(v1).astype(int)", "else:",
      "if:len(v1)==1", "returnnp.full((3,),v1).astype(int)", "else:",
      "raiseValueError", "end", "end", "else:", "if:isinstance(v1,(float,int,np.integer,np.floating))",
      "returnnp.full((3,),v1).astype(int)", "end", "end", "end", "if:input_valueisnotNone", "v2=v0(input_value)", "else:",
      "if:reference_sizeisnotNone", "v3=v0(reference_size)", "v2=v3//2", "else:",
      "raiseValueError", "end", "end", "returnv2"] :=
  rfl

/-- the four set operations, complete bodies: accumulator (`subtraction`: a float copy of the first mask, fix 35e97b8), operator, clip bounds; `cryomap.read` copies array inputs -/
theorem algebra_source_documented :
    Gen.C13.body_union = ["v0=np.zeros(cryomap.read(mask_list[0]).shape)", "for:v1:mask_list", "v2=cryomap.read(v1)", "v0+=v2", "end",
      "v0=np.clip(v0,0.0,1.0)", "write_out(v0,output_name)", "returnv0"] ∧
    Gen.C13.body_intersection = ["v0=np.ones(cryomap.read(mask_list[0]).shape)", "for:v1:mask_list", "v2=cryomap.read(v1)", "v0*=v2", "end",
      "v0=np.clip(v0,0.0,1.0)", "write_out(v0,output_name)", "returnv0"] ∧
    Gen.C13.body_subtraction = ["v0=cryomap.read(mask_list[0]).astype(float)", "for:v1:mask_list[1:]", "v2=cryomap.read(v1)", "v0-=v2", "end",
      "v0=np.clip(v0,0.0,1.0)", "write_out(v0,output_name)", "returnv0"] ∧
    Gen.C13.body_difference = ["v0=union(mask_list)", "v1=intersection(mask_list)", "v2=v0-v1", "v2=np.clip(v2,0.0,1.0)", "write_out(v2,output_name)", "returnv2"] ∧
    Gen.C13.body_cryomap_read = ["if:isinstance(input_map,str)", "def:v0(v1)", "v2='\\\\.(mrc|ali|rec|st)(\\\\.\\\\d+)?$'", "returnbool(re.search(v2,v1))", "end",
      "if:v0(input_map)", "v3=mrcfile.open(input_map).data", "else:", "if:input_map.endswith('.em')", "v3=emfile.read(input_map)[1]",
      "else:", "raiseValueError", "end", "end", "if:transpose",
      "v3=v3.transpose(2,1,0)", "end", "else:", "if:isinstance(input_map,np.ndarray)", "v3=np.array(input_map)", "else:",
      "raiseValueError", "end", "end", "v3=np.array(v3,copy=True)", "if:data_typeisnotNone",
      "v3=v3.astype(data_type)", "end", "returnv3"] :=
  ⟨rfl, rfl, rfl, rfl, rfl⟩

/-- `write_out` (reached by every constructor and algebra call): nothing happens for `output_name=None`; `cryomap.rotate` (called by `cryomask.rotate` for non-zero angles only, i.e. outside the property's quantifier; anchored so that it cannot be re-bound or wrapped unnoticed) -/
theorem writeout_source_documented :
    Gen.C13.body_write_out = ["if:output_nameisnotNone", "cryomap.write(input_mask,output_name,data_type=np.single)", "end"] ∧
    Gen.C13.body_cryomap_rotate = ["input_map=read(input_map)", "v0=np.eye(4)", "v1=np.asarray(input_map.shape)//2", "v0[:3,-1]=v1", "v2=np.eye(4)",
      "if:rotationisnotNone", "if:transpose_rotation", "v2[0:3,0:3]=rotation.as_matrix().T", "else:", "v2[0:3,0:3]=rotation.as_matrix()", "end", "else:",
      "if:rotation_anglesisnotNone", "v3=srot.from_euler(coord_space,rotation_angles,degrees=degrees)", "v2[0:3,0:3]=v3.as_matrix().T", "else:",
      "raiseValueError", "end", "end", "v4=v0@v2@np.linalg.inv(v0)", "v5=np.empty(input_map.shape)",
      "affine_transform(input=input_map,output=v5,matrix=v4,order=spline_order)", "if:output_nameisnotNone", "write(v5,output_name,data_type=np.single)",
      "end", "returnv5"] :=
  ⟨rfl, rfl⟩

/-- `add_gaussian` / `rotate` / `postprocess`, complete bodies: `sigma == 0` returns the mask itself, otherwise `skimage.filters.gaussian(mask, sigma=sigma)` with the library defaults (mode nearest, truncate 4); no rotation for zero angles -/
theorem gaussian_source_documented :
    Gen.C13.body_add_gaussian = ["if:sigma==0", "returninput_mask", "else:", "returnfilters.gaussian(input_mask,sigma=sigma)", "end"] ∧
    Gen.C13.body_rotate = ["if:anglesisNoneornotnp.any(angles)", "returninput_mask", "else:", "returncryomap.rotate(input_mask,rotation_angles=angles)",
      "end"] ∧
    Gen.C13.body_postprocess = ["v0=add_gaussian(input_mask,gaussian)", "v0=rotate(v0,angles)", "write_out(v0,output_name)", "returnv0"] :=
  ⟨rfl, rfl, rfl⟩

/-- `generate_mask` / `parse_shape_string`, complete bodies: box-size arithmetic, the constructor called per shape name, the patterns -/
theorem generator_source_documented :
    Gen.C13.body_generate_mask = ["v0,v1=parse_shape_string(mask_shape)", "if:mask_sizeisNone", "mask_size=2*np.max(v1)+mask_expansion",
      "mask_size=math.ceil(mask_size/2)*2", "end", "if:v0=='sphere'", "v2=spherical_mask(mask_size=mask_size,radius=v1[0])", "else:",
      "if:v0=='cylinder'", "v2=cylindrical_mask(mask_size=mask_size,radius=v1[0],height=v1[1])", "else:", "if:v0=='s_shell'",
      "mask_size=math.ceil((mask_size+v1[1])/2)*2", "v2=spherical_shell_mask(mask_size=mask_size,shell_thickness=v1[1],radius=v1[0])",
      "else:", "if:v0=='ellipsoid'", "v2=ellipsoid_mask(mask_size=mask_size,radii=v1)", "else:", "if:v0=='e_shell'",
      "v2=ellipsoid_shell_mask(mask_size=mask_size,shell_thickness=v1[3],radii=v1[0:3])", "end", "end", "end", "end", "end", "returnv2"] ∧
    Gen.C13.body_parse_shape_string = ["v0={'sphere':'^sphere_r(\\\\d+)$','cylinder':'^cylinder_r(\\\\d+)_h(\\\\d+)$','s_shell':'^s_shell_r(\\\\d+)_s(\\\\d+)$','ellipsoid':'^ellipsoid_rx(\\\\d+)_ry(\\\\d+)_rz(\\\\d+)$','e_shell':'^e_shell_rx(\\\\d+)_ry(\\\\d+)_rz(\\\\d+)_s(\\\\d+)$'}",
      "for:(v1,v2):v0.items()", "v3=re.match(v2,shape_string)", "if:v3", "v4=[int(v5)forv5inv3.groups()]", "return(v1,v4)", "end", "end",
      "raiseValueError"] ∧
    Gen.C13.parsePatterns = ["sphere", "^sphere_r(\\d+)$", "cylinder", "^cylinder_r(\\d+)_h(\\d+)$", "s_shell", "^s_shell_r(\\d+)_s(\\d+)$", "ellipsoid",
      "^ellipsoid_rx(\\d+)_ry(\\d+)_rz(\\d+)$", "e_shell", "^e_shell_rx(\\d+)_ry(\\d+)_rz(\\d+)_s(\\d+)$"] :=
  ⟨rfl, rfl, rfl⟩

/-- signatures: parameter names, order and DEFAULT values the statement depends on (`gaussian=0`, `gaussian_outwards=True`, `radius/height/radii/center=None`, `mask_size=None`, `mask_expansion=4`, `output_name=None`) -/
theorem defaults_documented :
    Gen.C13.sig_spherical_mask = ["mask_size", "radius=None", "center=None", "gaussian=0.0", "gaussian_outwards=True", "output_name=None"] ∧
    Gen.C13.sig_cylindrical_mask = ["mask_size", "radius=None", "height=None", "center=None", "gaussian=0", "gaussian_outwards=True", "angles=None",
      "output_name=None"] ∧
    Gen.C13.sig_ellipsoid_mask = ["mask_size", "radii=None", "center=None", "gaussian=0", "output_name=None", "angles=None", "gaussian_outwards=True"] ∧
    Gen.C13.sig_spherical_shell_mask = ["mask_size", "shell_thickness", "radius=None", "center=None", "gaussian=0.0", "output_name=None"] ∧
    Gen.C13.sig_ellipsoid_shell_mask = ["mask_size", "shell_thickness", "radii", "center=None", "gaussian=0.0", "angles=None", "output_name=None"] ∧
    Gen.C13.sig_generate_mask = ["mask_shape", "mask_size=None", "mask_expansion=4"] ∧
    Gen.C13.sig_parse_shape_string = ["shape_string"] ∧
    Gen.C13.sig_union = ["mask_list", "output_name=None"] ∧
    Gen.C13.sig_intersection = ["mask_list", "output_name=None"] ∧
    Gen.C13.sig_subtraction = ["mask_list", "output_name=None"] ∧
    Gen.C13.sig_difference = ["mask_list", "output_name=None"] ∧
    Gen.C13.sig_preprocess_params = ["radius", "gaussian", "gaussian_outwards"] ∧
    Gen.C13.sig_get_correct_format = ["input_value", "reference_size=None"] ∧
    Gen.C13.sig_add_gaussian = ["input_mask", "sigma"] ∧
    Gen.C13.sig_rotate = ["input_mask", "angles"] ∧
    Gen.C13.sig_postprocess = ["input_mask", "gaussian", "angles", "output_name"] ∧
    Gen.C13.sig_cryomap_read = ["input_map", "transpose=True", "data_type=None"] ∧
    Gen.C13.sig_write_out = ["input_mask", "output_name"] ∧
    Gen.C13.sig_cryomap_rotate = ["input_map", "rotation=None", "rotation_angles=None", "coord_space='zxz'", "transpose_rotation=False", "degrees=True",
      "spline_order=3", "output_name=None"] :=
  ⟨rfl, rfl, rfl, rfl, rfl, rfl, rfl, rfl, rfl, rfl, rfl, rfl, rfl, rfl, rfl, rfl, rfl, rfl, rfl⟩

/-- the literal pieces of the five patterns `^label(\\d+)label(\\d+)…$`, in the order the source tries them, are the table
`docLabels` of `Lemmas/C13_Parse.lean` -/
theorem labels_documented : Gen.C13.shapeLabels = docLabels := by decide

theorem mask_layout (q : Req) (f : Int → Int → Int → Int) (h : voxel q = some f) :
    ∃ m, hardMask q = some m ∧ m.length = q.nx * (q.ny * q.nz) ∧
      ∀ i j k : Nat, i < q.nx → j < q.ny → k < q.nz → m[(i * q.ny + j) * q.nz + k]? = some (f i j k) := by
  refine ⟨render q.nx q.ny q.nz (fun i j k => f i j k), by simp [hardMask, h], render_length _ _ _ _, ?_⟩
  intro i j k hi hj hk
  exact render_getElem? _ _ _ _ i j k hi hj hk

/-- "centres anywhere in the box" -/
def CentreInBox (q : Req) : Prop :=
  0 ≤ q.centre.1 ∧ q.centre.1 < q.nx ∧ 0 ≤ q.centre.2.1 ∧ q.centre.2.1 < q.ny ∧ 0 ≤ q.centre.2.2 ∧ q.centre.2.2 < q.nz

/-- with the centre in the box no index wraps and the forced voxel is the centre itself -/
theorem voxel_sphere (q : Req) (hk : q.kind = .sphere) (hc : CentreInBox q) :
    voxel q = some fun i j k => b2i (sphereIn q.centre.1 q.centre.2.1 q.centre.2.2 q.sphereRadius i j k) := by
  obtain ⟨h1, h2, h3, h4, h5, h6⟩ := hc
  rcases hcc : q.centre with ⟨cx, cy, cz⟩
  rw [hcc] at h1 h2 h3 h4 h5 h6
  simp only [voxel, hcc, hk, idxOk_of_inBox _ _ h1 h2, idxOk_of_inBox _ _ h3 h4, idxOk_of_inBox _ _ h5 h6, Bool.and_self, if_true,
    sphereVox_inBox _ _ _ _ _ _ _ h1 h3 h5]

/-- **Sphere.** For every box, every centre in the box and every drawn radius `R ≥ 0` the mask holds 1
exactly at the voxels with `distance² ≤ R²`, 0 elsewhere. -/
theorem sphere_exact (q : Req) (hk : q.kind = .sphere) (hc : CentreInBox q) (hr : 0 ≤ q.sphereRadius) :
    voxel q = some fun i j k => if (dist2 q.centre i j k : Rat) ≤ q.sphereRadius ^ 2 then 1 else 0 := by
  rw [voxel_sphere q hk hc]
  congr 1
  funext i j k
  apply b2i_eq_ite
  rw [sphereIn_iff _ _ _ _ hr, sq_sum_eq_dist2 q.centre, pow_two]

/-- `sphere_exact` read on the returned array (`mask_layout`) -/
theorem sphere_array_exact (q : Req) (hk : q.kind = .sphere) (hc : CentreInBox q) (hr : 0 ≤ q.sphereRadius) :
    ∃ m, hardMask q = some m ∧ m.length = q.nx * (q.ny * q.nz) ∧
      ∀ i j k : Nat, i < q.nx → j < q.ny → k < q.nz →
        m[(i * q.ny + j) * q.nz + k]? = some (if (dist2 q.centre i j k : Rat) ≤ q.sphereRadius ^ 2 then 1 else 0) :=
  mask_layout q _ (sphere_exact q hk hc hr)

/-- the same with the Euclidean distance itself, as the code computes it: `√d² ≤ R`
(for any `R`, negative ones included: then only the forced centre voxel is set) -/
theorem sphere_exact_sqrt (cx cy cz : Int) (r : Rat) (i j k : Int) :
    sphereIn cx cy cz r i j k = true ↔
      (i = cx ∧ j = cy ∧ k = cz) ∨ Real.sqrt ((dist2 (cx, cy, cz) i j k : Int) : ℝ) ≤ (r : ℝ) := by
  rw [sphereIn_eq_true, ← sqrtGt_eq_false, ← Bool.not_eq_true, sqrtGt_iff_real, not_lt, sq_sum_eq_dist2 (cx, cy, cz)]

theorem preprocess_outwards_eq (r g : Rat) (hg : g ≠ 0) : preprocess r g true = ((r + g * 5).ceil : Int) := by
  rw [preprocess_outwards r g hg, blur_factor_documented]

theorem le_preprocess_outwards (r g : Rat) (hg : g ≠ 0) : r + g * 5 ≤ preprocess r g true := by
  rw [preprocess_outwards_eq _ _ hg]; exact Rat.le_ceil

/-- the radius that is drawn: the requested one for a hard edge or a centred blur … -/
theorem sphere_radius_hard (q : Req) (r : Rat) (hr : q.radius = some r) (hg : q.gauss = 0 ∨ q.outwards = false) :
    q.sphereRadius = r :=
  preprocess_getD_hard _ _ _ _ hr hg

/-- … and `⌈r + 5σ⌉ ≥ r + 5σ` for a blur applied outwards -/
theorem sphere_radius_outwards (q : Req) (r : Rat) (hr : q.radius = some r) (hg : q.gauss ≠ 0) (ho : q.outwards = true) :
    q.sphereRadius = ((r + q.gauss * 5).ceil : Int) ∧ r + q.gauss * 5 ≤ q.sphereRadius := by
  unfold Req.sphereRadius
  rw [hr, ho, Option.getD_some]
  exact ⟨preprocess_outwards_eq _ _ hg, le_preprocess_outwards _ _ hg⟩

/-- default radius: half the smallest box dimension -/
theorem sphere_radius_default (q : Req) (hr : q.radius = none) (hg : q.gauss = 0) :
    q.sphereRadius = ((min (min q.nx q.ny) q.nz / 2 : Nat) : Rat) := by
  unfold Req.sphereRadius
  rw [hr, Option.getD_none, preprocess_of_hard _ _ _ (Or.inl hg)]

theorem voxel_cylinder (q : Req) (hk : q.kind = .cylinder)
    (hc : 0 ≤ q.centre.1 ∧ q.centre.1 < q.nx ∧ 0 ≤ q.centre.2.1 ∧ q.centre.2.1 < q.ny) :
    voxel q = some fun i j k => b2i (cylIn q.nz q.centre.1 q.centre.2.1 q.centre.2.2 q.cylRadius q.cylHalf i j k) := by
  obtain ⟨h1, h2, h3, h4⟩ := hc
  rcases hcc : q.centre with ⟨cx, cy, cz⟩
  rw [hcc] at h1 h2 h3 h4
  simp only [voxel, hcc, hk, idxOk_of_inBox _ _ h1 h2, idxOk_of_inBox _ _ h3 h4, Bool.and_self, if_true,
    cylVox_inBox _ _ _ _ _ _ _ _ h1 h3]

/-- **Cylinder.** For every box, every centre whose `(x,y)` lies in the box, every drawn radius `R ≥ 0`
and every half height `H` (any size, also reaching beyond the box: the slab is clipped) the mask holds
1 exactly at the voxels of the box with planar `distance² ≤ R²` and `|k − cz| ≤ H`. -/
theorem cylinder_exact (q : Req) (hk : q.kind = .cylinder)
    (hc : 0 ≤ q.centre.1 ∧ q.centre.1 < q.nx ∧ 0 ≤ q.centre.2.1 ∧ q.centre.2.1 < q.ny) (hr : 0 ≤ q.cylRadius) :
    ∃ f, voxel q = some f ∧ ∀ i j k : Nat, k < q.nz →
      f i j k = if (dist2xy q.centre i j : Rat) ≤ q.cylRadius ^ 2 ∧ |(k : Int) - q.centre.2.2| ≤ q.cylHalf then 1 else 0 := by
  refine ⟨_, voxel_cylinder q hk hc, fun i j k hkz => b2i_eq_ite _ _ ?_⟩
  rw [cylIn_iff _ _ _ _ _ hr _ _ _ _ (by omega) (by exact_mod_cast hkz), sq_sum_eq_dist2xy q.centre, pow_two]

/-- the half height that is drawn is `height // 2 = ⌊height / 2⌋` for a hard edge … -/
theorem cylinder_half_height_hard (q : Req) (h : Int) (hh : q.height = some h) (hg : q.gauss = 0 ∨ q.outwards = false) :
    q.cylHalf = h / 2 ∧ h / 2 = ⌊(h : ℚ) / 2⌋ := by
  constructor
  · unfold Req.cylHalf
    rw [hh, Option.getD_some, preprocess_of_hard _ _ _ hg, trunc_intCast]
  · rw [floor_half, Int.floor_intCast]

/-- … and `⌈height // 2 + 5σ⌉` for a blur applied outwards -/
theorem cylinder_half_height_outwards (q : Req) (h : Int) (hh : q.height = some h) (hg : q.gauss ≠ 0) (ho : q.outwards = true) :
    q.cylHalf = (((h / 2 : Int) : Rat) + q.gauss * 5).ceil := by
  unfold Req.cylHalf
  rw [hh, ho, Option.getD_some, preprocess_outwards_eq _ _ hg, trunc_intCast]

/-- a height given as a non-integer (`6.0`, `7.5`; `cylindrical_mask` takes `int(height // 2)`, fix D59): the statement's
`⌊h/2⌋` only depends on `⌊h⌋`, and `h = n + 1/2` gives the half height of the integer `n` — the float heights the generator
passes are judged with the integer-height model -/
theorem half_height_of_fractional (h : ℚ) : ⌊h / 2⌋ = ⌊h⌋ / 2 ∧ ∀ n : ℤ, ⌊((n : ℚ) + 1 / 2) / 2⌋ = n / 2 := by
  refine ⟨floor_half h, fun n => ?_⟩
  rw [floor_half]
  congr 1
  rw [Int.floor_eq_iff]
  constructor <;> norm_num

theorem cylinder_radius_hard (q : Req) (r : Rat) (hr : q.radius = some r) (hg : q.gauss = 0 ∨ q.outwards = false) :
    q.cylRadius = r :=
  preprocess_getD_hard _ _ _ _ hr hg

/-- **Ellipsoid.** On boxes with even sizes, for every centre and all non-zero integer radii, the test
the code evaluates on its reversed, half-shifted grid is `((i−cx)/rx)² + ((j−cy)/ry)² + ((k−cz)/rz)² ≤ 1`. -/
theorem ellipsoid_exact_even (nx ny nz : Nat) (hx : nx % 2 = 0) (hy : ny % 2 = 0) (hz : nz % 2 = 0)
    (cx cy cz rx ry rz : Int) (hrx : rx ≠ 0) (hry : ry ≠ 0) (hrz : rz ≠ 0) (i j k : Int) :
    ellipsoidIn nx ny nz cx cy cz rx ry rz i j k = true ↔
      (((i : Rat) - cx) / rx) ^ 2 + (((j : Rat) - cy) / ry) ^ 2 + (((k : Rat) - cz) / rz) ^ 2 ≤ 1 := by
  unfold ellipsoidIn
  rw [if_neg (by simp [hrx, hry, hrz]), decide_eq_true_iff, ellCoord_even nx hx, ellCoord_even ny hy, ellCoord_even nz hz]
  -- the reversed grid gives `c − i` where the statement has `i − c`: the same sum of squares
  exact Iff.of_eq (congrArg (· ≤ (1 : Rat)) (by ring))

/-- the mask returned by `ellipsoid_mask` (any centre, radii given, hard edge): the drawn radii are the
integer parts of the requested ones — for integer radii this is the statement's inequality, for non-integer radii it is NOT
(open finding C13-K3, `ellipsoid_fractional_radii_truncated`) -/
theorem ellipsoid_mask_exact (q : Req) (hk : q.kind = .ellipsoid) (hx : q.nx % 2 = 0) (hy : q.ny % 2 = 0) (hz : q.nz % 2 = 0)
    (a b c : Rat) (hr : q.radii = some (a, b, c)) (hg : q.gauss = 0)
    (ha : trunc a ≠ 0) (hb : trunc b ≠ 0) (hc : trunc c ≠ 0) :
    voxel q = some fun (i j k : Int) =>
      if (((i : Rat) - q.centre.1) / trunc a) ^ 2 + (((j : Rat) - q.centre.2.1) / trunc b) ^ 2
          + (((k : Rat) - q.centre.2.2) / trunc c) ^ 2 ≤ 1 then 1 else 0 := by
  rcases hcc : q.centre with ⟨cx, cy, cz⟩
  have hv : voxel q = some fun i j k => b2i (ellipsoidIn q.nx q.ny q.nz cx cy cz (trunc a) (trunc b) (trunc c) i j k) := by
    simp only [voxel, hcc, hk, Req.radiiInt, hr, ellRadii, hg, preprocess_hard, trunc_intCast]
  rw [hv]
  congr 1
  funext i j k
  exact b2i_eq_ite _ _ (ellipsoid_exact_even _ _ _ hx hy hz _ _ _ _ _ _ ha hb hc i j k)

/-- division-free form of the ellipsoid inequality for positive radii -/
theorem ellipsoid_integer_form (a b c rx ry rz : Int) (hrx : 0 < rx) (hry : 0 < ry) (hrz : 0 < rz) :
    ((a : Rat) / rx) ^ 2 + ((b : Rat) / ry) ^ 2 + ((c : Rat) / rz) ^ 2 ≤ 1 ↔
      a * a * (ry * ry * (rz * rz)) + b * b * (rx * rx * (rz * rz)) + c * c * (rx * rx * (ry * ry))
        ≤ rx * rx * (ry * ry) * (rz * rz) := by
  have hx : (0 : Rat) < rx := by exact_mod_cast hrx
  have hy : (0 : Rat) < ry := by exact_mod_cast hry
  have hz : (0 : Rat) < rz := by exact_mod_cast hrz
  have hP : (0 : Rat) < rx * rx * (ry * ry) * (rz * rz) := by positivity
  -- the integer inequality, read in ℚ and divided by the positive `∏ r²`
  rw [← Int.cast_le (R := Rat)]
  push_cast
  rw [← div_le_one hP]
  refine Iff.of_eq (congrArg (· ≤ (1 : Rat)) ?_)
  rw [div_pow, div_pow, div_pow, div_add_div _ _ (by positivity) (by positivity),
    div_add_div _ _ (by positivity) (by positivity), div_eq_div_iff (by positivity) (by positivity)]
  ring

theorem ellipsoid_even_integer_form (nx ny nz : Nat) (hx : nx % 2 = 0) (hy : ny % 2 = 0) (hz : nz % 2 = 0)
    (cx cy cz rx ry rz : Int) (hrx : 0 < rx) (hry : 0 < ry) (hrz : 0 < rz) (i j k : Int) :
    ellipsoidIn nx ny nz cx cy cz rx ry rz i j k = true ↔
      (i - cx) * (i - cx) * (ry * ry * (rz * rz)) + (j - cy) * (j - cy) * (rx * rx * (rz * rz))
        + (k - cz) * (k - cz) * (rx * rx * (ry * ry)) ≤ rx * rx * (ry * ry) * (rz * rz) := by
  rw [ellipsoid_exact_even nx ny nz hx hy hz cx cy cz rx ry rz hrx.ne' hry.ne' hrz.ne',
    ← ellipsoid_integer_form (i - cx) (j - cy) (k - cz) rx ry rz hrx hry hrz]
  push_cast
  rfl

/-- **Spherical shell.** For a thickness `t ≥ 0` the float difference `sp1 - sp2` of the two spheres of
radii `r ± t/2` is 0/1-valued and equals "in the outer solid and not in the inner solid". -/
theorem sphere_shell_exact (q : Req) (hk : q.kind = .sshell) (hc : CentreInBox q) (r : Rat) (hr : q.radius = some r)
    (ht : 0 ≤ q.thick) :
    voxel q = some fun i j k =>
      b2i (sphereIn q.centre.1 q.centre.2.1 q.centre.2.2 (r + q.thick / 2) i j k
            && !sphereIn q.centre.1 q.centre.2.1 q.centre.2.2 (r - q.thick / 2) i j k) := by
  obtain ⟨h1, h2, h3, h4, h5, h6⟩ := hc
  rcases hcc : q.centre with ⟨cx, cy, cz⟩
  rw [hcc] at h1 h2 h3 h4 h5 h6
  have hv : voxel q = some fun i j k =>
      b2i (sphereIn cx cy cz (r + q.thick / 2) i j k) - b2i (sphereIn cx cy cz (r - q.thick / 2) i j k) := by
    simp only [voxel, hcc, hk, hr, idxOk_of_inBox _ _ h1 h2, idxOk_of_inBox _ _ h3 h4, idxOk_of_inBox _ _ h5 h6, Bool.and_self, if_true,
      Option.getD_some, sphereVox_inBox _ _ _ _ _ _ _ h1 h3 h5]
  rw [hv]
  congr 1
  funext i j k
  have hmono := sphereIn_mono cx cy cz (r - q.thick / 2) (r + q.thick / 2) (by linarith) i j k
  cases hin : sphereIn cx cy cz (r - q.thick / 2) i j k
  · cases sphereIn cx cy cz (r + q.thick / 2) i j k <;> rfl
  · rw [hmono hin]; rfl

/-- with a non-negative inner radius both solids are the analytic balls:
the shell is `(r − t/2)² < distance² ≤ (r + t/2)²` -/
theorem sphere_shell_analytic (cx cy cz : Int) (r t : Rat) (ht : 0 ≤ t) (hin : 0 ≤ r - t / 2) (i j k : Int) :
    (sphereIn cx cy cz (r + t / 2) i j k && !sphereIn cx cy cz (r - t / 2) i j k) = true ↔
      (r - t / 2) ^ 2 < (dist2 (cx, cy, cz) i j k : Rat) ∧ (dist2 (cx, cy, cz) i j k : Rat) ≤ (r + t / 2) ^ 2 := by
  rw [Bool.and_eq_true, Bool.not_eq_true', ← Bool.not_eq_true, sphereIn_iff _ _ _ _ (by linarith), sphereIn_iff _ _ _ _ hin,
    not_le, sq_sum_eq_dist2 (cx, cy, cz), pow_two, pow_two (r + t / 2)]
  exact and_comm

/-- **Ellipsoid shell** `e1 & ~e2`: outer ellipsoid (radii `int(r + t/2)`) and not inner ellipsoid
(radii `int(r − t/2)`), each of them an `ellipsoid_mask` (so `ellipsoid_exact_even` applies to both). -/
theorem ellipsoid_shell_exact (q : Req) (hk : q.kind = .eshell) (a b c : Rat) (hr : q.radii = some (a, b, c)) :
    voxel q = some fun i j k =>
      b2i (ellipsoidIn q.nx q.ny q.nz q.centre.1 q.centre.2.1 q.centre.2.2
              (trunc ((trunc a : Rat) + q.thick / 2)) (trunc ((trunc b : Rat) + q.thick / 2)) (trunc ((trunc c : Rat) + q.thick / 2)) i j k
           && !ellipsoidIn q.nx q.ny q.nz q.centre.1 q.centre.2.1 q.centre.2.2
              (trunc ((trunc a : Rat) - q.thick / 2)) (trunc ((trunc b : Rat) - q.thick / 2)) (trunc ((trunc c : Rat) - q.thick / 2)) i j k) := by
  rcases hcc : q.centre with ⟨cx, cy, cz⟩
  simp only [voxel, hcc, hk, Req.radiiInt, hr, ellRadii, preprocess_hard, trunc_intCast]

/-- **C13-K3, witness about the model.**  Non-integer ellipsoid radii are cut to their integer part
(`get_correct_format` ends in `.astype(int)`, modelled by `trunc`): `ellipsoid_mask([12,12,12], radii=[2.5,2.5,2.5])` draws radii
`(2,2,2)`, so voxel `(8,7,7)` (offset `(2,1,1)` from the centre) is left out although `(2/2.5)² + (1/2.5)² + (1/2.5)² = 0.96 ≤ 1`;
`ellipsoid_shell_mask` with radius 5 and the odd thickness 3 draws the radii `int(6.5) = 6` and `int(3.5) = 3`. -/
theorem ellipsoid_fractional_radii_truncated :
    ellRadii ((5 / 2 : Rat), (5 / 2 : Rat), (5 / 2 : Rat)) 0 true = (2, 2, 2) ∧
    ellipsoidIn 12 12 12 6 6 6 2 2 2 8 7 7 = false ∧
    ((((8 : Rat) - 6) / (5 / 2)) ^ 2 + (((7 : Rat) - 6) / (5 / 2)) ^ 2 + (((7 : Rat) - 6) / (5 / 2)) ^ 2 ≤ 1) ∧
    ellRadii ((5 : Rat) + 3 / 2, (5 : Rat) + 3 / 2, (5 : Rat) + 3 / 2) 0 true = (6, 6, 6) ∧
    ellRadii ((5 : Rat) - 3 / 2, (5 : Rat) - 3 / 2, (5 : Rat) - 3 / 2) 0 true = (3, 3, 3) := by decide +kernel

/-- box size when none is given: the smallest even number `≥ 2·max(specs) + expansion` -/
theorem generate_box_size (specs : List Nat) (e : Nat) :
    genSize specs none e % 2 = 0 ∧ 2 * specs.foldl max 0 + e ≤ genSize specs none e ∧
      genSize specs none e ≤ 2 * specs.foldl max 0 + e + 1 ∧ ∀ s, genSize specs (some s) e = s := by
  refine ⟨?_, ?_, ?_, fun s => rfl⟩ <;> simp only [genSize] <;> omega

theorem generate_sphere (r : Nat) (ms : Option Nat) (e : Nat) :
    generate .sphere [r] ms e =
      some { kind := .sphere, nx := genSize [r] ms e, ny := genSize [r] ms e, nz := genSize [r] ms e, radius := some (r : Rat) } := rfl

theorem generate_cylinder (r h : Nat) (ms : Option Nat) (e : Nat) :
    generate .cylinder [r, h] ms e =
      some { kind := .cylinder, nx := genSize [r, h] ms e, ny := genSize [r, h] ms e, nz := genSize [r, h] ms e,
             radius := some (r : Rat), height := some (h : Int) } := rfl

theorem generate_ellipsoid (a b c : Nat) (ms : Option Nat) (e : Nat) :
    generate .ellipsoid [a, b, c] ms e =
      some { kind := .ellipsoid, nx := genSize [a, b, c] ms e, ny := genSize [a, b, c] ms e, nz := genSize [a, b, c] ms e,
             radii := some ((a : Rat), (b : Rat), (c : Rat)) } := rfl

/-- spherical shells get the thickness added to the box size (rounded up to even), also to a given size -/
theorem generate_sphere_shell (r t : Nat) (ms : Option Nat) (e : Nat) :
    ∃ s, generate .sshell [r, t] ms e = some { kind := .sshell, nx := s, ny := s, nz := s, radius := some (r : Rat), thick := (t : Rat) } ∧
      s % 2 = 0 ∧ genSize [r, t] ms e + t ≤ s ∧ s ≤ genSize [r, t] ms e + t + 1 :=
  ⟨_, rfl, by omega, by omega, by omega⟩

theorem generate_ellipsoid_shell (a b c t : Nat) (ms : Option Nat) (e : Nat) :
    generate .eshell [a, b, c, t] ms e =
      some { kind := .eshell, nx := genSize [a, b, c, t] ms e, ny := genSize [a, b, c, t] ms e, nz := genSize [a, b, c, t] ms e,
             radii := some ((a : Rat), (b : Rat), (c : Rat)), thick := (t : Rat) } := rfl

/-- the generated sphere is centred (default centre `size // 2` is in the box) and, by `sphere_exact`,
is exactly the ball of the named radius -/
theorem generate_sphere_exact (r : Nat) (ms : Option Nat) (e : Nat) (hs : 0 < genSize [r] ms e) :
    ∃ q, generate .sphere [r] ms e = some q ∧
      voxel q = some fun i j k => if (dist2 q.centre i j k : Rat) ≤ (r : Rat) ^ 2 then 1 else 0 := by
  refine ⟨_, rfl, ?_⟩
  rw [sphere_exact _ rfl ?_ ?_, sphere_radius_hard _ r rfl (Or.inl rfl)]
  · simp only [CentreInBox, Req.centre, Option.getD_none]
    omega
  · rw [sphere_radius_hard _ r rfl (Or.inl rfl)]
    exact_mod_cast Nat.zero_le r

/-- the generated cylinder is centred and is exactly the analytic cylinder of the named radius and height -/
theorem generate_cylinder_exact (r h : Nat) (ms : Option Nat) (e : Nat) (hs : 0 < genSize [r, h] ms e) :
    ∃ q f, generate .cylinder [r, h] ms e = some q ∧ voxel q = some f ∧ ∀ i j k : Nat, k < q.nz →
      f i j k = if (dist2xy q.centre i j : Rat) ≤ (r : Rat) ^ 2 ∧ |(k : Int) - q.centre.2.2| ≤ (h : Int) / 2 then 1 else 0 := by
  obtain ⟨f, hf, hv⟩ := cylinder_exact
    { kind := .cylinder, nx := genSize [r, h] ms e, ny := genSize [r, h] ms e, nz := genSize [r, h] ms e,
      radius := some (r : Rat), height := some (h : Int) } rfl
    (by simp only [Req.centre, Option.getD_none]; omega)
    (by rw [cylinder_radius_hard _ r rfl (Or.inl rfl)]; exact_mod_cast Nat.zero_le r)
  refine ⟨_, f, rfl, hf, fun i j k hk => ?_⟩
  rw [hv i j k hk, cylinder_radius_hard _ r rfl (Or.inl rfl), (cylinder_half_height_hard _ h rfl (Or.inl rfl)).1]

/-- the generated ellipsoid (even box: always so when no size is given) is `Σ((i−c)/r)² ≤ 1` with the named radii -/
theorem generate_ellipsoid_exact (a b c : Nat) (ms : Option Nat) (e : Nat) (ha : a ≠ 0) (hb : b ≠ 0) (hc : c ≠ 0)
    (heven : genSize [a, b, c] ms e % 2 = 0) :
    ∃ q, generate .ellipsoid [a, b, c] ms e = some q ∧
      voxel q = some fun (i j k : Int) =>
        if (((i : Rat) - q.centre.1) / (a : Int)) ^ 2 + (((j : Rat) - q.centre.2.1) / (b : Int)) ^ 2
            + (((k : Rat) - q.centre.2.2) / (c : Int)) ^ 2 ≤ 1 then 1 else 0 := by
  refine ⟨_, rfl, ?_⟩
  rw [ellipsoid_mask_exact _ rfl heven heven heven (a : Rat) (b : Rat) (c : Rat) rfl rfl ?_ ?_ ?_]
  · simp only [trunc_natCast]
  · rw [trunc_natCast]; exact_mod_cast ha
  · rw [trunc_natCast]; exact_mod_cast hb
  · rw [trunc_natCast]; exact_mod_cast hc

/-- the generated spherical shell: outer ball `r + t/2` and not inner ball `r − t/2`, centred in the enlarged box -/
theorem generate_sphere_shell_exact (r t : Nat) (ms : Option Nat) (e : Nat) :
    ∃ q, generate .sshell [r, t] ms e = some q ∧ (0 < q.nx →
      voxel q = some fun i j k =>
        b2i (sphereIn q.centre.1 q.centre.2.1 q.centre.2.2 ((r : Rat) + (t : Rat) / 2) i j k
              && !sphereIn q.centre.1 q.centre.2.1 q.centre.2.2 ((r : Rat) - (t : Rat) / 2) i j k)) := by
  refine ⟨_, rfl, fun hpos => ?_⟩
  have hpos' : 0 < ((genSize [r, t] ms e + t + 1) / 2) * 2 := hpos
  exact sphere_shell_exact _ rfl (by
    simp only [CentreInBox, Req.centre, Option.getD_none]
    omega) (r : Rat) rfl (by show (0 : Rat) ≤ ((t : Nat) : Rat); exact_mod_cast Nat.zero_le t)

/-- the generated ellipsoid shell: outer ellipsoid `int(r + t/2)` and not inner ellipsoid `int(r − t/2)` -/
theorem generate_ellipsoid_shell_exact (a b c t : Nat) (ms : Option Nat) (e : Nat) :
    ∃ q, generate .eshell [a, b, c, t] ms e = some q ∧
      voxel q = some fun i j k =>
        b2i (ellipsoidIn q.nx q.ny q.nz q.centre.1 q.centre.2.1 q.centre.2.2
                (trunc (((a : Int) : Rat) + (t : Rat) / 2)) (trunc (((b : Int) : Rat) + (t : Rat) / 2)) (trunc (((c : Int) : Rat) + (t : Rat) / 2)) i j k
             && !ellipsoidIn q.nx q.ny q.nz q.centre.1 q.centre.2.1 q.centre.2.2
                (trunc (((a : Int) : Rat) - (t : Rat) / 2)) (trunc (((b : Int) : Rat) - (t : Rat) / 2)) (trunc (((c : Int) : Rat) - (t : Rat) / 2)) i j k) := by
  refine ⟨_, rfl, ?_⟩
  rw [ellipsoid_shell_exact _ rfl (a : Rat) (b : Rat) (c : Rat) rfl]
  simp only [trunc_natCast]

/-- **parse ∘ format = id**: for every shape kind and every list of dimensions of the right length, the name
`label₁ str(n₁) label₂ str(n₂) …` built from the labels found in the source is parsed (first matching pattern, in
the order of the source's table) to exactly that kind and those numbers -/
theorem parse_format (k : Kind) (ns : List Nat) (hn : ns.length = arity k) :
    ∃ s, formatShape k ns = some s ∧ parseShape s = some (k, ns) := by
  -- what is used of the table, each a computation on it: an entry `e` for every kind; in every entry as many labels as the kind has
  -- dimensions, each starting with a character `\d+` stops at, none holding a newline; pairwise incompatible patterns
  obtain ⟨e, hf⟩ : ∃ e, docLabels.find? (fun e => kindOfName e.1 == some k) = some e := by cases k <;> exact ⟨_, rfl⟩
  have hmem := List.mem_of_find?_eq_some hf
  have hk : kindOfName e.1 = some k := by simpa using List.find?_some hf
  have hlen := (by decide : ∀ e ∈ docLabels, (kindOfName e.1).map arity = some e.2.length) e hmem
  rw [hk, Option.map_some, Option.some.injEq] at hlen
  refine ⟨formatFields e.2 ns, by rw [formatShape, labels_documented, labelsOf, hf]; rfl, ?_⟩
  unfold parseShape
  rw [labels_documented, if_neg (formatFields_getLast_ne_newline e.2 ns
    ((by decide : ∀ e ∈ docLabels, ∀ l ∈ e.2, '\n' ∉ l) e hmem))]
  exact parseWith_format docLabels (by decide) e.1 e.2 k ns hmem hk
    (goodLabels_of _ ((by decide : ∀ e ∈ docLabels, e.2.all (fun l => match l with | [] => false | c :: _ => !c.isDigit) = true) e hmem))
    (hlen.symm.trans hn.symm)

/-- what `generate_mask(name)` does with the parsed name: `parse_format` composed with `generate` -/
theorem generate_from_name (k : Kind) (ns : List Nat) (hn : ns.length = arity k) (ms : Option Nat) (e : Nat) :
    ∃ s, formatShape k ns = some s ∧ (parseShape s).bind (fun p => generate p.1 p.2 ms e) = generate k ns ms e := by
  obtain ⟨s, h1, h2⟩ := parse_format k ns hn
  exact ⟨s, h1, by rw [h2]; rfl⟩

/-! ### centres outside the box (outside the property's quantifier; modelled because numpy does not raise) -/

/-- `spherical_mask` raises (`IndexError` at the forced centre voxel) exactly when a centre index is `≥ n` or `< −n` -/
theorem sphere_defined_iff (q : Req) (hk : q.kind = .sphere) :
    (voxel q).isSome = true ↔ (-(q.nx : Int) ≤ q.centre.1 ∧ q.centre.1 < q.nx) ∧ (-(q.ny : Int) ≤ q.centre.2.1 ∧ q.centre.2.1 < q.ny)
      ∧ (-(q.nz : Int) ≤ q.centre.2.2 ∧ q.centre.2.2 < q.nz) := by
  rcases hcc : q.centre with ⟨cx, cy, cz⟩
  -- both sides are the model's test `idxOk nx cx && idxOk ny cy && idxOk nz cz`
  simp only [voxel, hcc, hk, ← idxOk_iff, ← Bool.and_eq_true]
  split <;> simp_all

/-- a negative centre index wraps: the forced voxel is the one numpy addresses, `index + n` -/
theorem sphere_negative_centre_wraps (nx ny nz : Nat) (cx cy cz : Int) (r : Rat) :
    sphereVox nx ny nz cx cy cz r (wrapIdx nx cx) (wrapIdx ny cy) (wrapIdx nz cz) = true := by
  simp [sphereVox]

section Algebra
set_option linter.unusedSectionVars false
variable {α : Type} [CommRing α] [LinearOrder α] [IsStrictOrderedRing α]

theorem clip_range (x : α) : 0 ≤ clip01 x ∧ clip01 x ≤ 1 := by
  unfold clip01
  exact ⟨le_min (le_max_right _ _) zero_le_one, min_le_right _ _⟩

/-- every voxel of all four results lies in [0,1], for arbitrary (soft, even out-of-range) inputs -/
theorem algebra_voxel_range (vals : List α) (v0 : α) :
    (0 ≤ unionVox vals ∧ unionVox vals ≤ 1) ∧ (0 ≤ interVox vals ∧ interVox vals ≤ 1) ∧
    (0 ≤ subVox v0 vals ∧ subVox v0 vals ≤ 1) ∧ (0 ≤ diffVox vals ∧ diffVox vals ≤ 1) :=
  ⟨clip_range _, clip_range _, clip_range _, clip_range _⟩

/-- **union = OR** for any number of binary masks -/
theorem union_is_or (bs : List Bool) : unionVox (bs.map (b2r : Bool → α)) = b2r (bs.any id) := by
  unfold unionVox
  rw [← List.sum_eq_foldl]
  rcases sum_b2r_cases (α := α) bs with ⟨h, h0⟩ | ⟨h, h1⟩
  · rw [h, h0, clip01_of_nonpos _ le_rfl]; rfl
  · rw [h, clip01_of_one_le _ h1]; rfl

/-- **intersection = AND** -/
theorem intersection_is_and (bs : List Bool) : interVox (bs.map (b2r : Bool → α)) = b2r (bs.all id) := by
  unfold interVox
  rw [foldl_mul_b2r, one_mul, clip01_b2r]

/-- **subtraction = first AND NOT (any of the rest)** -/
theorem subtraction_is_andnot (b0 : Bool) (bs : List Bool) :
    subVox (b2r b0 : α) (bs.map b2r) = b2r (b0 && !bs.any id) := by
  unfold subVox
  rw [foldl_sub_eq_sum]
  rcases sum_b2r_cases (α := α) bs with ⟨h, h0⟩ | ⟨h, h1⟩
  · rw [h, h0, sub_zero, clip01_b2r]; simp
  · have hb : (b2r b0 : α) ≤ 1 := by cases b0 <;> simp [b2r]
    rw [h, clip01_of_nonpos _ (by linarith)]
    simp [b2r]

/-- **difference = (OR) AND NOT (AND)** for any number of masks … -/
theorem difference_is_or_andnot_and (bs : List Bool) :
    diffVox (bs.map (b2r : Bool → α)) = b2r (bs.any id && !bs.all id) := by
  unfold diffVox
  rw [union_is_or, intersection_is_and]
  -- `clip(u − n)` is the subtraction of the single mask `n` from `u`
  exact (subtraction_is_andnot (bs.any id) [bs.all id]).trans (by simp)
/-- … which is **XOR** for two -/
theorem difference_is_xor (a b : Bool) : diffVox [(b2r a : α), b2r b] = b2r (xor a b) :=
  (difference_is_or_andnot_and [a, b]).trans (by cases a <;> cases b <;> rfl)

/-- `union` and `intersection` run the same loop: accumulate `op` into a constant array `e`, then clip -/
theorem accumulate_clip_voxelwise (op : α → α → α) (e : α) (ms : List (List α)) (out : List α)
    (h : (if ms.isEmpty || !sameShape ms then none
          else some ((accumulate op (List.replicate (ms.headD []).length e) ms).map clip01)) = some out) :
    out.length = (ms.headD []).length ∧
    ∀ p, p < (ms.headD []).length → out[p]? = some (clip01 ((ms.map fun m => m.getD p 0).foldl op e)) := by
  split at h
  · cases h
  · rename_i hc
    simp only [Bool.or_eq_true, Bool.not_eq_true', not_or, Bool.not_eq_true, Bool.not_eq_false] at hc
    cases h
    obtain ⟨hl, hg⟩ := accumulate_spec op 0 ms (List.replicate (ms.headD []).length e) (by simpa using sameShape_spec ms hc.2)
    rw [List.length_replicate] at hl hg
    refine ⟨by rw [List.length_map, hl], fun p hp => ?_⟩
    rw [List.getElem?_map, hg p hp, List.getD_eq_getElem?_getD, List.getElem?_replicate, if_pos hp]
    rfl

/-- the array functions act voxel by voxel (any list length ≥ 1, any common shape) -/
theorem union_voxelwise (ms : List (List α)) (out : List α) (h : union ms = some out) :
    out.length = (ms.headD []).length ∧
    ∀ p, p < (ms.headD []).length → out[p]? = some (unionVox (ms.map fun m => m.getD p 0)) :=
  accumulate_clip_voxelwise (· + ·) 0 ms out h

theorem intersection_voxelwise (ms : List (List α)) (out : List α) (h : intersection ms = some out) :
    out.length = (ms.headD []).length ∧
    ∀ p, p < (ms.headD []).length → out[p]? = some (interVox (ms.map fun m => m.getD p 0)) :=
  accumulate_clip_voxelwise (· * ·) 1 ms out h

theorem subtraction_voxelwise (m0 : List α) (rest : List (List α)) (out : List α) (h : subtraction (m0 :: rest) = some out) :
    out.length = m0.length ∧
    ∀ p, p < m0.length → out[p]? = some (subVox (m0.getD p 0) (rest.map fun m => m.getD p 0)) := by
  simp only [subtraction] at h
  split at h
  · cases h
  · rename_i hc
    simp only [Bool.not_eq_true', Bool.not_eq_false] at hc
    cases h
    obtain ⟨hl, hg⟩ := accumulate_spec (· - ·) 0 rest m0
      fun m hm => by simpa using sameShape_spec (m0 :: rest) hc m (by simp [hm])
    exact ⟨by rw [List.length_map, hl], fun p hp => by rw [List.getElem?_map, hg p hp]; rfl⟩

theorem difference_voxelwise (ms : List (List α)) (out : List α) (h : difference ms = some out) :
    out.length = (ms.headD []).length ∧
    ∀ p, p < (ms.headD []).length → out[p]? = some (diffVox (ms.map fun m => m.getD p 0)) := by
  unfold difference at h
  split at h
  · rename_i u n hu hn
    cases h
    obtain ⟨hul, hup⟩ := union_voxelwise ms u hu
    obtain ⟨hnl, hnp⟩ := intersection_voxelwise ms n hn
    refine ⟨by simp [hul, hnl], ?_⟩
    intro p hp
    rw [List.getElem?_map, List.getElem?_zipWith, hup p hp, hnp p hp]
    rfl
  · cases h

/-- the model speaks about non-empty lists of equally long masks and nothing else (`inDomain`); for masks of
different sizes numpy broadcasts or raises and nothing is claimed -/
theorem inDomain_iff (ms : List (List α)) : inDomain ms = true ↔ (union ms).isSome = true := by
  unfold inDomain union
  cases h1 : ms.isEmpty <;> cases h2 : sameShape ms <;> simp

/-- `union` refuses exactly an empty list or masks of different sizes (the real code raises); the other three share the test -/
theorem union_accepts_iff (ms : List (List α)) :
    ((union ms).isSome = true ↔ ms ≠ [] ∧ ∀ m ∈ ms, m.length = (ms.headD []).length) := by
  rw [← inDomain_iff]
  simp [inDomain, sameShape]

/-! #### the two readings of "difference … XOR" -/

theorem xorAll_pair (a b : Bool) : xorAll [a, b] = xor a b := by cases a <;> cases b <;> rfl

/-- the checker the driver runs on every binary algebra case (`specVox`) is the statement's Boolean combination:
OR, AND, AND-NOT and XOR of all the masks -/
theorem specVox_documented (bs : List Bool) (b0 : Bool) :
    specVox "union" bs = some (bs.any id) ∧ specVox "intersection" bs = some (bs.all id) ∧
    specVox "subtraction" (b0 :: bs) = some (b0 && !bs.any id) ∧ specVox "difference" bs = some (xorAll bs) := by
  refine ⟨?_, ?_, ?_, ?_⟩ <;> simp [specVox]

theorem b2r_injective (a b : Bool) (h : (b2r a : α) = b2r b) : a = b := by
  cases a <;> cases b <;> simp [b2r] at h ⊢

/-- `difference` agrees with the XOR of all the masks exactly at the voxels where "some but not all" = "an odd number" -/
theorem difference_eq_xor_iff (bs : List Bool) :
    diffVox (bs.map (b2r : Bool → α)) = b2r (xorAll bs) ↔ (bs.any id && !bs.all id) = xorAll bs := by
  rw [difference_is_or_andnot_and]
  exact ⟨b2r_injective _ _, fun h => by rw [h]⟩

/-- two masks: the code meets the statement's XOR (`specVox`) -/
theorem difference_meets_spec_two (a b s : Bool) (h : specVox "difference" [a, b] = some s) :
    diffVox [(b2r a : α), b2r b] = b2r s := by
  rw [(specVox_documented [a, b] false).2.2.2, Option.some.injEq, xorAll_pair] at h
  rw [← h]; exact difference_is_xor a b

/-- **C13-K1**, one mask: the XOR of a single mask is the mask, the code returns 0 everywhere -/
theorem difference_single_is_empty (b : Bool) : diffVox [(b2r b : α)] = 0 ∧ xorAll [b] = b :=
  ⟨(difference_is_or_andnot_and [b]).trans (by cases b <;> rfl), by cases b <;> rfl⟩

/-- **C13-K1**, three masks: where all three are set the XOR is 1 and the code gives 0; where exactly two are set the
XOR is 0 and the code gives 1 -/
theorem difference_not_xor_of_three :
    diffVox [(b2r true : α), b2r true, b2r true] = 0 ∧ xorAll [true, true, true] = true ∧
    diffVox [(b2r true : α), b2r true, b2r false] = 1 ∧ xorAll [true, true, false] = false :=
  ⟨(difference_is_or_andnot_and [true, true, true]).trans rfl, rfl,
    (difference_is_or_andnot_and [true, true, false]).trans rfl, rfl⟩

/-- hence the statement's "difference = XOR" cannot hold for lists of every length 1..5: there is a list on which the
checker's answer differs from the code (the open finding C13-K1) -/
theorem difference_xor_reading_fails :
    ∃ bs : List Bool, ∀ s, specVox "difference" bs = some s → diffVox (bs.map (b2r : Bool → α)) ≠ b2r s := by
  refine ⟨[true], fun s h => ?_⟩
  rw [(specVox_documented [true] false).2.2.2, Option.some.injEq] at h
  rw [← h, show diffVox ([true].map (b2r : Bool → α)) = 0 from (difference_single_is_empty true).1]
  exact zero_ne_one

/-- an empty list is refused by all four functions (the real code raises `IndexError` at `mask_list[0]`) -/
theorem algebra_empty_rejected :
    union ([] : List (List α)) = none ∧ intersection ([] : List (List α)) = none ∧
    subtraction ([] : List (List α)) = none ∧ difference ([] : List (List α)) = none := by
  refine ⟨rfl, rfl, rfl, rfl⟩

end Algebra

section Soft
variable {ι α : Type} [Field α] [LinearOrder α] [IsStrictOrderedRing α]
open Finset

/-- **soft masks stay within [0,1]**: a filter with non-negative weights of total 1 applied to a
[0,1]-valued mask gives values in [0,1] (`s` = kernel offsets, `x q` = mask value seen at offset `q`) -/
theorem soft_range (s : Finset ι) (w x : ι → α) (hw : ∀ q ∈ s, 0 ≤ w q) (hsum : ∑ q ∈ s, w q = 1)
    (hx : ∀ q ∈ s, 0 ≤ x q ∧ x q ≤ 1) : 0 ≤ ∑ q ∈ s, w q * x q ∧ ∑ q ∈ s, w q * x q ≤ 1 := by
  refine ⟨sum_nonneg fun q hq => mul_nonneg (hw q hq) (hx q hq).1, ?_⟩
  rw [← hsum]
  exact sum_le_sum fun q hq => mul_le_of_le_one_right (hw q hq) (hx q hq).2

/-- **core deviation ≤ kernel tail**: the blurred value falls short of 1 by at most the kernel weight
landing on voxels that are not 1 -/
theorem soft_core_deficit [DecidableEq α] (s : Finset ι) (w x : ι → α) (hw : ∀ q ∈ s, 0 ≤ w q) (hsum : ∑ q ∈ s, w q = 1)
    (hx : ∀ q ∈ s, 0 ≤ x q ∧ x q ≤ 1) : 1 - ∑ q ∈ s, w q * x q ≤ ∑ q ∈ s with x q ≠ 1, w q := by
  have e : 1 - ∑ q ∈ s, w q * x q = ∑ q ∈ s, w q * (1 - x q) := by
    simp only [mul_sub, mul_one, sum_sub_distrib, hsum]
  rw [e, sum_filter]
  refine sum_le_sum fun q hq => ?_
  by_cases h : x q = 1
  · simp [h]
  · rw [if_pos h]
    exact mul_le_of_le_one_right (hw q hq) (by linarith [(hx q hq).1])

end Soft

/-- **blurred outwards**: the sphere drawn for an outwards blur (radius `⌈r + 5σ⌉`) contains every voxel
within `5σ` of a voxel of the requested core — so, by `soft_core_deficit`, a core voxel loses at most the
kernel weight lying farther than `5σ` away -/
theorem outwards_sphere_contains_core_neighbourhood (cx cy cz : Int) (r g : Rat) (hr : 0 ≤ r) (hg : 0 < g)
    (i j k u v t : Int)
    (hcore : sphereIn cx cy cz r i j k = true) (hoff : ((u * u + v * v + t * t : Int) : Rat) ≤ (g * 5) * (g * 5)) :
    sphereIn cx cy cz (preprocess r g true) (i + u) (j + v) (k + t) = true :=
  sphereIn_mono cx cy cz (r + g * 5) _ (le_preprocess_outwards r g hg.ne') _ _ _
    (sphereIn_dilate cx cy cz r (g * 5) hr (by positivity) i j k u v t hcore hoff)

/-- **cylinder, blurred outwards**: the cylinder drawn (radius `⌈r + 5σ⌉`, half height `⌈h + 5σ⌉`, slab clipped to the box)
contains every voxel of the box within `5σ` of a voxel of the requested core -/
theorem outwards_cylinder_contains_core_neighbourhood (nz : Nat) (cx cy cz : Int) (r g : Rat) (h : Int) (hr : 0 ≤ r) (hg : 0 < g)
    (i j k u v t : Int) (hcore : cylIn nz cx cy cz r h i j k = true)
    (hoff : ((u * u + v * v + t * t : Int) : Rat) ≤ (g * 5) * (g * 5)) (hkb : 0 ≤ k + t ∧ k + t < (nz : Int)) :
    cylIn nz cx cy cz (preprocess r g true) (trunc (preprocess (h : Rat) g true)) (i + u) (j + v) (k + t) = true := by
  have h5 : 0 ≤ g * 5 := by positivity
  simp only [cylIn, Bool.and_eq_true, decide_eq_true_iff] at hcore ⊢
  obtain ⟨⟨hd, hlo⟩, hhi⟩ := hcore
  -- the planar and the axial part of the offset are each at most `5σ` long
  push_cast at hoff
  have huv : ((u * u + v * v : Int) : Rat) ≤ (g * 5) * (g * 5) := by
    push_cast; linarith only [hoff, mul_self_nonneg (t : Rat)]
  obtain ⟨ht2, ht1⟩ := abs_le_of_sq_le_sq' (a := (t : Rat)) (b := g * 5)
    (by linarith only [hoff, mul_self_nonneg (u : Rat), mul_self_nonneg (v : Rat)]) h5
  -- so the half height `⌈h + 5σ⌉` exceeds `h` by at least `|t|`
  have hH : trunc (preprocess (h : Rat) g true) = ((h : Rat) + g * 5).ceil := by
    rw [preprocess_outwards_eq _ _ (ne_of_gt hg), trunc_intCast]
  have hc1 : h + t ≤ ((h : Rat) + g * 5).ceil :=
    Int.cast_le.mp (le_trans (by push_cast; linarith only [ht1]) Rat.le_ceil)
  have hc2 : h - t ≤ ((h : Rat) + g * 5).ceil :=
    Int.cast_le.mp (le_trans (by push_cast; linarith only [ht2]) Rat.le_ceil)
  refine ⟨⟨?_, ?_⟩, ?_⟩
  · exact discIn_mono cx cy (r + g * 5) _ (le_preprocess_outwards r g hg.ne') _ _
      (discIn_dilate cx cy r (g * 5) hr h5 i j u v hd huv)
  · rw [hH]; omega
  · rw [hH]; omega

/-- the constant of the statement: "leave the requested core at 1 within 1e-3" -/
theorem coreTol_documented : coreTol = 1 / 1000 := by decide +kernel

/-- kernel radius `int(4σ + 0.5)` at the half-integer widths 0.5 … 3 (examples; `kernelRadius_bounds` in `Lemmas/C13_Gauss.lean` gives `(2R−1)/8 ≤ σ` for every width) -/
theorem kernel_radius_examples :
    kernelRadius (1 / 2) = 2 ∧ kernelRadius 1 = 4 ∧ kernelRadius (3 / 2) = 6 ∧ kernelRadius 2 = 8 ∧
    kernelRadius (5 / 2) = 10 ∧ kernelRadius 3 = 12 := by decide +kernel

section Blur
variable {α : Type} [Field α] [LinearOrder α] [IsStrictOrderedRing α]

theorem w3_nonneg (w1 : Int → α) (hw : ∀ t, 0 ≤ w1 t) (q : Int × Int × Int) : 0 ≤ w3 w1 q :=
  mul_nonneg (mul_nonneg (hw _) (hw _)) (hw _)

/-- **soft masks stay within [0,1]**, for the kernel model: separable non-negative weights of total 1 over the offsets
`[-R,R]³`, nearest-voxel boundary, applied to any [0,1]-valued mask -/
theorem blur_range (nx ny nz R : Nat) (w1 : Int → α) (x : Int → Int → Int → α) (hw : ∀ t, 0 ≤ w1 t)
    (hsum : ((cube R).map (w3 w1)).sum = 1) (hx : ∀ a b c, 0 ≤ x a b c ∧ x a b c ≤ 1) (i j k : Int) :
    0 ≤ blurAt nx ny nz R w1 x i j k ∧ blurAt nx ny nz R w1 x i j k ≤ 1 := by
  unfold blurAt
  refine ⟨list_conv_nonneg _ _ _ (fun q _ => w3_nonneg w1 hw q) (fun q _ => (hx _ _ _).1), ?_⟩
  rw [← hsum]
  exact list_conv_le _ _ _ (fun q _ => w3_nonneg w1 hw q) (fun q _ => (hx _ _ _).2)

/-- `soft_core_deficit` for the kernel model; `bad` flags the offsets that may read something other than 1 -/
theorem blur_core_deficit (nx ny nz R : Nat) (w1 : Int → α) (x : Int → Int → Int → α) (hw : ∀ t, 0 ≤ w1 t)
    (hsum : ((cube R).map (w3 w1)).sum = 1) (hx : ∀ a b c, 0 ≤ x a b c) (bad : Int × Int × Int → Bool) (i j k : Int)
    (hgood : ∀ o ∈ cube R, bad o = false → seen nx ny nz x i j k o = 1) :
    1 - blurAt nx ny nz R w1 x i j k ≤ (((cube R).filter bad).map (w3 w1)).sum := by
  unfold blurAt
  rw [← hsum]
  exact list_deficit (cube R) (w3 w1) (seen nx ny nz x i j k) bad (fun q _ => w3_nonneg w1 hw q) (fun q _ => hx _ _ _) hgood

/-- conversely, it falls short of 1 by at least the weight of the offsets (flagged `P`) that read a voxel holding 0 -/
theorem blur_deficit_ge (nx ny nz R : Nat) (w1 : Int → α) (x : Int → Int → Int → α) (hw : ∀ t, 0 ≤ w1 t)
    (hsum : ((cube R).map (w3 w1)).sum = 1) (hx : ∀ a b c, x a b c ≤ 1) (P : Int × Int × Int → Bool) (i j k : Int)
    (hP : ∀ o ∈ cube R, P o = true → seen nx ny nz x i j k o = 0) :
    (((cube R).filter P).map (w3 w1)).sum ≤ 1 - blurAt nx ny nz R w1 x i j k := by
  unfold blurAt
  rw [← hsum]
  exact list_deficit_ge (cube R) (w3 w1) (seen nx ny nz x i j k) P (fun q _ => w3_nonneg w1 hw q) (fun q _ => hx _ _ _) hP

/-- 1-D weights of the form `e t / Σ e` with `e ≥ 0` and `Σ e > 0` (what `gaussian_filter1d` builds from `exp(-t²/2σ²)`) are
non-negative with total 1 … -/
theorem normalised_weights (R : Nat) (e : Int → α) (he : ∀ t, 0 ≤ e t) (hpos : 0 < ((axis R).map e).sum) :
    (∀ t, 0 ≤ e t / ((axis R).map e).sum) ∧ ((axis R).map fun t => e t / ((axis R).map e).sum).sum = 1 := by
  refine ⟨fun t => div_nonneg (he t) (le_of_lt hpos), ?_⟩
  simp only [div_eq_mul_inv, List.sum_map_mul_right]
  exact mul_inv_cancel₀ (ne_of_gt hpos)

/-- … and a separable kernel built from 1-D weights of total 1 has total weight 1 over `[-R,R]³`: the hypothesis `hsum` of
`blur_range`, `blur_core_deficit` and `blur_core_of_neighbourhood` -/
theorem kernel_total_weight (R : Nat) (w1 : Int → α) (h : ((axis R).map w1).sum = 1) : ((cube R).map (w3 w1)).sum = 1 := by
  rw [cube_weight_sum, h]; ring

/- `farOffset g o` (defined in `Lemmas/C13_Gauss.lean`): the offset `o` is farther than `5σ` from the centre of the kernel,
`(5g)² < o₁² + o₂² + o₃²`. -/

theorem b2i_cast_mem (b : Bool) : (0 : α) ≤ ((b2i b : Int) : α) ∧ ((b2i b : Int) : α) ≤ 1 := by
  cases b <;> simp [b2i]

/-- **the core of any shape**: at a voxel `(i,j,k)` of the box all of whose neighbours in the box within `5σ` are set in the
pre-blur mask `m`, the blurred value falls short of 1 by at most the kernel weight beyond `5σ`.  With `mode="nearest"` an offset `o`
reads the voxel at an offset no longer than `o` (`clampIdx_between`), so every offset within `5σ` reads a 1 and
`blur_core_deficit` applies. -/
theorem blur_core_of_neighbourhood (nx ny nz R : Nat) (w1 : Int → α) (m : Int → Int → Int → Bool) (hw : ∀ t, 0 ≤ w1 t)
    (hsum : ((cube R).map (w3 w1)).sum = 1)
    (g : Rat) (tol : α) (htail : (((cube R).filter (farOffset g)).map (w3 w1)).sum ≤ tol)
    (i j k : Nat) (hi : i < nx) (hj : j < ny) (hk : k < nz)
    (hnb : ∀ u v t : Int, ((u * u + v * v + t * t : Int) : Rat) ≤ (g * 5) * (g * 5) →
      (0 ≤ i + u ∧ i + u < (nx : Int)) → (0 ≤ j + v ∧ j + v < (ny : Int)) → (0 ≤ k + t ∧ k + t < (nz : Int)) →
      m (i + u) (j + v) (k + t) = true) :
    1 - blurAt nx ny nz R w1 (fun a b c => ((b2i (m a b c) : Int) : α)) i j k ≤ tol := by
  refine le_trans (blur_core_deficit nx ny nz R w1 _ hw hsum (fun a b c => (b2i_cast_mem _).1) (farOffset g) i j k ?_) htail
  intro o _ hfar
  obtain ⟨t1, e1, s1, b1⟩ := clampIdx_between nx i o.1 (by omega) (by exact_mod_cast hi)
  obtain ⟨t2, e2, s2, b2⟩ := clampIdx_between ny j o.2.1 (by omega) (by exact_mod_cast hj)
  obtain ⟨t3, e3, s3, b3⟩ := clampIdx_between nz k o.2.2 (by omega) (by exact_mod_cast hk)
  have hle : ((o.1 * o.1 + o.2.1 * o.2.1 + o.2.2 * o.2.2 : Int) : Rat) ≤ (g * 5) * (g * 5) := by
    simpa [farOffset, not_lt] using hfar
  simp only [seen, e1, e2, e3, hnb t1 t2 t3 (le_trans (Int.cast_le.mpr (by omega)) hle) b1 b2 b3]
  exact Int.cast_one

end Blur

/-! #### the model's Gaussian kernel: the hypotheses `hw`, `hsum`, `htail` discharged for every width `0 < σ ≤ 3`

`realW σ R t = gaussW Real.exp (↑) σ R t` is the weight `exp(-0.5/σ²·t²) / Σ_{|u| ≤ R} exp(-0.5/σ²·u²)` of `Model/C13.lean` — the
definition the driver evaluates with `Float.exp` (`Drv.C13.gaussTable`) and compares with `skimage.filters.gaussian` — read
with the real exponential; `R = kernelRadius σ = int(4σ + 0.5)`. -/

/-- the weights the theorems below are about are the model's `gaussW`, with `Real.exp` for the exponential -/
theorem realW_is_model (g : ℝ) (R : ℕ) (t : ℤ) : realW g R t = gaussW Real.exp (fun t : ℤ => (t : ℝ)) g R t := rfl

/-- the hypotheses `hw` and `hsum` for the model's Gaussian kernel (1-D and over `[-R,R]³`), every width and radius -/
theorem gaussian_kernel_weights (g : ℝ) (R : ℕ) :
    (∀ t, 0 ≤ realW g R t) ∧ ((axis R).map (realW g R)).sum = 1 ∧ ((cube R).map (w3 (realW g R))).sum = 1 := by
  obtain ⟨h1, h2⟩ := normalised_weights R (realRaw g) (fun t => (realRaw_pos g t).le) (realS_pos g R)
  exact ⟨h1, h2, kernel_total_weight R _ h2⟩

/-- **kernel tail.**  For every width `0 < σ ≤ 3` (the quantifier's range) the kernel of radius `int(4σ + 0.5)` puts at most
`1e-3` (`coreTol`) of its weight on offsets farther than `5σ` from its centre -/
theorem gaussian_kernel_tail (g : ℚ) (hg : 0 < g) (hg3 : g ≤ 3) :
    (((cube (kernelRadius g)).filter (farOffset g)).map (w3 (realW (g : ℝ) (kernelRadius g)))).sum ≤ ((coreTol : ℚ) : ℝ) := by
  rw [coreTol_documented]; push_cast
  exact gauss_tail_le g hg hg3

/-- **soft masks stay within [0,1]** under the model's Gaussian kernel: any width, any [0,1]-valued mask, every voxel -/
theorem soft_gaussian_range (nx ny nz : Nat) (g : ℝ) (R : ℕ) (x : Int → Int → Int → ℝ) (hx : ∀ a b c, 0 ≤ x a b c ∧ x a b c ≤ 1)
    (i j k : Int) : 0 ≤ blurAt nx ny nz R (realW g R) x i j k ∧ blurAt nx ny nz R (realW g R) x i j k ≤ 1 :=
  blur_range nx ny nz R (realW g R) x (gaussian_kernel_weights g R).1 (gaussian_kernel_weights g R).2.2 hx i j k

/-- `blur_core_of_neighbourhood` for the model's Gaussian kernel of any width `0 < σ ≤ 3`: nothing is left to assume about the kernel.
The two shapes below are instances: the solid drawn for an outwards blur contains the `5σ`-neighbourhood of the requested core
(`outwards_*_contains_core_neighbourhood`). -/
theorem gaussian_core_of_neighbourhood (nx ny nz : Nat) (m : Int → Int → Int → Bool) (g : Rat) (hg : 0 < g) (hg3 : g ≤ 3)
    (i j k : Nat) (hi : i < nx) (hj : j < ny) (hk : k < nz)
    (hnb : ∀ u v t : Int, ((u * u + v * v + t * t : Int) : Rat) ≤ (g * 5) * (g * 5) →
      (0 ≤ i + u ∧ i + u < (nx : Int)) → (0 ≤ j + v ∧ j + v < (ny : Int)) → (0 ≤ k + t ∧ k + t < (nz : Int)) →
      m (i + u) (j + v) (k + t) = true) :
    1 - blurAt nx ny nz (kernelRadius g) (realW (g : ℝ) (kernelRadius g)) (fun a b c => ((b2i (m a b c) : Int) : ℝ)) i j k
      ≤ 1 / 1000 :=
  blur_core_of_neighbourhood nx ny nz _ _ m (gaussian_kernel_weights _ _).1 (gaussian_kernel_weights _ _).2.2 g _
    (gauss_tail_le g hg hg3) i j k hi hj hk hnb

/-- **blurred outwards, sphere, no hypothesis left about the kernel**, radius given or left at its DEFAULT (`radius=None`: half
the smallest box dimension): the core is the ball of radius `q.radius.getD (min(nx,ny,nz) // 2)` -/
theorem soft_sphere_core_gaussian_default (q : Req) (hk : q.kind = .sphere) (hc : CentreInBox q)
    (hr0 : 0 ≤ q.radius.getD (((min (min q.nx q.ny) q.nz : Nat) / 2 : Nat) : Rat))
    (hg : 0 < q.gauss) (hg3 : q.gauss ≤ 3) (ho : q.outwards = true) :
    ∃ f, voxel q = some f ∧ ∀ i j k : Nat, i < q.nx → j < q.ny → k < q.nz →
      (dist2 q.centre i j k : Rat) ≤ (q.radius.getD (((min (min q.nx q.ny) q.nz : Nat) / 2 : Nat) : Rat)) ^ 2 →
      1 - blurAt q.nx q.ny q.nz (kernelRadius q.gauss) (realW (q.gauss : ℝ) (kernelRadius q.gauss))
            (fun a b c => ((f a b c : Int) : ℝ)) i j k ≤ 1 / 1000 := by
  refine ⟨_, voxel_sphere q hk hc, fun i j k hi hj hk' hcore =>
    gaussian_core_of_neighbourhood _ _ _ _ q.gauss hg hg3 i j k hi hj hk' fun u v t hoff _ _ _ => ?_⟩
  rw [← sq_sum_eq_dist2, pow_two, ← sphereIn_iff _ _ _ _ hr0] at hcore
  unfold Req.sphereRadius
  rw [ho]
  exact outwards_sphere_contains_core_neighbourhood _ _ _ _ q.gauss hr0 hg i j k u v t hcore hoff

/-- **blurred outwards, sphere, no hypothesis left about the kernel**: for every box, centre in the box, radius `r ≥ 0` and width
`0 < σ ≤ 3`, the model's pre-blur sphere (radius `⌈r + 5σ⌉`) filtered with the model's Gaussian kernel (radius `int(4σ + 0.5)`,
nearest-voxel boundary) is within `1e-3` of 1 at every voxel of the requested core `distance ≤ r` -/
theorem soft_sphere_core_gaussian (q : Req) (hk : q.kind = .sphere) (hc : CentreInBox q) (r : Rat) (hr : q.radius = some r)
    (hr0 : 0 ≤ r) (hg : 0 < q.gauss) (hg3 : q.gauss ≤ 3) (ho : q.outwards = true) :
    ∃ f, voxel q = some f ∧ ∀ i j k : Nat, i < q.nx → j < q.ny → k < q.nz →
      (dist2 q.centre i j k : Rat) ≤ r ^ 2 →
      1 - blurAt q.nx q.ny q.nz (kernelRadius q.gauss) (realW (q.gauss : ℝ) (kernelRadius q.gauss))
            (fun a b c => ((f a b c : Int) : ℝ)) i j k ≤ 1 / 1000 := by
  have h := soft_sphere_core_gaussian_default q hk hc (by rw [hr]; exact hr0) hg hg3 ho
  rwa [hr] at h

/-- **blurred outwards, cylinder, no hypothesis left about the kernel**, radius and / or height given or left at their DEFAULTS
(`radius=None`: half the smaller of the x, y sizes; `height=None`: the z size) -/
theorem soft_cylinder_core_gaussian_default (q : Req) (hk : q.kind = .cylinder)
    (hc : 0 ≤ q.centre.1 ∧ q.centre.1 < q.nx ∧ 0 ≤ q.centre.2.1 ∧ q.centre.2.1 < q.ny)
    (hr0 : 0 ≤ q.radius.getD (((min q.nx q.ny : Nat) / 2 : Nat) : Rat))
    (hg : 0 < q.gauss) (hg3 : q.gauss ≤ 3) (ho : q.outwards = true) :
    ∃ f, voxel q = some f ∧ ∀ i j k : Nat, i < q.nx → j < q.ny → k < q.nz →
      cylIn q.nz q.centre.1 q.centre.2.1 q.centre.2.2 (q.radius.getD (((min q.nx q.ny : Nat) / 2 : Nat) : Rat))
        ((q.height.getD (q.nz : Int)) / 2) i j k = true →
      1 - blurAt q.nx q.ny q.nz (kernelRadius q.gauss) (realW (q.gauss : ℝ) (kernelRadius q.gauss))
            (fun a b c => ((f a b c : Int) : ℝ)) i j k ≤ 1 / 1000 := by
  refine ⟨_, voxel_cylinder q hk hc, fun i j k hi hj hk' hcore =>
    gaussian_core_of_neighbourhood _ _ _ _ q.gauss hg hg3 i j k hi hj hk' fun u v t hoff _ _ hkb => ?_⟩
  unfold Req.cylRadius Req.cylHalf
  rw [ho]
  exact outwards_cylinder_contains_core_neighbourhood q.nz _ _ _ _ q.gauss _ hr0 hg i j k u v t hcore hoff hkb

/-- **blurred outwards, cylinder, no hypothesis left about the kernel** (core = the hard cylinder of radius `r` and half height
`⌊h/2⌋`, clipped to the box) -/
theorem soft_cylinder_core_gaussian (q : Req) (hk : q.kind = .cylinder)
    (hc : 0 ≤ q.centre.1 ∧ q.centre.1 < q.nx ∧ 0 ≤ q.centre.2.1 ∧ q.centre.2.1 < q.ny)
    (r : Rat) (hr : q.radius = some r) (h : Int) (hh : q.height = some h)
    (hr0 : 0 ≤ r) (hg : 0 < q.gauss) (hg3 : q.gauss ≤ 3) (ho : q.outwards = true) :
    ∃ f, voxel q = some f ∧ ∀ i j k : Nat, i < q.nx → j < q.ny → k < q.nz →
      cylIn q.nz q.centre.1 q.centre.2.1 q.centre.2.2 r (h / 2) i j k = true →
      1 - blurAt q.nx q.ny q.nz (kernelRadius q.gauss) (realW (q.gauss : ℝ) (kernelRadius q.gauss))
            (fun a b c => ((f a b c : Int) : ℝ)) i j k ≤ 1 / 1000 := by
  have h' := soft_cylinder_core_gaussian_default q hk hc (by rw [hr]; exact hr0) hg hg3 ho
  rwa [hr, hh] at h'

/-- **ellipsoid, blurred outwards: the inclusion used for spheres and cylinders is REFUTED** (the geometric half of the open finding
C13-K2; the quantitative half — a core voxel that loses more than `1e-3` — is `ellipsoid_outwards_core_deficit` below).  Radii
`(20,1,1)`, `σ = 1`: the code draws radii `(25,6,6)`; voxel `(44,8,8)` of a `48×16×16` box (centre `(24,8,8)`) belongs to the requested
core, voxel `(44,11,10)` lies within `5σ` of it (offset `(0,3,2)`, length `√13`), and is outside the enlarged ellipsoid:
`(20/25)² + (3/6)² + (2/6)² > 1`.  Enlarging every radius by `5σ` does not cover the `5σ`-neighbourhood of an elongated core. -/
theorem ellipsoid_outwards_not_dilation :
    ellipsoidIn 48 16 16 24 8 8 20 1 1 44 8 8 = true ∧
    (((0 * 0 + 3 * 3 + 2 * 2 : Int)) : Rat) ≤ ((1 : Rat) * 5) * ((1 : Rat) * 5) ∧
    ellRadii ((20 : Rat), (1 : Rat), (1 : Rat)) 1 true = (25, 6, 6) ∧
    ellipsoidIn 48 16 16 24 8 8 25 6 6 (44 + 0) (8 + 3) (8 + 2) = false := by decide +kernel

/-- the witness call of C13-K2: `ellipsoid_mask([48,16,16], radii=[20,1,1], gaussian=1.0)` (default centre `(24,8,8)`, blurred outwards) -/
def k2Req : Req := { kind := .ellipsoid, nx := 48, ny := 16, nz := 16, radii := some (20, 1, 1), gauss := 1, outwards := true }

/-- kernel offsets of squared length `≤ 14` that, from the core voxel `(44,8,8)` (nearest-voxel boundary), read a voxel outside the
enlarged ellipsoid of radii `(25,6,6)`, in the division-free form of `ellipsoid_even_integer_form` -/
def k2Bad (o : Int × Int × Int) : Bool :=
  decide (o.1 * o.1 + o.2.1 * o.2.1 + o.2.2 * o.2.2 ≤ 14) &&
    !decide ((clampIdx 48 (44 + o.1) - 24) * (clampIdx 48 (44 + o.1) - 24) * (6 * 6 * (6 * 6))
      + (clampIdx 16 (8 + o.2.1) - 8) * (clampIdx 16 (8 + o.2.1) - 8) * (25 * 25 * (6 * 6))
      + (clampIdx 16 (8 + o.2.2) - 8) * (clampIdx 16 (8 + o.2.2) - 8) * (25 * 25 * (6 * 6)) ≤ 25 * 25 * (6 * 6) * (6 * 6))

/-- **C13-K2, quantitative witness** (about the model: its pre-blur mask and its Gaussian kernel with the real exponential).  For the
call `k2Req` the model draws the ellipsoid of radii `(25,6,6)`; voxel `(44,8,8)` belongs to the requested core (radii `(20,1,1)`), and its
blurred value falls short of 1 by MORE than `1e-3`: 28 kernel offsets of squared length 13 or 14 read a voxel outside the enlarged
ellipsoid, each carries at least `exp(-7)/S³`, and `28·exp(-7)/S³ > 1e-3` (`S < 2.81`, `exp 7 < 1097`).  So the clause "leave the
requested core at 1 within 1e-3" fails for this input, whatever the floating-point details (measured on the real code: `2.9e-3`). -/
theorem ellipsoid_outwards_core_deficit :
    ∃ f, voxel k2Req = some f ∧
      ellipsoidIn 48 16 16 24 8 8 20 1 1 44 8 8 = true ∧
      (1 : ℝ) / 1000 < 1 - blurAt 48 16 16 (kernelRadius 1) (realW 1 (kernelRadius 1)) (fun a b c => ((f a b c : Int) : ℝ)) 44 8 8 := by
  have hcount : ((cube 4).filter k2Bad).length = 28 := by decide +kernel
  refine ⟨fun i j k => b2i (ellipsoidIn 48 16 16 24 8 8 25 6 6 i j k), ?_, ellipsoid_outwards_not_dilation.1, ?_⟩
  · have hri : k2Req.radiiInt = (20, 1, 1) := by decide +kernel
    have hce : k2Req.centre = (24, 8, 8) := by decide +kernel
    have hrad : ellRadii (((20 : Int) : Rat), ((1 : Int) : Rat), ((1 : Int) : Rat)) k2Req.gauss k2Req.outwards = (25, 6, 6) :=
      ellipsoid_outwards_not_dilation.2.2.1
    simp only [voxel, hce, hri, hrad]
    rfl
  · rw [kernel_radius_examples.2.1]
    have hge := blur_deficit_ge 48 16 16 4 (realW 1 4)
      (fun a b c => ((b2i (ellipsoidIn 48 16 16 24 8 8 25 6 6 a b c) : Int) : ℝ)) (gaussian_kernel_weights 1 4).1
      (gaussian_kernel_weights 1 4).2.2 (fun a b c => (b2i_cast_mem _).2) k2Bad 44 8 8 (by
        intro o _ ho
        simp only [k2Bad, Bool.and_eq_true, Bool.not_eq_true', decide_eq_false_iff_not] at ho
        have hout : ellipsoidIn 48 16 16 24 8 8 25 6 6 (clampIdx 48 (44 + o.1)) (clampIdx 16 (8 + o.2.1))
            (clampIdx 16 (8 + o.2.2)) = false :=
          Bool.eq_false_iff.mpr fun hin => ho.2 ((ellipsoid_even_integer_form 48 16 16 rfl rfl rfl 24 8 8 25 6 6
            (by norm_num) (by norm_num) (by norm_num) _ _ _).1 hin)
        simp [seen, hout, b2i])
    have hlow := sum_filter_ge_length (cube 4) k2Bad (w3 (realW 1 4)) (Real.exp (-7) / realS 1 4 ^ 3) (by
      intro o _ ho
      simp only [k2Bad, Bool.and_eq_true, decide_eq_true_iff] at ho
      have h14 : ((o.1 * o.1 + o.2.1 * o.2.1 + o.2.2 * o.2.2 : Int) : ℝ) ≤ 14 := by exact_mod_cast ho.1
      push_cast at h14
      exact le_w3_realW 1 one_pos 4 o 7 (by linarith only [h14]))
    rw [hcount] at hlow
    have hnum := weight_28_offsets_gt
    push_cast at hlow
    linarith only [hge, hlow, hnum]

/-! ### non-vacuity: concrete inputs meeting the hypotheses -/

-- an off-centre sphere clipped by the box
example : (voxel { kind := .sphere, nx := 6, ny := 7, nz := 8, center := some (1, 5, 7), radius := some 3 }).isSome = true := by decide
example : CentreInBox { kind := .sphere, nx := 6, ny := 7, nz := 8, center := some (1, 5, 7), radius := some 3 } := by
  simp [CentreInBox, Req.centre]
-- a cylinder taller than the box: voxel (3,3,0) is inside, the slab is clipped
example : (hardMask { kind := .cylinder, nx := 6, ny := 6, nz := 6, radius := some 1, height := some 30 }).map (·[(3 * 6 + 3) * 6 + 0]?) = some (some 1) := by decide
-- an ellipsoid on an even non-cubic box with an off-centre centre
example : ellipsoidIn 6 8 10 2 4 5 2 3 4 2 7 5 = true :=
  (ellipsoid_exact_even 6 8 10 rfl rfl rfl 2 4 5 2 3 4 (by decide) (by decide) (by decide) 2 7 5).2 (by norm_num)
-- a spherical shell of thickness 2 around radius 2: (r−1)² < d² ≤ (r+1)²
example : (sphereIn 4 4 4 (2 + 2 / 2) 4 4 7 && !sphereIn 4 4 4 (2 - 2 / 2) 4 4 7) = true :=
  (sphere_shell_analytic 4 4 4 2 2 (by norm_num) (by norm_num) 4 4 7).2 (by norm_num [dist2])
-- generate_mask("sphere_r5") uses a 14-voxel box; "s_shell_r5_s3" an 18-voxel box
example : genSize [5] none 4 = 14 ∧ (generate .sshell [5, 3] none 4).map (·.nx) = some 18 := by decide
-- three binary masks over ℚ
example : diffVox [(b2r true : ℚ), b2r false, b2r true] = 1 ∧ unionVox [(b2r false : ℚ), b2r false] = 0 :=
  ⟨(difference_is_or_andnot_and [true, false, true]).trans rfl, (union_is_or [false, false]).trans rfl⟩

-- the name of a shape: format, then parse
example : (formatShape .cylinder [4, 7]).map String.ofList = some "cylinder_r4_h7" ∧
    parseShape "e_shell_rx4_ry05_rz6_s2".toList = some (.eshell, [4, 5, 6, 2]) ∧ parseShape "sphere_r".toList = none := by decide +kernel
-- a negative centre index wraps (numpy), an index beyond the box raises
example : (voxel { kind := .sphere, nx := 6, ny := 7, nz := 8, center := some (-1, 3, 4), radius := some 2 }).isSome = true ∧
    (voxel { kind := .sphere, nx := 6, ny := 7, nz := 8, center := some (6, 3, 4), radius := some 2 }).isSome = false := by decide +kernel
-- a kernel meeting the hypotheses of `blur_range` / `blur_core_of_neighbourhood` (radius 1, weights 1/4, 1/2, 1/4; no offset beyond 5σ)
example : ((cube 1).map (w3 fun t => if t = 0 then (1 / 2 : ℚ) else 1 / 4)).sum = 1 ∧
    (((cube 1).filter (farOffset 1)).map (w3 fun t => if t = 0 then (1 / 2 : ℚ) else 1 / 4)).sum ≤ coreTol := by decide +kernel
-- the default radius of a 10 x 12 x 14 box is 5 (sphere) / 5 (cylinder), the default height 14: hypotheses of the `_default` theorems
example : (0 : Rat) ≤ (none : Option Rat).getD (((min (min 10 12) 14 : Nat) / 2 : Nat) : Rat) ∧
    (none : Option Int).getD ((14 : Nat) : Int) / 2 = 7 := by decide +kernel
-- one mask and three masks: union minus intersection is not XOR (C13-K1)
example : diffVox [(b2r true : ℚ)] = 0 ∧ xorAll [true] = true := difference_single_is_empty true

end CryoCat.C13
