import CryoCat.Lemmas.C07_Clean
import CryoCat.Lemmas.C07_Peaks
/-! C07 — score-ranked distance suppression keeps a separated, dominating set.

Distances are compared in squared form: "closer than d" is `dist² < d·d` (the same decision for the
`d > 0` of the property), "within the diameter D = dn/dd" is `dist²·dd² ≤ dn²`. -/
set_option linter.unusedSectionVars false
namespace CryoCat.C07
open CryoCat.Gen.C07

/-! ### translator obligations: the operators, directions, offsets and permutations read from cryoCAT's source (`Gen/C07.lean`) -/

theorem anchors_ok : anchorsOk = true := by decide

/-- `dist < d_cut`; the processed particle is exempt; `argsort[::-1]` when greater is kept, `argsort`
when lower is kept; every group is selected by `feature_id` and measured on its own positions -/
theorem clean_operators_documented :
    cleanDistCmp = .lt ∧ cleanSelfExcluded = true ∧ cleanSortDescGreater = true ∧ cleanSortDescLower = false ∧
      cleanGroupsByFeature = true ∧ cleanPosFromGroup = true :=
  ⟨rfl, rfl, rfl, rfl, rfl, rfl⟩

/-- the keep mask of one group starts all-true, `if keep[j]` guards the step, `keep[close] = False` removes,
`iloc[keep]` selects the survivors in row order and the concatenation becomes `self.df` -/
theorem clean_keep_mask_documented : cleanKeepMask = true := by decide

/-- the signature defaults the statement relies on (the correspondence run omits these keywords in a share of the
calls): `metric_id="score"`, `keep_greater=True` (greater is better unless lower is asked for), no `dist_mask`;
`get_motl_subset(..., reset_index=True)`; `angles_order="zxz"`, `angles_numbering=0`, no cluster-size / particle-number
limit, no mask, symmetry c1, nothing written -/
theorem defaults_documented :
    cleanDefaults = [("metric_id", "'score'"), ("keep_greater", "True"), ("dist_mask", "None")] ∧
    subsetDefaults = [("feature_id", "'tomo_id'"), ("return_df", "False"), ("reset_index", "True")] ∧
    peakDefaults = [("object_id", "None"), ("scores_threshold", "None"), ("sigma_threshold", "None"),
      ("cluster_size", "None"), ("n_particles", "None"), ("output_path", "None"), ("output_type", "'emmotl'"),
      ("angles_order", "'zxz'"), ("symmetry", "'c1'"), ("angles_numbering", "0"), ("tomo_mask", "None")] ∧
    loadDefaults = [("angles_order", "'zxz'")] :=
  ⟨rfl, rfl, rfl, rfl⟩

/-! The whole bodies of the functions the statement runs through, as digests of their normalised dumps, ONE theorem per
function (a changed function breaks the theorem that carries its name; the Python-side anchor `body:<function>` names
the first differing normalised line, documented text and today's text). The dumps are printed below `end` in
`Gen/C07.lean`: statement kinds + expressions; local variables numbered in order of first binding, never-read names
written `_`, comprehension variables scoped; type annotations, docstrings and the text of exception / log messages
left out; runs of independent consecutive assignments in canonical order. Renaming a local variable, adding a type
hint, rewording a message or swapping two independent assignments leaves a digest unchanged; any added, removed or
altered statement — also in a branch the correspondence run never executes — changes it. -/

theorem body_clean_by_distance_documented : cleanByDistanceBody = ("53d5ed6a27a1f97f", 32) := rfl
theorem body_get_motl_subset_documented : getMotlSubsetBody = ("1c0cb3fa2e860f0e", 12) := rfl
theorem body_get_coordinates_documented : getCoordinatesBody = ("1c17071c5bf60581", 6) := rfl
theorem body_point_pairwise_dist_documented : pointPairwiseDistBody = ("36011e2af37cb2b5", 8) := rfl
theorem body_scores_extract_particles_documented : scoresExtractParticlesBody = ("8ac25e7ad974b1c1", 92) := rfl
theorem body_rot_angles_load_documented : rotAnglesLoadBody = ("1499f2ae2f25072c", 20) := rfl
/-- helpers every call runs through: `cryomap.read` (both maps), `Motl.__init__` / `check_df_correct_format` (the list
handed in), `Motl.fill` / `create_empty_motl_df` (the list handed out), `Motl.get_feature` (the group values) -/
theorem body_cryomap_read_documented : cryomapReadBody = ("f770242e19993a25", 23) := rfl
theorem body_motl_init_documented : motlInitBody = ("13cf635e919b2a4f", 8) := rfl
theorem body_check_df_correct_format_documented : checkDfCorrectFormatBody = ("07fa46686aea7fc9", 5) := rfl
theorem body_motl_fill_documented : motlFillBody = ("fdc56b41a00636ea", 14) := rfl
theorem body_get_feature_documented : getFeatureBody = ("44711fb3d9711d64", 7) := rfl
theorem body_create_empty_motl_df_documented : createEmptyMotlDfBody = ("37eec394ec18a7c9", 4) := rfl

/-- the six functions of the two call paths themselves (without the helpers every call runs through), as one conjunction -/
theorem bodies_documented :
    cleanByDistanceBody = ("53d5ed6a27a1f97f", 32) ∧ getMotlSubsetBody = ("1c0cb3fa2e860f0e", 12) ∧
    getCoordinatesBody = ("1c17071c5bf60581", 6) ∧ pointPairwiseDistBody = ("36011e2af37cb2b5", 8) ∧
    scoresExtractParticlesBody = ("8ac25e7ad974b1c1", 92) ∧ rotAnglesLoadBody = ("1499f2ae2f25072c", 20) :=
  ⟨body_clean_by_distance_documented, body_get_motl_subset_documented, body_get_coordinates_documented,
    body_point_pairwise_dist_documented, body_scores_extract_particles_documented, body_rot_angles_load_documented⟩

/-- `cryomap.read`: an ndarray is copied as it is (`np.array(input_map)`, no dtype, the cast only under
`data_type is not None`, which `scores_extract_particles` never passes); a file is read by mrcfile / emfile and
transposed `(2, 1, 0)` (file axes section, row, column → array axes x, y, z) under the default `transpose=True` -/
theorem read_documented :
    readArrayBranchNoCast = true ∧ readFileTranspose = [2, 1, 0] ∧
      readDefaults = [("transpose", "True"), ("data_type", "None")] :=
  ⟨rfl, rfl, rfl⟩

/-- positions are `[x, y, z] + [shift_x, shift_y, shift_z]`; the distance is the Euclidean norm of the difference -/
theorem position_documented :
    coordColumns = ["x", "y", "z"] ∧ shiftColumns = ["shift_x", "shift_y", "shift_z"] ∧ distIsEuclidNorm = true :=
  ⟨rfl, rfl, rfl⟩

/-- `scores_map > threshold`; ball radius is `particle_diameter`; `<= score`; best first -/
theorem peak_operators_documented :
    peakThrCmp = .gt ∧ peakBallRadius = "particle_diameter" ∧ peakScoreCmp = .le ∧ peakSortDesc = true :=
  ⟨rfl, rfl, rfl, rfl⟩

/-- the threshold reaches the comparison as `np.float64(threshold)`: a float32 score map (every MRC file) is then
compared in double precision, which is exact for float32 and float64 scores alike — the premise under which the
model's exact comparison `thr < score` is what the code decides. (NumPy ≥ 2 rounds a Python-float threshold to
float32 next to a float32 array: a voxel at `np.float32(0.1)` was lost for the threshold `0.1`; defect D56,
repaired by efc4c0a.) -/
theorem peak_threshold_double_documented : peakThrInDouble = true := by decide

/-- `x,y,z = rpos[:, 0..2] + 1`; `ang_idx = angles_map[rpos] - angles_numbering`; phi, theta, psi are
columns 0, 1, 2 of the loaded list and are filled into the motl under their own names, like the score -/
theorem peak_fill_documented :
    peakPosFill = [("x", 0, 1), ("y", 1, 1), ("z", 2, 1)] ∧ peakAngIdxCols = [0, 1, 2] ∧
      peakAngIdxSubtractsNumbering = true ∧ peakAngleCols = [("phi", 0), ("theta", 1), ("psi", 2)] ∧
      peakFillDirect = true :=
  ⟨rfl, rfl, rfl, rfl, rfl⟩

/-- `rot_angles_load`: a `zzx` list holds (phi, psi, theta): arrays are re-indexed `[0, 2, 1]`, files get the
column names phi, psi, theta and are read out as phi, theta, psi -/
theorem zzx_documented :
    zzxArrayPerm = [0, 2, 1] ∧ zzxFileNames = ["phi", "psi", "theta"] ∧ zxzFileNames = ["phi", "theta", "psi"] ∧
      fileSelect = ["phi", "theta", "psi"] :=
  ⟨rfl, rfl, rfl, rfl⟩

section Greedy
variable {P : Type} (near : P → P → Bool)

theorem greedy_sublist (order : List P) : (suppress near order).Sublist order := suppress_sublist near order

/-- no kept item suppresses a later kept item (for a symmetric `near`: no two kept items are near) -/
theorem greedy_separated (order : List P) : (suppress near order).Pairwise (fun a b => near a b = false) :=
  suppress_separated near order

/-- for **every processing order** in which earlier candidates are related by `R` to later ones, e.g. sorted by
non-increasing score, however score ties are broken -/
theorem greedy_dominated (R : P → P → Prop) (order : List P) (hR : order.Pairwise R) :
    ∀ c ∈ order, c ∈ suppress near order ∨ ∃ a ∈ suppress near order, near a c = true ∧ R a c :=
  suppress_dominated near R order hR

theorem suppress_fold_of_separated (kept l : List P) (h : (kept ++ l).Pairwise (fun a b => near a b = false)) :
    l.foldl (suppressStep near) kept = kept ++ l :=
  Greedy.foldl_of_separated near kept l h

theorem greedy_fixed_of_separated (l : List P) (h : l.Pairwise (fun a b => near a b = false)) : suppress near l = l :=
  Greedy.foldl_of_separated near [] l h

/-- **cleaning is idempotent**: suppressing the kept list again (in the order it was returned) removes nothing -/
theorem greedy_idempotent (order : List P) : suppress near (suppress near order) = suppress near order :=
  greedy_fixed_of_separated near _ (greedy_separated near order)

end Greedy

section Clean
variable {α : Type} [CommRing α] [LinearOrder α]

/-- within every group no two remaining particles are closer than d -/
def Separated (d : α) (out : List (Item α)) : Prop :=
  ∀ a ∈ out, ∀ b ∈ out, a.idx ≠ b.idx → a.grp = b.grp → ¬ dist2 a.pos b.pos < d * d

/-- equal or better score (lower, when lower is preferred) -/
def BetterEq (keepGreater : Bool) (a b : α) : Prop := if keepGreater then b ≤ a else a ≤ b

/-- every removed particle lies within d of a remaining particle of its own group with an equal or better score -/
def Dominated (d : α) (keepGreater : Bool) (items out : List (Item α)) : Prop :=
  ∀ r ∈ items, r ∉ out → ∃ k ∈ out, k.grp = r.grp ∧ dist2 k.pos r.pos < d * d ∧ BetterEq keepGreater k.score r.score

/-- the remaining particles of every group are input particles, unaltered, none twice, in row order -/
def Remaining (items out : List (Item α)) : Prop :=
  ∀ k, (out.filter (fun it => decide (it.grp = k))).Sublist items

/-- particles of different groups never affect each other: what remains of group `k` is exactly what cleaning
group `k` alone gives -/
def Independent (d : α) (keepGreater : Bool) (items : List (Item α)) : Prop :=
  ∀ k, (cleanItems d keepGreater items).filter (fun it => decide (it.grp = k)) =
    cleanItems d keepGreater (items.filter (fun it => decide (it.grp = k)))

theorem betterEq_iff (kg : Bool) (a b : α) : betterEq kg a b = true ↔ BetterEq kg a b := by
  cases kg <;> simp [betterEq, BetterEq]

variable (d : α) (kg : Bool) (items : List (Item α))

theorem clean_separated (hN : (items.map (·.idx)).Nodup) : Separated d (cleanItems d kg items) := by
  intro a ha b hb hne hg
  rw [mem_cleanItems] at ha hb
  rw [← hg] at hb
  exact of_decide_eq_false (cleanGroup_separated d kg _ (nodup_filter_idx items hN _) a b ha hb hne)

theorem clean_dominated (hN : (items.map (·.idx)).Nodup) : Dominated d kg items (cleanItems d kg items) := by
  intro r hr hout
  have hrg : r ∈ items.filter (fun x => decide (x.grp = r.grp)) := List.mem_filter.2 ⟨hr, decide_eq_true rfl⟩
  rcases cleanGroup_dominated d kg _ (nodup_filter_idx items hN _) r hrg with h | ⟨k, hk, hc, hs⟩
  · exact absurd ((mem_cleanItems d kg items r).2 h) hout
  · have hkg := (cleanGroup_filter_sub d kg items _ k hk).2
    exact ⟨k, (mem_cleanItems d kg items k).2 (by rw [hkg]; exact hk), hkg, of_decide_eq_true hc,
      (betterEq_iff kg _ _).1 hs⟩

theorem clean_groups_independent : Independent d kg items := by
  intro k
  rw [filter_cleanItems]
  by_cases hk : k ∈ items.map (·.grp)
  · obtain ⟨it, hit, e⟩ := List.mem_map.1 hk
    rw [if_pos ((mem_groupKeys _ k).2 hk), cleanItems_single d kg _ k
      (List.ne_nil_of_mem (List.mem_filter.2 ⟨hit, decide_eq_true e⟩))
      (fun x hx => of_decide_eq_true (List.mem_filter.1 hx).2)]
  · rw [if_neg (mt (mem_groupKeys _ k).1 hk), show items.filter _ = [] from restrict_eq_nil k items hk, cleanItems_nil]

theorem clean_remaining : Remaining items (cleanItems d kg items) := by
  intro k
  rw [filter_cleanItems]
  split
  · exact (cleanGroup_sublist d kg _).trans List.filter_sublist
  · exact List.nil_sublist _

/-- **C07, cleaning clauses, for every particle list, grouping field, radius and score direction** (no
hypothesis: `itemsOf` numbers the rows itself) -/
theorem cleanByDistance_spec (feature : Field) (l : List (Particle α)) :
    Separated d (cleanByDistance d kg feature l) ∧
      Dominated d kg (itemsOf feature l) (cleanByDistance d kg feature l) ∧
      Remaining (itemsOf feature l) (cleanByDistance d kg feature l) ∧
      Independent d kg (itemsOf feature l) :=
  ⟨clean_separated d kg _ (itemsOf_nodup feature l), clean_dominated d kg _ (itemsOf_nodup feature l),
    clean_remaining d kg _, clean_groups_independent d kg _⟩

theorem checkCleanR_eq_core_and_order (rel : Item α → Item α → Bool) (out : List (Item α)) :
    checkCleanR rel kg items out = (checkCleanCoreR rel kg items out && groupsInOrder items out) := by
  unfold checkCleanR checkCleanCoreR
  rw [Bool.and_right_comm _ (groupsInOrder items out), Bool.and_right_comm _ (groupsInOrder items out)]

theorem checkCleanR_core (rel : Item α → Item α → Bool) (out : List (Item α)) (h : checkCleanR rel kg items out = true) :
    checkCleanCoreR rel kg items out = true := by
  rw [checkCleanR_eq_core_and_order, Bool.and_eq_true] at h
  exact h.1

/-- The order-free checker is the one whose rejection is reported as a violation of the statement. (Unfolding the
Boolean tests gives `p ∨ q` where the clauses have `¬ p → q`.) -/
theorem checkCleanCoreR_iff (rel : Item α → Item α → Bool) (out : List (Item α)) :
    checkCleanCoreR rel kg items out = true ↔
      ((∀ a ∈ out, a ∈ items) ∧ (out.map (·.idx)).Nodup ∧
        (∀ a ∈ out, ∀ b ∈ out, a.idx ≠ b.idx → a.grp = b.grp → rel a b = false) ∧
        (∀ r ∈ items, r ∉ out → ∃ k ∈ out, k.grp = r.grp ∧ rel k r = true ∧ BetterEq kg k.score r.score)) := by
  simp only [checkCleanCoreR, Bool.and_eq_true, List.all_eq_true, List.contains_iff_mem, Bool.or_eq_true, beq_iff_eq,
    Bool.not_eq_eq_eq_not, Bool.not_true, decide_eq_false_iff_not, List.any_eq_true, decide_eq_true_eq, nodupB_iff,
    betterEq_iff, or_iff_not_imp_left, Classical.not_imp, not_not, and_imp, and_assoc, ne_eq]

/-- **sound and complete against the clause Props**: the order-free checker can neither miss a violated clause nor
reject a result that meets the clauses -/
theorem checkCleanCore_iff (out : List (Item α)) :
    checkCleanCoreR (closer d) kg items out = true ↔
      ((∀ a ∈ out, a ∈ items) ∧ (out.map (·.idx)).Nodup ∧ Separated d out ∧ Dominated d kg items out) := by
  rw [checkCleanCoreR_iff]
  simp only [closer, decide_eq_false_iff_not, decide_eq_true_eq, Separated, Dominated]

/-- the same for the reading `dist ≤ d` of an exact-distance tie -/
theorem checkCleanCoreLe_iff (out : List (Item α)) :
    checkCleanCoreR (closerLe d) kg items out = true ↔
      ((∀ a ∈ out, a ∈ items) ∧ (out.map (·.idx)).Nodup ∧
        (∀ a ∈ out, ∀ b ∈ out, a.idx ≠ b.idx → a.grp = b.grp → ¬ dist2 a.pos b.pos ≤ d * d) ∧
        (∀ r ∈ items, r ∉ out → ∃ k ∈ out, k.grp = r.grp ∧ dist2 k.pos r.pos ≤ d * d ∧ BetterEq kg k.score r.score)) := by
  rw [checkCleanCoreR_iff]
  simp only [closerLe, decide_eq_false_iff_not, decide_eq_true_eq]

theorem groupsInOrder_iff (out : List (Item α)) : groupsInOrder items out = true ↔ Remaining items out := by
  show _ ↔ ∀ k, (restrict k out).Sublist items
  unfold groupsInOrder
  rw [List.all_eq_true]
  refine ⟨fun h k => ?_, fun h k _ => List.isSublist_iff_sublist.2 (h k)⟩
  by_cases hk : k ∈ out.map (·.grp)
  · exact List.isSublist_iff_sublist.1 (h k ((mem_dedup _ k).2 hk))
  · rw [restrict_eq_nil k out hk]; exact List.nil_sublist _

theorem checkClean_iff (out : List (Item α)) :
    checkClean d kg items out = true ↔
      ((∀ a ∈ out, a ∈ items) ∧ (out.map (·.idx)).Nodup ∧ Separated d out ∧ Dominated d kg items out ∧
        Remaining items out) := by
  unfold checkClean
  rw [checkCleanR_eq_core_and_order, Bool.and_eq_true, checkCleanCore_iff, groupsInOrder_iff]
  simp only [and_assoc]

theorem clean_nodup (hN : (items.map (·.idx)).Nodup) : ((cleanItems d kg items).map (·.idx)).Nodup :=
  Lists.nodup_map_on _
    (fun x hx y hy => Lists.eq_of_nodup_map (·.idx) hN (cleanItems_sub d kg items x hx) (cleanItems_sub d kg items y hy))
    (nodup_of_groups_sublist items _ (Lists.nodup_of_nodup_map _ hN) fun k => clean_remaining d kg items k)


/-- **the checker cannot raise a false alarm on a correct cleaning**: the model's own output passes -/
theorem checkClean_accepts_model (hN : (items.map (·.idx)).Nodup) :
    checkClean d kg items (cleanItems d kg items) = true :=
  (checkClean_iff d kg items _).2 ⟨cleanItems_sub d kg items, clean_nodup d kg items hN, clean_separated d kg items hN,
    clean_dominated d kg items hN, clean_remaining d kg items⟩

theorem checkClean_accepts_cleanByDistance (feature : Field) (l : List (Particle α)) :
    checkClean d kg (itemsOf feature l) (cleanByDistance d kg feature l) = true ∧
      checkCleanCoreR (closer d) kg (itemsOf feature l) (cleanByDistance d kg feature l) = true :=
  have h := checkClean_accepts_model d kg (itemsOf feature l) (itemsOf_nodup feature l)
  ⟨h, checkCleanR_core kg _ _ _ h⟩

/-- the checker run on the implementation's output is sound for every cleaning clause of the statement -/
theorem checkClean_sound (out : List (Item α)) (h : checkClean d kg items out = true) :
    (∀ a ∈ out, a ∈ items) ∧ Separated d out ∧ Dominated d kg items out ∧ Remaining items out ∧
      (out.map (·.idx)).Nodup := by
  obtain ⟨h1, hn, hs, hd, hr⟩ := (checkClean_iff d kg items out).1 h
  exact ⟨h1, hs, hd, hr, hn⟩

/-- a result holding the same row twice is rejected (the index test of the checker is not vacuous) -/
theorem checkClean_rejects_duplicate (rel : Item α → Item α → Bool) (a : Item α) (out : List (Item α)) (h : a ∈ out) :
    checkCleanR rel kg items (a :: out) = false := by
  rw [Bool.eq_false_iff, Ne, checkCleanR_eq_core_and_order, Bool.and_eq_true, checkCleanCoreR_iff]
  exact fun hc => (List.nodup_cons.1 hc.1.2.1).1 (List.mem_map.2 ⟨a, h, rfl⟩)

/-- the other reading of an exact-distance tie (`dist ≤ d` counts as close): same clauses with `≤`.
A list holding a pair at distance exactly `d` is reported only when *both* checkers reject it -/
theorem checkCleanLe_sound (out : List (Item α)) (h : checkCleanLe d kg items out = true) :
    (∀ a ∈ out, a ∈ items) ∧ (out.map (·.idx)).Nodup ∧ Remaining items out ∧
      (∀ a ∈ out, ∀ b ∈ out, a.idx ≠ b.idx → a.grp = b.grp → ¬ dist2 a.pos b.pos ≤ d * d) ∧
      (∀ r ∈ items, r ∉ out → ∃ k ∈ out, k.grp = r.grp ∧ dist2 k.pos r.pos ≤ d * d ∧ BetterEq kg k.score r.score) := by
  unfold checkCleanLe at h
  rw [checkCleanR_eq_core_and_order, Bool.and_eq_true, checkCleanCoreLe_iff, groupsInOrder_iff] at h
  obtain ⟨⟨h1, hn, h2, h3⟩, hr⟩ := h
  exact ⟨h1, hn, hr, h2, h3⟩

theorem checkCleanR_congr (rel rel' : Item α → Item α → Bool) (out : List (Item α))
    (hrel : ∀ a ∈ items, ∀ b ∈ items, a ≠ b → a.grp = b.grp → rel a b = rel' a b) :
    checkCleanR rel kg items out = checkCleanR rel' kg items out := by
  have key : ∀ r r' : Item α → Item α → Bool,
      (∀ a ∈ items, ∀ b ∈ items, a ≠ b → a.grp = b.grp → r a b = r' a b) →
      checkCleanCoreR r kg items out = true → checkCleanCoreR r' kg items out = true := by
    intro r r' hr
    rw [checkCleanCoreR_iff, checkCleanCoreR_iff]
    rintro ⟨h1, hn, h2, h3⟩
    refine ⟨h1, hn, fun a ha b hb hne hg => ?_, fun x hx hout => ?_⟩
    · rw [← hr a (h1 a ha) b (h1 b hb) (fun e => hne (congrArg _ e)) hg]
      exact h2 a ha b hb hne hg
    · obtain ⟨k, hk, hg, hc, hs⟩ := h3 x hx hout
      exact ⟨k, hk, hg, (hr k (h1 k hk) x hx (fun e => hout (e ▸ hk)) hg) ▸ hc, hs⟩
  rw [checkCleanR_eq_core_and_order, checkCleanR_eq_core_and_order]
  congr 1
  exact Bool.eq_iff_iff.2 ⟨key _ _ hrel, key _ _ fun a ha b hb hne hg => (hrel a ha b hb hne hg).symm⟩

/-- `hno` speaks of DIFFERENT rows of ONE group only (pairs of different groups, and a row with itself, may be at any
distance, so `d = 0` is not excluded): this is what the generator guarantees, `_has_tie` looks inside each group only -/
theorem checkClean_eq_checkCleanLe_of_no_tie (out : List (Item α))
    (hno : ∀ a ∈ items, ∀ b ∈ items, a ≠ b → a.grp = b.grp → dist2 a.pos b.pos ≠ d * d)
    (hsub : ∀ a ∈ out, a ∈ items) :
    checkClean d kg items out = checkCleanLe d kg items out := by
  refine checkCleanR_congr kg items _ _ out fun a ha b hb hne hg => ?_
  unfold closer closerLe
  rw [decide_eq_decide]
  exact ⟨le_of_lt, fun h => lt_of_le_of_ne h (hno a ha b hb hne hg)⟩

theorem restrict_subset (k : α) (out : List (Item α)) (hm : ∀ a ∈ out, a ∈ items) :
    ∀ a ∈ restrict k out, a ∈ restrict k items := by
  intro a ha
  rw [mem_restrict] at ha ⊢
  exact ⟨hm a ha.1, ha.2⟩

theorem dominated_restrict (near : Item α → Item α → Prop) (k : α) (out : List (Item α))
    (hd : ∀ r ∈ items, r ∉ out → ∃ c ∈ out, c.grp = r.grp ∧ near c r ∧ BetterEq kg c.score r.score) :
    ∀ r ∈ restrict k items, r ∉ restrict k out →
      ∃ c ∈ restrict k out, c.grp = r.grp ∧ near c r ∧ BetterEq kg c.score r.score := by
  intro r hr hout
  rw [mem_restrict] at hr
  obtain ⟨c, hc, hg, hcl, hb⟩ := hd r hr.1 fun h => hout ((mem_restrict k out r).2 ⟨h, hr.2⟩)
  exact ⟨c, (mem_restrict k out c).2 ⟨hc, hg.trans hr.2⟩, hg, hcl, hb⟩

/-- the cleaning clauses for the rows of group `k` alone -/
def GroupSpec (k : α) (out : List (Item α)) : Prop :=
  (∀ a ∈ restrict k out, a ∈ restrict k items) ∧ Separated d (restrict k out) ∧
    Dominated d kg (restrict k items) (restrict k out)

/-- **the clauses decompose over the groups**, for any claimed result: no row of another group enters the verdict
on group `k` -/
theorem spec_iff_groups (out : List (Item α)) :
    ((∀ a ∈ out, a ∈ items) ∧ Separated d out ∧ Dominated d kg items out) ↔ ∀ k, GroupSpec d kg items k out := by
  constructor
  · rintro ⟨hm, hs, hd⟩ k
    exact ⟨restrict_subset items k out hm,
      fun a ha b hb => hs a (restrict_sub ha) b (restrict_sub hb),
      dominated_restrict kg items _ k out hd⟩
  · intro h
    refine ⟨?_, ?_, ?_⟩
    · intro a ha
      exact restrict_sub ((h a.grp).1 a (mem_restrict_self ha))
    · intro a ha b hb hne hg
      exact (h a.grp).2.1 a (mem_restrict_self ha) b ((mem_restrict _ out b).2 ⟨hb, hg.symm⟩) hne hg
    · intro r hr hout
      obtain ⟨c, hc, hg, hcl, hb⟩ := (h r.grp).2.2 r (mem_restrict_self hr) fun hh => hout (restrict_sub hh)
      exact ⟨c, restrict_sub hc, hg, hcl, hb⟩

/-- the verdict list ranges over the group values that occur; for any other `k` both sub-lists are empty, whence `hC` -/
theorem groupwise_iff (C : List (Item α) → List (Item α) → Bool) (S : List (Item α) → List (Item α) → String)
    (hC : C [] [] = true) (out : List (Item α)) :
    (out.all (fun a => items.contains a) &&
      ((groupKeys (items.map (·.grp))).map (fun k =>
        (k, C (restrict k items) (restrict k out), S (restrict k items) (restrict k out)))).all (fun r => r.2.1)) = true ↔
      (∀ a ∈ out, a ∈ items) ∧ ∀ k, C (restrict k items) (restrict k out) = true := by
  rw [Bool.and_eq_true, List.all_map, List.all_eq_true, List.all_eq_true]
  simp only [List.contains_iff_mem]
  refine and_congr_right fun hm => ⟨fun h k => ?_, fun h k _ => h k⟩
  by_cases hk : k ∈ items.map (·.grp)
  · exact h k ((mem_groupKeys _ k).2 hk)
  · rw [restrict_eq_nil k items hk, restrict_eq_nil k out fun h' =>
      let ⟨it, hit, e⟩ := List.mem_map.1 h'; hk (List.mem_map.2 ⟨it, hm it hit, e⟩)]
    exact hC

theorem checkIndependent_iff (rel : Item α → Item α → Bool) (out : List (Item α)) :
    checkIndependent rel kg items out = true ↔
      (∀ a ∈ out, a ∈ items) ∧ ∀ k, checkCleanR rel kg (restrict k items) (restrict k out) = true :=
  groupwise_iff items (checkCleanR rel kg) (checkCleanClauseR rel kg) rfl out

theorem checkIndependentCore_iff (rel : Item α → Item α → Bool) (out : List (Item α)) :
    checkIndependentCore rel kg items out = true ↔
      (∀ a ∈ out, a ∈ items) ∧ ∀ k, checkCleanCoreR rel kg (restrict k items) (restrict k out) = true :=
  groupwise_iff items (checkCleanCoreR rel kg) (checkCleanCoreClauseR rel kg) rfl out

/-- the per-group verdicts of the driver (`checkGroups`, the checker applied to each group's sub-list) are sound;
by `spec_iff_groups` the clauses then hold for the whole list -/
theorem checkIndependent_sound (out : List (Item α)) (h : checkIndependent (closer d) kg items out = true) :
    (∀ k, GroupSpec d kg items k out) ∧ ∀ k, Remaining (restrict k items) (restrict k out) := by
  have hk := fun k => (checkClean_iff d kg _ _).1 (((checkIndependent_iff kg items _ out).1 h).2 k)
  exact ⟨fun k => ⟨(hk k).1, (hk k).2.2.1, (hk k).2.2.2.1⟩, fun k => (hk k).2.2.2.2⟩

/-- the clauses for the rows of group `k` alone, for any closeness relation (order-free) -/
def GroupSpecR (rel : Item α → Item α → Bool) (k : α) (out : List (Item α)) : Prop :=
  (∀ a ∈ restrict k out, a ∈ restrict k items) ∧ ((restrict k out).map (·.idx)).Nodup ∧
    (∀ a ∈ restrict k out, ∀ b ∈ restrict k out, a.idx ≠ b.idx → a.grp = b.grp → rel a b = false) ∧
    (∀ r ∈ restrict k items, r ∉ restrict k out →
      ∃ c ∈ restrict k out, c.grp = r.grp ∧ rel c r = true ∧ BetterEq kg c.score r.score)

/-- the per-group verdicts of the order-free checker are sound for every closeness relation (`<` and `≤`) -/
theorem checkIndependentCore_sound (rel : Item α → Item α → Bool) (out : List (Item α))
    (h : checkIndependentCore rel kg items out = true) : ∀ k, GroupSpecR kg items rel k out :=
  fun k => (checkCleanCoreR_iff kg _ rel _).1 (((checkIndependentCore_iff kg items rel out).1 h).2 k)

/-- the `independent_core` answer of the driver can only be false when `ok_core` is false, so the judge needs no
separate verdict on the independence of groups -/
theorem checkIndependentCore_of_core (rel : Item α → Item α → Bool) (out : List (Item α))
    (h : checkCleanCoreR rel kg items out = true) : checkIndependentCore rel kg items out = true := by
  obtain ⟨h1, hn, h2, h3⟩ := (checkCleanCoreR_iff kg items rel out).1 h
  exact (checkIndependentCore_iff kg items rel out).2 ⟨h1, fun k => (checkCleanCoreR_iff kg _ rel _).2
    ⟨restrict_subset items k out h1, List.Nodup.sublist (List.filter_sublist.map _) hn,
      fun a ha b hb => h2 a (restrict_sub ha) b (restrict_sub hb),
      dominated_restrict kg items (fun c r => rel c r = true) k out h3⟩⟩

theorem checkIndependent_core (rel : Item α → Item α → Bool) (out : List (Item α))
    (h : checkIndependent rel kg items out = true) : checkIndependentCore rel kg items out = true := by
  obtain ⟨hm, hg⟩ := (checkIndependent_iff kg items rel out).1 h
  exact (checkIndependentCore_iff kg items rel out).2 ⟨hm, fun k => checkCleanR_core kg _ rel _ (hg k)⟩

/-- `independent_core_le` of the driver is sound (the verdict the judge uses for lists holding an exact-distance tie) -/
theorem checkIndependentCoreLe_sound (out : List (Item α)) (h : checkIndependentCore (closerLe d) kg items out = true) :
    ∀ k, (∀ a ∈ restrict k out, a ∈ restrict k items) ∧
      (∀ a ∈ restrict k out, ∀ b ∈ restrict k out, a.idx ≠ b.idx → a.grp = b.grp → ¬ dist2 a.pos b.pos ≤ d * d) ∧
      (∀ r ∈ restrict k items, r ∉ restrict k out →
        ∃ c ∈ restrict k out, c.grp = r.grp ∧ dist2 c.pos r.pos ≤ d * d ∧ BetterEq kg c.score r.score) := by
  intro k
  obtain ⟨h1, _, h2, h3⟩ := (checkCleanCoreLe_iff d kg _ _).1 (((checkIndependentCore_iff kg items _ out).1 h).2 k)
  exact ⟨h1, h2, h3⟩

/-- the same from the per-group verdict that also tests the row order -/
theorem checkIndependentLe_sound (out : List (Item α)) (h : checkIndependent (closerLe d) kg items out = true) :
    ∀ k, (∀ a ∈ restrict k out, a ∈ restrict k items) ∧
      (∀ a ∈ restrict k out, ∀ b ∈ restrict k out, a.idx ≠ b.idx → a.grp = b.grp → ¬ dist2 a.pos b.pos ≤ d * d) ∧
      (∀ r ∈ restrict k items, r ∉ restrict k out →
        ∃ c ∈ restrict k out, c.grp = r.grp ∧ dist2 c.pos r.pos ≤ d * d ∧ BetterEq kg c.score r.score) :=
  checkIndependentCoreLe_sound d kg items out (checkIndependent_core kg items _ out h)

/-- the `independent_core` answer of the driver: `GroupSpec` for every group, hence (by `spec_iff_groups`) the clauses
for the whole list -/
theorem checkIndependentCore_spec (out : List (Item α)) (h : checkIndependentCore (closer d) kg items out = true) :
    (∀ k, GroupSpec d kg items k out) ∧
      ((∀ a ∈ out, a ∈ items) ∧ Separated d out ∧ Dominated d kg items out) := by
  have hk : ∀ k, GroupSpec d kg items k out := by
    intro k
    obtain ⟨h1, _, h2, h3⟩ := (checkCleanCore_iff d kg _ _).1 (((checkIndependentCore_iff kg items _ out).1 h).2 k)
    exact ⟨h1, h2, h3⟩
  exact ⟨hk, (spec_iff_groups d kg items out).2 hk⟩

theorem clean_single_group (k : α) (hne : items ≠ []) (h : ∀ it ∈ items, it.grp = k) :
    cleanItems d kg items = cleanGroup d kg items := cleanItems_single d kg items k hne h

end Clean

section Peaks
variable {α : Type} [LinearOrder α]

/-- the peak sits on a voxel above the threshold and carries its score, its 1-based position and the Euler
angles of the angle-list row its angle-map entry points to (a `zzx` list holds phi, psi, theta) -/
def PeakCarries (thr : α) (vs : List (Vox α)) (al : List (α × α × α)) (nb : Int) (ord : AngOrder) (p : Peak α) : Prop :=
  ∃ v ∈ vs, thr < v.score ∧ p.x = v.x + 1 ∧ p.y = v.y + 1 ∧ p.z = v.z + 1 ∧ p.score = v.score ∧
    0 ≤ v.ang - nb ∧
    al[(v.ang - nb).toNat]? = some (listedAngles ord p)

/-- extracted peaks are farther apart than the diameter `dn/dd` -/
def PeaksFar (dn dd : Nat) (out : List (Peak α)) : Prop :=
  ∀ p ∈ out, ∀ q ∈ out, ¬ (p.x = q.x ∧ p.y = q.y ∧ p.z = q.z) →
    (dn : Int) * dn < vd2 p.x p.y p.z q.x q.y q.z * ((dd : Int) * dd)

/-- every voxel above the threshold is within the diameter of a peak with an equal or higher score -/
def PeaksCover (thr : α) (dn dd : Nat) (vs : List (Vox α)) (out : List (Peak α)) : Prop :=
  ∀ v ∈ vs, thr < v.score → ∃ p ∈ out,
    vd2 p.x p.y p.z (v.x + 1) (v.y + 1) (v.z + 1) * ((dd : Int) * dd) ≤ (dn : Int) * dn ∧ v.score ≤ p.score

variable (thr : α) (dn dd : Nat) (vs : List (Vox α)) (al : List (α × α × α)) (nb : Int) (ord : AngOrder)

theorem peaks_carry (out : List (Peak α)) (h : extractFrom thr dn dd vs al nb ord = .peaks out) :
    ∀ p ∈ out, PeakCarries thr vs al nb ord p := by
  obtain ⟨ho, _⟩ := extractFrom_peaks thr dn dd vs al nb ord out h
  intro p hp
  rw [ho, List.mem_filterMap] at hp
  obtain ⟨v, hv, hpv⟩ := hp
  obtain ⟨hvs, ht⟩ := keptVoxels_sub thr dn dd vs v hv
  obtain ⟨hx, hy, hz, hs, h0, hrow⟩ := peakOf_some al nb ord v p hpv
  exact ⟨v, hvs, ht, hx, hy, hz, hs, h0, hrow⟩

theorem peaks_above_threshold (out : List (Peak α)) (h : extractFrom thr dn dd vs al nb ord = .peaks out) :
    ∀ p ∈ out, thr < p.score := by
  intro p hp
  obtain ⟨v, _, ht, _, _, _, hs, _⟩ := peaks_carry thr dn dd vs al nb ord out h p hp
  rw [hs]; exact ht

/-- in list order: any two *entries* of the peak table are farther apart than the diameter (so no voxel is
extracted twice either) -/
theorem peaks_separated (out : List (Peak α)) (h : extractFrom thr dn dd vs al nb ord = .peaks out) :
    out.Pairwise (fun p q => (dn : Int) * dn < vd2 p.x p.y p.z q.x q.y q.z * ((dd : Int) * dd)) := by
  obtain ⟨ho, _⟩ := extractFrom_peaks thr dn dd vs al nb ord out h
  rw [ho]
  have H : ∀ v w : Vox α, inBall dn dd v w = false → ∀ p, peakOf (loadAngles ord al) nb v = some p →
      ∀ q, peakOf (loadAngles ord al) nb w = some q →
      (dn : Int) * dn < vd2 p.x p.y p.z q.x q.y q.z * ((dd : Int) * dd) := by
    intro v w hvw p hp q hq
    obtain ⟨hx, hy, hz, _⟩ := peakOf_some al nb ord v p hp
    obtain ⟨hx', hy', hz', _⟩ := peakOf_some al nb ord w q hq
    rw [hx, hy, hz, hx', hy', hz', vd2_succ]
    unfold inBall at hvw
    simpa only [decide_eq_false_iff_not, Int.not_le] using hvw
  exact List.Pairwise.filterMap _ H (keptVoxels_separated thr dn dd vs)

/-- the conclusion of `peaks_separated`; unlike `PeaksFar`, a table holding two rows at one position does not satisfy it -/
def PeaksPairwiseFar (dn dd : Nat) (out : List (Peak α)) : Prop :=
  out.Pairwise (fun p q => (dn : Int) * dn < vd2 p.x p.y p.z q.x q.y q.z * ((dd : Int) * dd))

theorem PeaksPairwiseFar.far (out : List (Peak α)) (h : PeaksPairwiseFar dn dd out) : PeaksFar dn dd out :=
  fun p hp q hq hne => Lists.pairwise_forall_ne _ (fun a b hab => by rw [vd2_comm]; exact hab) out h p q hp hq
    fun e => hne (e ▸ ⟨rfl, rfl, rfl⟩)

theorem peaks_far (out : List (Peak α)) (h : extractFrom thr dn dd vs al nb ord = .peaks out) : PeaksFar dn dd out :=
  PeaksPairwiseFar.far dn dd out (peaks_separated thr dn dd vs al nb ord out h)

theorem peaks_cover (out : List (Peak α)) (h : extractFrom thr dn dd vs al nb ord = .peaks out) :
    PeaksCover thr dn dd vs out := by
  obtain ⟨ho, hall⟩ := extractFrom_peaks thr dn dd vs al nb ord out h
  intro v hv ht
  obtain ⟨w, hw, hb, hs⟩ := keptVoxels_dominate thr dn dd vs v hv ht
  obtain ⟨p, hp⟩ := hall w hw
  obtain ⟨hx, hy, hz, hsc, _⟩ := peakOf_some al nb ord w p hp
  refine ⟨p, by rw [ho, List.mem_filterMap]; exact ⟨w, hw, hp⟩, ?_, by rw [hsc]; exact hs⟩
  rw [hx, hy, hz, vd2_succ]
  unfold inBall at hb
  simpa only [decide_eq_true_eq] using hb

/-- an angle-map entry below the numbering (e.g. 0 with numbering 1) points to no row of the angle list: the model
has no peak for such a voxel (numpy would wrap the negative index to the end of the list; such maps are outside
the quantifier and are never generated) -/
theorem peakOf_below_numbering (rows : List (List α)) (v : Vox α) (h : v.ang < nb) : peakOf rows nb v = none := by
  unfold peakOf
  have : v.ang - nb < 0 := by omega
  simp [this]

/-- `None` is returned exactly when no voxel exceeds the threshold -/
theorem peaks_none_iff : extractFrom thr dn dd vs al nb ord = .empty ↔ ∀ v ∈ vs, ¬ thr < v.score := by
  rw [← supra_eq_nil, ← List.isEmpty_iff]
  unfold extractFrom
  split
  · simp [*]
  · dsimp only
    split <;> simp [*]

/-- **C07, peak clauses, on maps given as flat C-order arrays of any size**: every extracted peak `p` reads
score and angle index from the voxel `(p.x-1, p.y-1, p.z-1)` of the two maps -/
theorem extractPeaks_reads_maps (ny nz : Nat) (scores : List α) (angles : List Int) (out : List (Peak α))
    (h : extractPeaks thr dn dd ny nz scores angles al nb ord = .peaks out) :
    ∀ p ∈ out, 1 ≤ p.x ∧ 1 ≤ p.y ∧ 1 ≤ p.z ∧ thr < p.score ∧
      scores[flatIdx ny nz (p.x - 1) (p.y - 1) (p.z - 1)]? = some p.score ∧
      ∃ a : Int, angles[flatIdx ny nz (p.x - 1) (p.y - 1) (p.z - 1)]? = some a ∧ 0 ≤ a - nb ∧
        al[(a - nb).toNat]? = some (listedAngles ord p) := by
  intro p hp
  obtain ⟨v, hv, ht, hx, hy, hz, hs, h0, hrow⟩ := peaks_carry thr dn dd _ al nb ord out h p hp
  obtain ⟨h1, h2⟩ := voxels_lookup ny nz scores angles v hv
  rw [hx, hy, hz, hs]
  simp only [Nat.add_sub_cancel]
  exact ⟨by omega, by omega, by omega, ht, h1, v.ang, h2, h0, hrow⟩

/-- flat-array form of `peaks_cover` -/
theorem extractPeaks_covers_map (ny nz : Nat) (scores : List α) (angles : List Int) (out : List (Peak α))
    (hlen : angles.length = scores.length)
    (h : extractPeaks thr dn dd ny nz scores angles al nb ord = .peaks out) :
    ∀ i (hi : i < scores.length), thr < scores[i] → ∃ p ∈ out, scores[i] ≤ p.score ∧
      vd2 p.x p.y p.z (i / (ny * nz) + 1) ((i / nz) % ny + 1) (i % nz + 1) * ((dd : Int) * dd) ≤ (dn : Int) * dn := by
  intro i hi ht
  have hi' : i < angles.length := by omega
  have hv : (⟨i / (ny * nz), (i / nz) % ny, i % nz, scores[i], angles[i]⟩ : Vox α) ∈ voxels ny nz scores angles := by
    rw [mem_voxels]
    exact ⟨i, by simp [hi], by simp [hi'], rfl, rfl, rfl⟩
  obtain ⟨p, hp, hd, hs⟩ := peaks_cover thr dn dd _ al nb ord out h _ hv ht
  exact ⟨p, hp, hs, hd⟩

/-- **the checker run on the implementation's peak table is sound and complete against the clause Props**; the
separation clause is about any two ROWS (also two rows at one position) -/
theorem checkPeaks_iff (out : List (Peak α)) :
    checkPeaks thr dn dd vs al nb ord out = true ↔
      ((∀ p ∈ out, PeakCarries thr vs al nb ord p) ∧ PeaksPairwiseFar dn dd out ∧ PeaksCover thr dn dd vs out) := by
  simp only [checkPeaks, carryOk, coverOk, PeakCarries, PeaksPairwiseFar, PeaksCover, Bool.and_eq_true, farPairs_iff,
    List.all_eq_true, List.any_eq_true, Bool.or_eq_true, decide_eq_true_eq, Bool.not_eq_eq_eq_not, Bool.not_true,
    decide_eq_false_iff_not, or_iff_not_imp_left, not_not, and_assoc]

/-- soundness, with `PeaksFar` (peaks at different positions) beside the pairwise form it follows from -/
theorem checkPeaks_sound (out : List (Peak α)) (h : checkPeaks thr dn dd vs al nb ord out = true) :
    (∀ p ∈ out, PeakCarries thr vs al nb ord p) ∧ PeaksFar dn dd out ∧ PeaksCover thr dn dd vs out ∧
      PeaksPairwiseFar dn dd out := by
  obtain ⟨h1, h2, h3⟩ := (checkPeaks_iff thr dn dd vs al nb ord out).1 h
  exact ⟨h1, PeaksPairwiseFar.far dn dd out h2, h3, h2⟩

theorem checkPeaks_rejects_duplicate (p : Peak α) (out : List (Peak α)) (hp : p ∈ out) :
    checkPeaks thr dn dd vs al nb ord (p :: out) = false := by
  rw [Bool.eq_false_iff, Ne, checkPeaks_iff]
  rintro ⟨_, h, _⟩
  -- the row is at distance 0 from its copy, and `dn² < 0` is impossible
  have := (List.pairwise_cons.1 h).1 p hp
  rw [vd2_self, Int.zero_mul] at this
  exact Int.not_lt.2 (Int.mul_nonneg (Int.natCast_nonneg dn) (Int.natCast_nonneg dn)) this

/-- **the checker cannot raise a false alarm on a correct extraction**: the model's own peak table passes -/
theorem checkPeaks_accepts_model (out : List (Peak α)) (h : extractFrom thr dn dd vs al nb ord = .peaks out) :
    checkPeaks thr dn dd vs al nb ord out = true :=
  (checkPeaks_iff thr dn dd vs al nb ord out).2
    ⟨peaks_carry thr dn dd vs al nb ord out h, peaks_separated thr dn dd vs al nb ord out h,
      peaks_cover thr dn dd vs al nb ord out h⟩

end Peaks

/-! ### non-vacuity: concrete inputs meeting the hypotheses -/

/-- three particles of one group on a line, radius 2: the middle one (best score) removes both neighbours -/
example : checkClean (2 : Int) true
    [⟨0, 1, 5, ⟨0, 0, 0⟩⟩, ⟨1, 1, 9, ⟨1, 0, 0⟩⟩, ⟨2, 1, 7, ⟨2, 0, 0⟩⟩, ⟨3, 2, 1, ⟨1, 0, 0⟩⟩]
    [⟨1, 1, 9, ⟨1, 0, 0⟩⟩, ⟨3, 2, 1, ⟨1, 0, 0⟩⟩] = true := by decide +kernel

example : (([⟨0, 1, 5, ⟨0, 0, 0⟩⟩, ⟨1, 1, 9, ⟨1, 0, 0⟩⟩] : List (Item Int)).map (·.idx)).Nodup := by decide +kernel

/-- the same row twice is rejected; rows of a group out of input order are rejected -/
example : checkClean (2 : Int) true [⟨0, 1, 5, ⟨0, 0, 0⟩⟩, ⟨1, 1, 9, ⟨9, 0, 0⟩⟩]
    [⟨0, 1, 5, ⟨0, 0, 0⟩⟩, ⟨0, 1, 5, ⟨0, 0, 0⟩⟩, ⟨1, 1, 9, ⟨9, 0, 0⟩⟩] = false := by decide +kernel
example : checkClean (2 : Int) true [⟨0, 1, 5, ⟨0, 0, 0⟩⟩, ⟨1, 1, 9, ⟨9, 0, 0⟩⟩]
    [⟨1, 1, 9, ⟨9, 0, 0⟩⟩, ⟨0, 1, 5, ⟨0, 0, 0⟩⟩] = false := by decide +kernel
example : checkClean (2 : Int) true [⟨0, 1, 5, ⟨0, 0, 0⟩⟩, ⟨1, 1, 9, ⟨9, 0, 0⟩⟩]
    [⟨0, 1, 5, ⟨0, 0, 0⟩⟩, ⟨1, 1, 9, ⟨9, 0, 0⟩⟩] = true := by decide +kernel

/-- a pair at distance exactly d = 2: keeping both is right under `<`, keeping only the better one is right under
`≤`; removing the better one is wrong under both readings (only that is reported) -/
example : checkClean (2 : Int) true [⟨0, 1, 5, ⟨0, 0, 0⟩⟩, ⟨1, 1, 9, ⟨2, 0, 0⟩⟩]
    [⟨0, 1, 5, ⟨0, 0, 0⟩⟩, ⟨1, 1, 9, ⟨2, 0, 0⟩⟩] = true := by decide +kernel
example : checkCleanLe (2 : Int) true [⟨0, 1, 5, ⟨0, 0, 0⟩⟩, ⟨1, 1, 9, ⟨2, 0, 0⟩⟩] [⟨1, 1, 9, ⟨2, 0, 0⟩⟩] = true := by decide +kernel
example : checkClean (2 : Int) true [⟨0, 1, 5, ⟨0, 0, 0⟩⟩, ⟨1, 1, 9, ⟨2, 0, 0⟩⟩] [⟨0, 1, 5, ⟨0, 0, 0⟩⟩] = false ∧
    checkCleanLe (2 : Int) true [⟨0, 1, 5, ⟨0, 0, 0⟩⟩, ⟨1, 1, 9, ⟨2, 0, 0⟩⟩] [⟨0, 1, 5, ⟨0, 0, 0⟩⟩] = false := by decide +kernel

/-- the hypothesis of `checkClean_eq_checkCleanLe_of_no_tie` is met by a list that holds a pair of DIFFERENT groups at
distance exactly d = 2 (rows 0 and 2) and no such pair inside a group -/
example : ∀ a ∈ ([⟨0, 1, 5, ⟨0, 0, 0⟩⟩, ⟨1, 1, 9, ⟨1, 0, 0⟩⟩, ⟨2, 2, 7, ⟨2, 0, 0⟩⟩] : List (Item Int)),
    ∀ b ∈ ([⟨0, 1, 5, ⟨0, 0, 0⟩⟩, ⟨1, 1, 9, ⟨1, 0, 0⟩⟩, ⟨2, 2, 7, ⟨2, 0, 0⟩⟩] : List (Item Int)),
    a ≠ b → a.grp = b.grp → dist2 a.pos b.pos ≠ 2 * 2 := by decide +kernel

/-- survivors in another order: the order-free checker (spec verdict) accepts, the full checker does not (corr) -/
example : checkCleanCoreR (closer (2 : Int)) true [⟨0, 1, 5, ⟨0, 0, 0⟩⟩, ⟨1, 1, 9, ⟨9, 0, 0⟩⟩]
    [⟨1, 1, 9, ⟨9, 0, 0⟩⟩, ⟨0, 1, 5, ⟨0, 0, 0⟩⟩] = true := by decide +kernel

/-- per-group verdicts (the checker applied to a group's own sub-list): group 2 lost its best particle -/
example : checkClean (2 : Int) true
    (restrict 2 [⟨0, 1, 5, ⟨0, 0, 0⟩⟩, ⟨1, 2, 9, ⟨1, 0, 0⟩⟩, ⟨2, 2, 3, ⟨5, 0, 0⟩⟩])
    (restrict 2 [⟨0, 1, 5, ⟨0, 0, 0⟩⟩, ⟨2, 2, 3, ⟨5, 0, 0⟩⟩]) = false ∧
  checkClean (2 : Int) true
    (restrict 1 [⟨0, 1, 5, ⟨0, 0, 0⟩⟩, ⟨1, 2, 9, ⟨1, 0, 0⟩⟩, ⟨2, 2, 3, ⟨5, 0, 0⟩⟩])
    (restrict 1 [⟨0, 1, 5, ⟨0, 0, 0⟩⟩, ⟨2, 2, 3, ⟨5, 0, 0⟩⟩]) = true := by decide +kernel

/-- a processing order that is non-increasing in score, with a tie -/
example : ([(9, 0), (7, 1), (7, 2), (5, 3)] : List (Int × Nat)).Pairwise (fun a b => b.1 ≤ a.1) := by decide +kernel

/-- a 1×1×3 map, threshold 0, diameter 1: the two end voxels are extracted, the middle one is covered -/
example : checkPeaks (0 : Int) 1 1 [⟨0, 0, 0, 5, 1⟩, ⟨0, 0, 1, 3, 0⟩, ⟨0, 0, 2, 4, 1⟩] [(10, 20, 30), (40, 50, 60)] 0 .zzx
    [⟨1, 1, 1, 5, 40, 60, 50⟩, ⟨1, 1, 3, 4, 40, 60, 50⟩] = true := by decide +kernel

/-- two identical rows are rejected -/
example : checkPeaks (0 : Int) 1 1 [⟨0, 0, 0, 5, 1⟩, ⟨0, 0, 1, 3, 0⟩, ⟨0, 0, 2, 4, 1⟩] [(10, 20, 30), (40, 50, 60)] 0 .zzx
    [⟨1, 1, 1, 5, 40, 60, 50⟩, ⟨1, 1, 1, 5, 40, 60, 50⟩, ⟨1, 1, 3, 4, 40, 60, 50⟩] = false := by decide +kernel

/-- the hypothesis `extractFrom … = .peaks out` of the peak theorems is met by the same map (voxels listed best
first, so that the sort is the identity and the kernel can evaluate the rest) -/
example : extractFrom (0 : Int) 1 1 [⟨0, 0, 0, 5, 1⟩, ⟨0, 0, 2, 4, 1⟩, ⟨0, 0, 1, 3, 0⟩] [(10, 20, 30), (40, 50, 60)] 0 .zzx
    = .peaks [⟨1, 1, 1, 5, 40, 60, 50⟩, ⟨1, 1, 3, 4, 40, 60, 50⟩] := by
  have ho : peakOrder (supra (0 : Int) [⟨0, 0, 0, 5, 1⟩, ⟨0, 0, 2, 4, 1⟩, ⟨0, 0, 1, 3, 0⟩])
      = [⟨0, 0, 0, 5, 1⟩, ⟨0, 0, 2, 4, 1⟩, ⟨0, 0, 1, 3, 0⟩] := by
    have hs : supra (0 : Int) [⟨0, 0, 0, 5, 1⟩, ⟨0, 0, 2, 4, 1⟩, ⟨0, 0, 1, 3, 0⟩]
        = [⟨0, 0, 0, 5, 1⟩, ⟨0, 0, 2, 4, 1⟩, ⟨0, 0, 1, 3, 0⟩] := by decide +kernel
    rw [hs]; simp only [peakOrder, peakSortDesc, if_true]
    exact List.mergeSort_of_pairwise (by decide +kernel)
  unfold extractFrom keptVoxels
  rw [ho]
  decide +kernel

/-- **Regression witness (defect D19, repaired by 98eff89).** An array angle list in `zzx` order that is *not*
re-indexed (what `rot_angles_load` did before the repair: theta and psi swapped) fails the carry clause. -/
theorem zzx_list_unpermuted_counterexample :
    checkPeaks (0 : Int) 1 1 [⟨0, 0, 0, 5, 0⟩] [(10, 20, 30)] 0 .zzx [⟨1, 1, 1, 5, 10, 20, 30⟩] = false ∧
    checkPeaks (0 : Int) 1 1 [⟨0, 0, 0, 5, 0⟩] [(10, 20, 30)] 0 .zzx [⟨1, 1, 1, 5, 10, 30, 20⟩] = true := by decide +kernel

/-- the greedy pass itself on the three-particle line (already in processing order: best first) -/
example : suppress (nearClean (2 : Int)) [⟨1, 1, 9, ⟨1, 0, 0⟩⟩, ⟨2, 1, 7, ⟨2, 0, 0⟩⟩, ⟨0, 1, 5, ⟨0, 0, 0⟩⟩]
    = [⟨1, 1, 9, ⟨1, 0, 0⟩⟩] := by decide +kernel

end CryoCat.C07
