import CryoCat.Lemmas.C15_ops
import CryoCat.Lemmas.C15_angles
import Mathlib.Algebra.BigOperators.Group.Finset.Basic
import Mathlib.Algebra.Field.Defs
/-! C15 — property theorems: tilt-stack operations are lossless selections / permutations of tilt images.

Conventions of the model (`Model/C15.lean`): a loaded stack is `zyx` (`d0` tilts × `d1` rows × `d2` columns); images `ι`
and voxels `α` are opaque type parameters wherever the operation only moves data. -/
namespace CryoCat.C15
variable {α ι κ : Type}

/-! Translator obligations. `Gen/C15.lean` holds, for every function the property is about, a normalised dump of its WHOLE
body (local variables alpha-renamed `v0, v1, …` in the order of their first binding, so a rename of a local changes nothing;
docstrings, `print` calls and exception messages dropped). The literals below are those dumps as the model was written
against them; an added, removed, reordered or edited statement breaks the corresponding theorem. -/

theorem anchors_ok : Gen.C15.anchorsOk = true := rfl

/-- `flip_along_axes`: `'x'` reverses the rows (numpy axis 1 of the `zyx` data, IMOD `clip flipx`), `'y'` the columns
(axis 2), `'z'` the order of the tilts (axis 0) — each branch reverses exactly one axis -/
theorem flip_table_documented : Gen.C15.flipTable = [("x", 1), ("y", 2), ("z", 0)] := rfl

/-- `indices_load`: `indices = indices - 1` (a fresh array) under `if numbered_from_1`, then `return indices` -/
theorem index_shift_documented : Gen.C15.indexShift = 1 ∧ Gen.C15.indexShiftGuard = "numbered_from_1" := ⟨rfl, rfl⟩

/-- `split_stack_even_odd`: `i % 2 == 0` goes to the stack that is written to `_even.mrc` and returned first -/
theorem even_rule_documented : Gen.C15.evenRemainder = 0 := rfl

/-- `TiltStack.__init__` / `correct_order` / `write_out`: arrays are transposed by `(2,1,0)` iff `input_order == "xyz"`,
files are read and written untransposed, the working order is `zyx`, the result is transposed by `(2,1,0)` iff the
output order differs from it -/
theorem order_handling_documented :
    Gen.C15.inTransposeAxes = [2, 1, 0] ∧ Gen.C15.inTransposeWhen = "input_order == 'xyz'"
    ∧ Gen.C15.outTransposeAxes = [2, 1, 0] ∧ Gen.C15.outTransposeWhen = "self.current_order != self.output_order"
    ∧ Gen.C15.currentOrder = "zyx" ∧ Gen.C15.readTranspose = false ∧ Gen.C15.writeTranspose = false :=
  ⟨rfl, rfl, rfl, rfl, rfl, rfl, rfl⟩

/-- `self.n_tilts, self.height, self.width = self.data.shape` -/
theorem shape_unpack_documented : Gen.C15.shapeUnpack = ["n_tilts", "height", "width"] := rfl

/-- **Signature defaults the statement depends on**: indices are 1-based unless the caller says otherwise, arrays come in
and go out as `x,y,n` unless the caller says otherwise; no output file, no crop size by default -/
theorem defaults_documented :
    Gen.C15.defaultNumberedFrom1 = true ∧ Gen.C15.defaultInputOrder = "xyz" ∧ Gen.C15.defaultOutputOrder = "xyz"
    ∧ Gen.C15.signatures = 
      [("crop", "tilt_stack, new_width, new_height, output_file, input_order, output_order"),
          ("crop.new_width", "None"),
          ("crop.new_height", "None"),
          ("crop.output_file", "None"),
          ("crop.input_order", "'xyz'"),
          ("crop.output_order", "'xyz'"),
          ("sort_tilts_by_angle", "tilt_stack, input_tilts, output_file, input_order, output_order"),
          ("sort_tilts_by_angle.output_file", "None"),
          ("sort_tilts_by_angle.input_order", "'xyz'"),
          ("sort_tilts_by_angle.output_order", "'xyz'"),
          ("remove_tilts", "tilt_stack, idx_to_remove, numbered_from_1, output_file, input_order, output_order"),
          ("remove_tilts.numbered_from_1", "True"),
          ("remove_tilts.output_file", "None"),
          ("remove_tilts.input_order", "'xyz'"),
          ("remove_tilts.output_order", "'xyz'"),
          ("bin", "tilt_stack, binning_factor, output_file, input_order, output_order"),
          ("bin.output_file", "None"),
          ("bin.input_order", "'xyz'"),
          ("bin.output_order", "'xyz'"),
          ("split_stack_even_odd", "tilt_stack, output_file_prefix, input_order, output_order"),
          ("split_stack_even_odd.output_file_prefix", "None"),
          ("split_stack_even_odd.input_order", "'xyz'"),
          ("split_stack_even_odd.output_order", "'xyz'"),
          ("flip_along_axes", "tilt_stack, axes, output_file, input_order, output_order"),
          ("flip_along_axes.output_file", "None"),
          ("flip_along_axes.input_order", "'xyz'"),
          ("flip_along_axes.output_order", "'xyz'"),
          ("TiltStack.__init__", "self, tilt_stack, input_order, output_order"),
          ("TiltStack.__init__.input_order", "'xyz'"),
          ("TiltStack.__init__.output_order", "'xyz'"),
          ("indices_load", "input_data, numbered_from_1"),
          ("indices_load.numbered_from_1", "True"),
          ("tlt_load", "input_tlt, sort_angles"),
          ("tlt_load.sort_angles", "True"),
          ("one_value_per_line_read", "file_path, data_type"),
          ("one_value_per_line_read.data_type", "np.float32"),
          ("Mdoc.__init__", "self, file_path, titles, project_info, imgs, section_id"),
          ("Mdoc.__init__.file_path", "None"),
          ("Mdoc.__init__.titles", "None"),
          ("Mdoc.__init__.project_info", "None"),
          ("Mdoc.__init__.imgs", "None"),
          ("Mdoc.__init__.section_id", "'ZValue'"),
          ("Mdoc.get_image_feature", "self, feature"),
          ("read", "input_map, transpose, data_type"),
          ("read.transpose", "True"),
          ("read.data_type", "None"),
          ("write", "data_to_write, file_name, transpose, data_type, overwrite"),
          ("write.transpose", "True"),
          ("write.data_type", "None"),
          ("write.overwrite", "True")] := ⟨rfl, rfl, rfl, rfl⟩

/-- what an omitted keyword means in the model the driver executes -/
theorem defaults_resolve :
    base1Of none = true ∧ inXyzOf none = true ∧ outZyxOf none = false
    ∧ (∀ b, base1Of (some b) = b) ∧ (∀ b, inXyzOf (some b) = b) ∧ (∀ b, outZyxOf (some b) = b) := by
  refine ⟨by decide, by decide, by decide, fun _ => rfl, fun _ => rfl, fun _ => rfl⟩

/-- **Each of the six functions is `TiltStack(...)` → operation → `write_out(output_file)` → `return correct_order()`**:
the constructor statement (all three arguments forwarded by keyword), every `write_out` statement, the return
statement, and the order facts (constructor before every other use of the stack, every update of `ts.data` before the
first `write_out`, the last `write_out` before the return, the return last). This is what makes `pipeline … op …`
(about which `order_naturality`, `output_order_only_transposes`, `written_file_holds_result` speak) the shape of the
real functions. -/
theorem wrappers_documented : Gen.C15.wrappers = 
      [("crop", ["v0 = TiltStack(tilt_stack=tilt_stack, input_order=input_order, output_order=output_order)", "v0.write_out(output_file)", "return v0.correct_order()", "order:construct<data-updates<write_out<return"]),
          ("sort_tilts_by_angle", ["v0 = TiltStack(tilt_stack=tilt_stack, input_order=input_order, output_order=output_order)", "v0.write_out(output_file)", "return v0.correct_order()", "order:construct<data-updates<write_out<return"]),
          ("remove_tilts", ["v0 = TiltStack(tilt_stack=tilt_stack, input_order=input_order, output_order=output_order)", "v0.write_out(output_file)", "return v0.correct_order()", "order:construct<data-updates<write_out<return"]),
          ("bin", ["v0 = TiltStack(tilt_stack=tilt_stack, input_order=input_order, output_order=output_order)", "v0.write_out(output_file)", "return v0.correct_order()", "order:construct<data-updates<write_out<return"]),
          ("split_stack_even_odd", ["v0 = TiltStack(tilt_stack=tilt_stack, input_order=input_order, output_order=output_order)", "v0.write_out(output_file_prefix + '_even.mrc', new_data=v1)", "v0.write_out(output_file_prefix + '_odd.mrc', new_data=v2)", "return (v0.correct_order(v1), v0.correct_order(v2))", "order:construct<data-updates<write_out<return"]),
          ("flip_along_axes", ["v0 = TiltStack(tilt_stack=tilt_stack, input_order=input_order, output_order=output_order)", "v0.write_out(output_file)", "return v0.correct_order()", "order:construct<data-updates<write_out<return"])] := rfl

/-- `crop`: sizes through `int(...)`, larger-than-stack requests refused, centre `size // 2`, start `centre - new // 2`,
end `start + new`, rows sliced by the height window and columns by the width window -/
theorem crop_expressions_documented : Gen.C15.cropBody = 
      ["v0 = TiltStack(tilt_stack=tilt_stack, input_order=input_order, output_order=output_order)",
      "if new_width is not None:",
      "  new_width = int(new_width)",
      "  if new_width > v0.width:",
      "    raise ValueError",
      "else:",
      "  new_width = v0.width",
      "if new_height is not None:",
      "  new_height = int(new_height)",
      "  if new_height > v0.height:",
      "    raise ValueError",
      "else:",
      "  new_height = v0.height",
      "v1, v2 = (v0.width // 2, v0.height // 2)",
      "v3 = int(v1 - int(new_width) // 2)",
      "v4 = int(v3 + int(new_width))",
      "v5 = int(v2 - int(new_height) // 2)",
      "v6 = int(v5 + int(new_height))",
      "v0.data = v0.data[:, v5:v6, v3:v4]",
      "v0.write_out(output_file)",
      "return v0.correct_order()"] := rfl

/-- `sort_tilts_by_angle`: angles loaded WITHOUT sorting, `np.argsort`, fancy-index on axis 0 -/
theorem sort_expressions_documented : Gen.C15.sortBody = 
      ["v0 = TiltStack(tilt_stack=tilt_stack, input_order=input_order, output_order=output_order)",
      "v1 = ioutils.tlt_load(input_tilts, sort_angles=False)",
      "v2 = np.argsort(v1)",
      "v0.data = v0.data[v2, :, :]",
      "v0.write_out(output_file)",
      "return v0.correct_order()"] := rfl

/-- `remove_tilts`: `indices_load` with the caller's `numbered_from_1`, bounds check `idx < 0 or idx >= n`, `np.delete` on axis 0 -/
theorem remove_expressions_documented : Gen.C15.removeBody = 
      ["v0 = TiltStack(tilt_stack=tilt_stack, input_order=input_order, output_order=output_order)",
      "v1 = ioutils.indices_load(idx_to_remove, numbered_from_1=numbered_from_1)",
      "v2 = v0.data.shape[0]",
      "if any((v3 < 0 or v3 >= v2 for v3 in v1)):",
      "  raise IndexError",
      "v0.data = np.delete(v0.data, v1, axis=0)",
      "v0.write_out(output_file)",
      "return v0.correct_order()"] := rfl

theorem bin_expression_documented : Gen.C15.binBody = 
      ["binning_factor = int(binning_factor)",
      "v0 = TiltStack(tilt_stack=tilt_stack, input_order=input_order, output_order=output_order)",
      "v0.data = downscale_local_mean(v0.data, (1, binning_factor, binning_factor))",
      "v0.write_out(output_file)",
      "return v0.correct_order()"] := rfl

theorem split_outputs_documented : Gen.C15.splitBody = 
      ["v0 = TiltStack(tilt_stack=tilt_stack, input_order=input_order, output_order=output_order)",
      "v1 = []",
      "v2 = []",
      "if not v0.n_tilts == 1:",
      "  for v3 in range(v0.n_tilts):",
      "    if v3 % 2 == 0:",
      "      v1.append(v0.data[v3, :, :])",
      "    else:",
      "      v2.append(v0.data[v3, :, :])",
      "  v1 = np.stack(v1, axis=0)",
      "  v2 = np.stack(v2, axis=0)",
      "  if output_file_prefix:",
      "    v0.write_out(output_file_prefix + '_even.mrc', new_data=v1)",
      "    v0.write_out(output_file_prefix + '_odd.mrc', new_data=v2)",
      "  return (v0.correct_order(v1), v0.correct_order(v2))",
      "else:",
      "  raise ValueError"] := rfl

theorem flip_body_documented : Gen.C15.flipBody = 
      ["v0 = TiltStack(tilt_stack=tilt_stack, input_order=input_order, output_order=output_order)",
      "if not isinstance(axes, list):",
      "  axes = [axes]",
      "for v1 in axes:",
      "  if v1 == 'x':",
      "    v0.data = v0.data[:, ::-1, :]",
      "  else:",
      "    if v1 == 'y':",
      "      v0.data = v0.data[:, :, ::-1]",
      "    else:",
      "      if v1 == 'z':",
      "        v0.data = v0.data[::-1, :, :]",
      "      else:",
      "        raise ValueError",
      "v0.write_out(output_file)",
      "return v0.correct_order()"] := rfl

/-- `TiltStack`: arrays are COPIED (`tilt_stack.copy()`), files read untransposed; `write_out` casts to the dtype of the
loaded stack and writes untransposed; `correct_order` casts to the same dtype, then transposes -/
theorem tiltstack_class_documented :
    Gen.C15.initBody = 
      ["if not isinstance(tilt_stack, np.ndarray):",
      "  self.data = cryomap.read(tilt_stack, transpose=False)",
      "  if self.data.shape == 2:",
      "    self.data = np.expand_dims(self.data, axis=0)",
      "else:",
      "  self.data = tilt_stack.copy()",
      "  if self.data.shape == 2:",
      "    if input_order == 'xyz':",
      "      self.data = np.expand_dims(self.data, axis=2)",
      "    else:",
      "      self.data = np.expand_dims(self.data, axis=0)",
      "  if input_order == 'xyz':",
      "    self.data = self.data.transpose(2, 1, 0)",
      "self.data_type = self.data.dtype",
      "self.input_order = input_order",
      "self.current_order = 'zyx'",
      "self.output_order = output_order",
      "self.n_tilts, self.height, self.width = self.data.shape"]
    ∧ Gen.C15.writeOutBody = 
      ["if output_file:",
      "  v0 = new_data if new_data is not None else self.data",
      "  cryomap.write(v0, output_file, data_type=self.data_type, transpose=False)"]
    ∧ Gen.C15.correctOrderBody = 
      ["v0 = new_data if new_data is not None else self.data",
      "if v0.dtype != self.data_type:",
      "  v0 = v0.astype(self.data_type)",
      "if self.current_order != self.output_order:",
      "  return v0.transpose(2, 1, 0)",
      "else:",
      "  return v0"] := ⟨rfl, rfl, rfl⟩

/-- `ioutils.indices_load` (csv: positions of the `True` cells, always 0-based; text file: `np.atleast_1d(np.loadtxt(...))`, so one entry is a one-element array; list/array:
`np.asarray`, refused when empty) and `ioutils.tlt_load` (arrays and lists pass through, files are sorted only on request) -/
theorem loaders_documented :
    Gen.C15.indicesLoadBody = 
      ["if isinstance(input_data, str):",
      "  if input_data.endswith('.csv'):",
      "    v0 = pd.read_csv(input_data)",
      "    if 'Removed' in v0.columns:",
      "      v0 = v0[~v0['Removed']]",
      "    v1 = v0['ToBeRemoved'].to_numpy().nonzero()[0]",
      "    numbered_from_1 = False",
      "  else:",
      "    v1 = np.atleast_1d(np.loadtxt(input_data, dtype=int))",
      "else:",
      "  if isinstance(input_data, list) or isinstance(input_data, np.ndarray):",
      "    v1 = np.asarray(input_data)",
      "    if len(v1) == 0:",
      "      raise ValueError",
      "  else:",
      "    raise ValueError",
      "if numbered_from_1:",
      "  v1 = v1 - 1",
      "return v1"]
    ∧ Gen.C15.tltLoadBody = 
      ["if isinstance(input_tlt, np.ndarray):",
      "  if input_tlt.size == 0:",
      "    raise ValueError",
      "  else:",
      "    return input_tlt",
      "else:",
      "  if isinstance(input_tlt, list):",
      "    if len(input_tlt) == 0:",
      "      raise ValueError",
      "    else:",
      "      return np.asarray(input_tlt)",
      "  else:",
      "    if isinstance(input_tlt, str):",
      "      if input_tlt.endswith('.mdoc'):",
      "        v0 = mdoc.Mdoc(input_tlt)",
      "        v1 = v0.get_image_feature('TiltAngle').values",
      "      else:",
      "        if input_tlt.endswith('.xml'):",
      "          v1 = get_data_from_warp_xml(input_tlt, 'Angles', node_level=1)",
      "        else:",
      "          v1 = one_value_per_line_read(input_tlt)",
      "      if sort_angles:",
      "        v1 = np.sort(v1)",
      "      return v1",
      "    else:",
      "      raise ValueError"] := ⟨rfl, rfl⟩

/-- **The readers the tilt angles pass through.** `one_value_per_line_read`: whitespace-separated `pd.read_csv` without header,
first column, dtype = the `data_type` parameter whose default is `np.float32` (`defaults_documented`) — so a `.tlt`/`.rawtlt`
angle is the written decimal rounded to float32, nothing else (no `np.round`, no sorting). The mdoc path: `Mdoc(path)` →
`_read_mdoc` → `_parse_images` (`_format_value` per entry, then `TiltAngle` → `astype(float)`: the written decimal rounded to
float64) → `get_image_feature` returns the column as is; `_parse_header` (last conjunct) takes a header line that starts
with `[` as a title WITHOUT splitting it — a real SerialEM title holds several `=` — and splits only key lines on `=`. This is what ties `parseDec` (the exact written value) to the key the
code sorts by; the correspondence run generates decimal angles as close as 1e-4° to check it. -/
theorem angle_readers_documented :
    Gen.C15.oneValuePerLineBody = 
      ["if not os.path.isfile(file_path):",
      "  raise ValueError",
      "try:",
      "  v0 = pd.read_csv(file_path, header=None, dtype=data_type, sep='\\\\s+')",
      "  if v0.empty:",
      "    raise ValueError",
      "except pd.errors.EmptyDataError:",
      "  raise ValueError",
      "return v0.iloc[:, 0].values"]
    ∧ Gen.C15.mdocInitBody = 
      ["if file_path and path.isfile(file_path):",
      "  self.file_path = file_path",
      "  self.titles, self.project_info, self.imgs, self.section_id = self._read_mdoc(file_path)",
      "else:",
      "  self.titles = titles",
      "  self.project_info = project_info",
      "  self.imgs = imgs",
      "  self.section_id = section_id"]
    ∧ Gen.C15.mdocReadBody = 
      ["with open(file_path, 'r') as v0:",
      "  v1 = v0.readlines()",
      "  v2 = []",
      "  for v3 in v1:",
      "    if v3.startswith('[ZValue'):",
      "      v4 = 'ZValue'",
      "      break",
      "    else:",
      "      if v3.startswith('[FrameSet'):",
      "        v4 = 'FrameSet'",
      "        break",
      "    if v3.strip():",
      "      v2.append(v3.strip())",
      "  v5, v6 = Mdoc._parse_header(v2)",
      "  v7 = v1[v1.index(v3):]",
      "  v8 = Mdoc._parse_images(v7, v4)",
      "  return (v5, v6, v8, v4)"]
    ∧ Gen.C15.mdocParseImagesBody = 
      ["v0 = []",
      "v1 = []",
      "for v2 in data:",
      "  if v2.startswith('[' + section_id) and v1:",
      "    v0.append(v1)",
      "    v1 = []",
      "  if v2.strip():",
      "    v1.append(v2)",
      "v0.append(v1)",
      "v3 = [section_id]",
      "v3.extend([v2.split('=')[0].strip() for v2 in v0[0][1:]])",
      "v4 = pd.DataFrame(columns=v3)",
      "for v1 in v0:",
      "  v5 = {}",
      "  for v2 in v1:",
      "    if v2.startswith('['):",
      "      v5[section_id] = v2.split('=')[1].strip().strip(']').strip()",
      "    else:",
      "      v6, v7 = v2.split('=')",
      "      v5[v6.strip()] = Mdoc._format_value(v7)",
      "  v4 = pd.concat([v4, pd.DataFrame(v5, index=[0], dtype=object)], ignore_index=True)",
      "v4['Removed'] = False",
      "v8 = v4.astype({section_id: int})",
      "v4[section_id] = v8[section_id]",
      "v4['TiltAngle'] = v4['TiltAngle'].astype(float)",
      "return v4"]
    ∧ Gen.C15.mdocFormatValueBody = 
      ["if value.strip().isdigit():",
      "  v0 = int(value.strip())",
      "else:",
      "  if value.strip().replace('.', '', 1).isdigit():",
      "    v0 = float(value.strip())",
      "  else:",
      "    v0 = value.strip()",
      "return v0"]
    ∧ Gen.C15.mdocFeatureBody = 
      ["return self.imgs[feature]"]
    ∧ Gen.C15.mdocParseHeaderBody = 
      ["v0 = []",
      "v1 = {}",
      "for v2 in header:",
      "  if v2.startswith('['):",
      "    v3 = v2.strip('[').strip(']').strip()",
      "    v0.append(v3)",
      "  else:",
      "    v4, v5 = v2.split('=')",
      "    v1[v4.strip()] = Mdoc._format_value(v5)",
      "return (v0, v1)"] := ⟨rfl, rfl, rfl, rfl, rfl, rfl, rfl⟩

/-- **The MRC reader and writer every operation passes through** (`cryomap.read` / `cryomap.write`, whole bodies — not only the
`transpose=` keyword of the two call sites): `read` returns a copy of `mrcfile.open(...).data`, transposed only on request, cast
only on request; `write` casts to `data_type`, converts big-endian data to little-endian (value-preserving `astype` to the same dtype in the
other byte order; repository fix ee78eb9 — the stacks of this property are native little-endian, for which the branch is not
taken), transposes only on request, stores float64 as float32 and hands the array to `mrcfile.write`. -/
theorem mrc_io_documented :
    Gen.C15.cryomapReadBody = 
      ["if isinstance(input_map, str):",
      "  def v0(filename):",
      "    v1 = '\\\\.(mrc|ali|rec|st)(\\\\.\\\\d+)?$'",
      "    return bool(re.search(v1, filename))",
      "  if v0(input_map):",
      "    v2 = mrcfile.open(input_map).data",
      "  else:",
      "    if input_map.endswith('.em'):",
      "      v2 = emfile.read(input_map)[1]",
      "    else:",
      "      raise ValueError",
      "  if transpose:",
      "    v2 = v2.transpose(2, 1, 0)",
      "else:",
      "  if isinstance(input_map, np.ndarray):",
      "    v2 = np.array(input_map)",
      "  else:",
      "    raise ValueError",
      "v2 = np.array(v2, copy=True)",
      "if data_type is not None:",
      "  v2 = v2.astype(data_type)",
      "return v2"]
    ∧ Gen.C15.cryomapWriteBody = 
      ["if data_type is not None:",
      "  data_to_write = data_to_write.astype(data_type)",
      "if data_to_write.dtype.byteorder == '>':",
      "  data_to_write = data_to_write.astype(data_to_write.dtype.newbyteorder('<'))",
      "if transpose and data_to_write.ndim == 3:",
      "  data_to_write = data_to_write.transpose(2, 1, 0)",
      "if data_to_write.dtype == np.float64:",
      "  data_to_write = data_to_write.astype(np.float32)",
      "if file_name.endswith('.mrc') or file_name.endswith('.rec'):",
      "  mrcfile.write(name=file_name, data=data_to_write, overwrite=overwrite)",
      "else:",
      "  if file_name.endswith('.em'):",
      "    emfile.write(file_name, data=data_to_write, overwrite=overwrite)",
      "  else:",
      "    raise ValueError"] := ⟨rfl, rfl⟩

/-- **Sorting returns the same images reordered by ascending angle.** For every comparison `le` that is transitive and
TOTAL (hypotheses `htrans`, `htotal`), every list of angles (one per image; ties allowed here) and every stack: the result
is the second components of a list `ps` of (angle, image) pairs that is a permutation of the input pairs — every image
keeps its own angle, nothing is lost or duplicated — and is ascending in the angle.
The totality hypothesis is essential: IEEE `≤` on floats with a NaN is not total, so NaN angles are outside this theorem
(and outside the quantifier of the property; they are never generated). The model the driver executes sorts by the exact
rational value of the written angle, for which both hypotheses are proved: `sort_by_written_angles` is hypothesis-free. -/
theorem sort_perm_sorted (le : κ → κ → Bool)
    (htrans : ∀ a b c, le a b = true → le b c = true → le a c = true) (htotal : ∀ a b, (le a b || le b a) = true)
    (angles : List κ) (imgs : List ι) (hlen : angles.length = imgs.length) :
    ∃ ps : List (κ × ι), sortTilts le angles imgs = .ok (ps.map (·.2))
      ∧ ps.Perm (angles.zip imgs) ∧ ps.Pairwise (fun p q => le p.1 q.1 = true) := by
  exact ⟨_, by rw [sortTilts_eq, if_pos hlen.le], List.mergeSort_perm _ _,
    List.pairwise_mergeSort (fun a b c => htrans a.1 b.1 c.1) (fun a b => htotal a.1 b.1) _⟩

/-- in particular the sorted stack is a permutation of the input stack -/
theorem sort_is_permutation (le : κ → κ → Bool) (angles : List κ) (imgs r : List ι)
    (hlen : angles.length = imgs.length) (h : sortTilts le angles imgs = .ok r) : r.Perm imgs := by
  rw [sortTilts_eq, if_pos hlen.le] at h
  cases h
  have := (List.mergeSort_perm (angles.zip imgs) fun p q => le p.1 q.1).map (·.2)
  rwa [List.map_snd_zip (by omega)] at this

/-- without ties (and with an antisymmetric comparison, hypothesis `hanti`) the ascending arrangement is unique: whatever
sorting algorithm numpy uses returns this list -/
theorem sort_unique_without_ties (le : κ → κ → Bool)
    (hanti : ∀ a b, le a b = true → le b a = true → a = b) (angles : List κ) (hnodup : angles.Nodup)
    (imgs : List ι) (hlen : angles.length = imgs.length) (ps qs : List (κ × ι))
    (hp : ps.Perm (angles.zip imgs)) (hq : qs.Perm (angles.zip imgs))
    (hps : ps.Pairwise (fun p q => le p.1 q.1 = true)) (hqs : qs.Pairwise (fun p q => le p.1 q.1 = true)) : ps = qs := by
  have hfst : ((angles.zip imgs).map (·.1)).Nodup := by rw [List.map_fst_zip (by omega)]; exact hnodup
  have hpq : ps.Perm qs := hp.trans hq.symm
  refine hpq.eq_of_pairwise (le := fun p q => le p.1 q.1 = true) ?_ hps hqs
  intro a b ha hb hab hba
  have hfe : a.1 = b.1 := hanti _ _ hab hba
  have ha' := hp.mem_iff.1 ha
  have hb' := hp.mem_iff.1 (hpq.mem_iff.2 hb)
  exact List.inj_on_of_nodup_map hfst ha' hb' hfe

/-- **Removing tilts returns exactly the other images in their original order**, for 1-based (`base1`) and 0-based
indices, any order of the index list, repeated indices allowed: there is a strictly increasing list `keep` of
positions, consisting of exactly the positions `i < n` whose number `i + base` is not listed, and the result is the
images at those positions (none missing: the lengths agree). The code's refusals are part of the statement: the index
list is non-empty and every index denotes an existing image. -/
theorem remove_spec (base1 : Bool) (idxs : List Int) (imgs r : List ι) (h : removeTilts base1 idxs imgs = .ok r) :
    ∃ keep : List Nat, keep.Pairwise (· < ·)
      ∧ (∀ i, i ∈ keep ↔ i < imgs.length ∧ ((i : Int) + (if base1 then 1 else 0)) ∉ idxs)
      ∧ r = keep.filterMap (imgs[·]?) ∧ r.length = keep.length ∧ r.Sublist imgs
      ∧ idxs ≠ [] ∧ ∀ i ∈ idxs, (if base1 then 1 else 0) ≤ i ∧ i < (imgs.length : Int) + (if base1 then 1 else 0) := by
  obtain ⟨hne, hrange, hr⟩ := (removeTilts_iff base1 idxs imgs r index_shift_documented.1).1 h
  -- `keep`: the positions whose number is not listed
  rw [zipIdx_filter_fst imgs fun i => !(idxs.contains ((i : Int) + (if base1 then 1 else 0)))] at hr
  refine ⟨_, List.Pairwise.sublist List.filter_sublist List.pairwise_lt_range, fun i => ?_, hr, ?_, removeTilts_sublist h,
    hne, hrange⟩
  · simp [List.mem_filter, List.mem_range]
  · rw [hr]; exact filterMap_get_length imgs _ fun i hi => List.mem_range.1 (List.mem_filter.1 hi).1

/-- the refusal is exact: the call succeeds iff the index list is non-empty and every index denotes an image -/
theorem remove_accepts_iff (base1 : Bool) (idxs : List Int) (imgs : List ι) :
    (∃ r, removeTilts base1 idxs imgs = .ok r) ↔
      idxs ≠ [] ∧ ∀ i ∈ idxs, (if base1 then 1 else 0) ≤ i ∧ i < (imgs.length : Int) + (if base1 then 1 else 0) := by
  simp only [removeTilts_iff base1 idxs imgs _ index_shift_documented.1]
  exact ⟨fun ⟨_, h1, h2, _⟩ => ⟨h1, h2⟩, fun ⟨h1, h2⟩ => ⟨_, h1, h2, rfl⟩⟩

/-- **Even/odd splitting interleaves back to the input**, for every stack -/
theorem interleave_evens_odds (imgs : List ι) : interleave (evens imgs) (odds imgs) = imgs := by
  simp only [evens, odds, even_rule_documented, if_true]
  exact interleave_sel imgs

/-- the even stack holds the images at positions 0, 2, 4, …, the odd stack those at 1, 3, 5, … -/
theorem evens_odds_positions (imgs : List ι) (k : Nat) :
    (evens imgs)[k]? = imgs[2 * k]? ∧ (odds imgs)[k]? = imgs[2 * k + 1]? := by
  simp only [evens, odds, even_rule_documented, if_true]
  exact ⟨(sel_getElem? imgs).1 k, (sel_getElem? imgs).2 k⟩

theorem split_spec (imgs e o : List ι) (h : splitTilts imgs = .ok (e, o)) :
    interleave e o = imgs ∧ e.length = (imgs.length + 1) / 2 ∧ o.length = imgs.length / 2 ∧ 2 ≤ imgs.length := by
  obtain ⟨h2, hp⟩ := splitTilts_ok h
  cases hp
  refine ⟨interleave_evens_odds imgs, ?_, ?_, h2⟩
  · simp only [evens, even_rule_documented, if_true]; exact (sel_length imgs).1
  · simp only [odds, even_rule_documented, if_true]; exact (sel_length imgs).2

/-- **Flipping along an axis twice is the identity** (each of the three numpy axes) -/
theorem flip_flip (k : Nat) (v : L3 α) : flipAxis k (flipAxis k v) = v := by
  match k with
  | 0 => exact List.reverse_reverse v
  | 1 => simp only [flipAxis, List.map_map, Function.comp_def, List.reverse_reverse, List.map_id']
  | 2 => simp only [flipAxis, List.map_map, Function.comp_def, List.reverse_reverse, List.map_id']
  | _ + 3 => rfl

/-- the same for the call as the user makes it: any list of valid axis names (`'x'`, `'y'`, `'z'`, repetitions and any
order allowed), applied twice, gives the input back; and the first call does not fail -/
theorem flip_twice_identity (axes : List String) (v : L3 α) (hvalid : ∀ a ∈ axes, a = "x" ∨ a = "y" ∨ a = "z") :
    ∃ w, flipAll axes v = .ok w ∧ flipAll axes w = .ok v := by
  induction axes generalizing v with
  | nil => exact ⟨v, rfl, rfl⟩
  | cons a as ih =>
    obtain ⟨k, hk⟩ : ∃ k, flipNamed a = some k := by
      rcases hvalid a (List.mem_cons_self ..) with rfl | rfl | rfl <;> exact ⟨_, rfl⟩
    obtain ⟨w, h1, h2⟩ := ih (flipAxis k v) (fun b hb => hvalid b (List.mem_cons_of_mem _ hb))
    -- the second pass: move the flip of the head out of the loop over the tail, where it meets its twin
    refine ⟨w, by simp only [flipAll, hk, h1], ?_⟩
    simp only [flipAll, hk]
    rw [flipAll_flipAxis, h2]
    exact congrArg _ (flip_flip k v)

/-- any other axis name is refused -/
theorem flip_rejects_unknown_axis (a : String) (v : L3 α) (h : a ≠ "x" ∧ a ≠ "y" ∧ a ≠ "z") :
    flipAll [a] v = .error .axis := by
  -- the lookup fails at each of the three entries of the table
  simp only [flipAll, flipNamed, flip_table_documented, List.lookup, beq_false_of_ne h.1, beq_false_of_ne h.2.1,
    beq_false_of_ne h.2.2]

/-- **Centred cropping returns the central window.** For a request that fits (`h ≤ H`, `w ≤ W`; anything larger is
refused, see `crop_rejects`): voxel `(z, j, i)` of the result is voxel `(z, H/2 - h/2 + j, W/2 - w/2 + i)` of the input,
the window lies inside the image and the margins left on the two sides differ by at most one pixel. -/
theorem crop_window (d : α) (newW newH : Option Nat) (a r : A3 α) (h : crop newW newH a = .ok r) :
    r.d0 = a.d0 ∧ r.d1 = newH.getD a.d1 ∧ r.d2 = newW.getD a.d2 ∧ r.d1 ≤ a.d1 ∧ r.d2 ≤ a.d2
    ∧ (∀ z j i, j < r.d1 → i < r.d2 →
        get3 d r.v z j i = get3 d a.v z (a.d1 / 2 - r.d1 / 2 + j) (a.d2 / 2 - r.d2 / 2 + i))
    ∧ (a.d1 / 2 - r.d1 / 2) + r.d1 ≤ a.d1 ∧ (a.d2 / 2 - r.d2 / 2) + r.d2 ≤ a.d2 := by
  obtain ⟨hw, hh, rfl⟩ := crop_ok h
  exact ⟨rfl, rfl, rfl, hh, hw, fun z j i hj hi => get3_cropV d _ _ _ _ a.v hj hi, cropStart_fits hh, cropStart_fits hw⟩

/-- the window is centred: left and right (top and bottom) margins differ by at most one pixel -/
theorem crop_centred (full new : Nat) (h : new ≤ full) :
    let left := cropStart full new
    let right := full - (left + new)
    left + new + right = full ∧ left ≤ right + 1 ∧ right ≤ left + 1 := by
  have h2 : new / 2 ≤ full / 2 := Nat.div_le_div_right h
  simp only [cropStart]; omega

theorem crop_rejects (newW newH : Option Nat) (a : A3 α) :
    (newW.getD a.d2 > a.d2 → crop newW newH a = .error .cropWidth)
    ∧ (newW.getD a.d2 ≤ a.d2 → newH.getD a.d1 > a.d1 → crop newW newH a = .error .cropHeight) := by
  unfold crop
  refine ⟨fun h => by simp [h], fun h1 h2 => by simp [Nat.not_lt.2 h1, h2]⟩

theorem sumRange_eq_sum {α : Type} [AddCommMonoid α] (n : Nat) (f : Nat → α) :
    sumRange n f = ∑ i ∈ Finset.range n, f i := by
  induction n with
  | zero => simp [sumRange]
  | succ n ih =>
    rw [Finset.sum_range_succ, ← ih]
    simp [sumRange, List.range_succ, List.foldl_append]

theorem ceilDiv_full {n b J : Nat} (h : (J + 1) * b ≤ n) (hb : 0 < b) : J < ceilDiv n b := by
  unfold ceilDiv
  rw [Nat.lt_div_iff_mul_lt hb]
  have := Nat.add_one_mul J b
  omega

theorem get3_binV {α : Type} [Field α] (b n H W : Nat) (v : L3 α) {z J I : Nat}
    (hz : z < n) (hJ : J < ceilDiv H b) (hI : I < ceilDiv W b) :
    get3 0 (binV b n H W v) z J I
      = (∑ j ∈ Finset.range b, ∑ i ∈ Finset.range b, get3 0 v z (J * b + j) (I * b + i)) / ((b * b : Nat) : α) := by
  unfold binV
  rw [get3_tab3 0 _ hz hJ hI, sumRange_eq_sum]
  simp only [sumRange_eq_sum]

/-- what the code does with a trailing partial block (outside the statement, recorded for the correspondence):
`downscale_local_mean` pads with zeros, the divisor stays `b * b` -/
theorem bin_zero_padded {F : Type} [Field F] (f : Nat → Nat → Nat → F) (n H W b : Nat) (hb : 0 < b) (r : A3 F)
    (h : bin b { d0 := n, d1 := H, d2 := W, v := tab3 n H W f } = .ok r)
    (z J I : Nat) (hz : z < n) (hJ : J < (H + b - 1) / b) (hI : I < (W + b - 1) / b) :
    get3 0 r.v z J I = (∑ j ∈ Finset.range b, ∑ i ∈ Finset.range b,
        if J * b + j < H ∧ I * b + i < W then f z (J * b + j) (I * b + i) else 0) / ((b * b : Nat) : F) := by
  unfold bin at h
  rw [if_neg (by omega)] at h
  cases h
  simp only
  rw [get3_binV b n H W _ hz hJ hI]
  congr 1
  apply Finset.sum_congr rfl; intro j _
  apply Finset.sum_congr rfl; intro i _
  rw [get3_tab3_total]
  simp only [hz, true_and]

/-- **Binning returns block means** (exact arithmetic over any field): for the stack whose voxel `(z,y,x)` is `f z y x`
(every rectangular stack is of this form, `tab3_get3`) and every block that lies completely inside the image, the
binned voxel is the sum of the `b × b` block divided by `b * b`. -/
theorem bin_blockmean {F : Type} [Field F] (f : Nat → Nat → Nat → F) (n H W b : Nat) (hb : 0 < b) (r : A3 F)
    (h : bin b { d0 := n, d1 := H, d2 := W, v := tab3 n H W f } = .ok r)
    (z J I : Nat) (hz : z < n) (hJ : (J + 1) * b ≤ H) (hI : (I + 1) * b ≤ W) :
    get3 0 r.v z J I = (∑ j ∈ Finset.range b, ∑ i ∈ Finset.range b, f z (J * b + j) (I * b + i)) / ((b * b : Nat) : F) := by
  -- a block inside the image meets no padding: the zero-padded sum is the plain sum
  rw [bin_zero_padded f n H W b hb r h z J I hz (ceilDiv_full hJ hb) (ceilDiv_full hI hb)]
  congr 1
  apply Finset.sum_congr rfl; intro j hj
  apply Finset.sum_congr rfl; intro i hi
  have hj' := Finset.mem_range.1 hj
  have hi' := Finset.mem_range.1 hi
  have e1 := Nat.add_one_mul J b
  have e2 := Nat.add_one_mul I b
  exact if_pos ⟨by omega, by omega⟩

/-- shape of the binned stack: `⌈H/b⌉ × ⌈W/b⌉` images, same number of tilts -/
theorem bin_shape {F : Type} [Field F] (b : Nat) (a r : A3 F) (h : bin b a = .ok r) :
    r.d0 = a.d0 ∧ r.d1 = (a.d1 + b - 1) / b ∧ r.d2 = (a.d2 + b - 1) / b ∧ r.WF := by
  unfold bin at h
  split at h
  · cases h
  · cases h; exact ⟨rfl, rfl, rfl, rect_tab3 _ _ _ _⟩

theorem opBin_wf {F : Type} [Field F] {b : Nat} {a : A3 F} {rs : List (A3 F)} (hrs : opBin b a = .ok rs) : ∀ r ∈ rs, r.WF := by
  obtain ⟨r, hb, rfl⟩ := except_map_ok hrs
  exact List.forall_mem_singleton.2 (bin_shape b a r hb).2.2.2

/-- `transpose(2,1,0)` moves voxel `(k,j,i)` to `(i,j,k)` and is an involution on rectangular arrays -/
theorem transpose_spec (d : α) (a : A3 α) :
    (∀ i j k, i < a.d2 → j < a.d1 → k < a.d0 → get3 d (transpose3 d a).v i j k = get3 d a.v k j i)
    ∧ (transpose3 d a).WF ∧ (a.WF → transpose3 d (transpose3 d a) = a) :=
  ⟨fun _ _ _ hi hj hk => transpose3_get d a hi hj hk, transpose3_wf d a, transpose3_transpose3 d a⟩

/-- an MRC file written from a stack and read back is that stack (header `nx,ny,nz = width,height,tilts`, x fastest).
Only the first conjunct has content (`readMrc_writeMrc`); the three header equations are `rfl` restatements of the
definition of `writeMrc` — they are tied to the code by the `transpose=False` anchors and by the harness's own MRC parser. -/
theorem file_roundtrip (a : A3 α) (h : a.WF) :
    readMrc (writeMrc a) = a ∧ (writeMrc a).nx = a.d2 ∧ (writeMrc a).ny = a.d1 ∧ (writeMrc a).nz = a.d0 :=
  ⟨readMrc_writeMrc a h, rfl, rfl, rfl⟩

/-- **Same result for x,y,n and n,y,x input, and for array and file input.** For every operation `op` on the loaded
stack (all six are instances), every output order and file switch, and every rectangular stack `a` (in `n,y,x`):
passing `a` with `input_order="zyx"`, passing its `(2,1,0)` transpose with `input_order="xyz"`, and passing the MRC
file that holds `a` (with either `input_order`) are the same computation.
Proof-wise this is one `simp` over `pipeline := op (load inp)` using the two round-trip lemmas (`transpose3_transpose3`,
`readMrc_writeMrc`): it is a statement about the MODEL's wrapper. That the real six functions have this wrapper shape
(constructor → operation → `write_out` → `correct_order`, files read untransposed, arrays transposed iff `xyz`) is what
`wrappers_documented`, `order_handling_documented` and `tiltstack_class_documented` establish, and what the 16-configuration run checks. -/
theorem order_naturality (d : α) (outZyx wr inXyz : Bool) (op : A3 α → Except Err (List (A3 α))) (a : A3 α) (h : a.WF) :
    pipeline d true outZyx wr op (.arr (transpose3 d a)) = pipeline d false outZyx wr op (.arr a)
    ∧ pipeline d inXyz outZyx wr op (.file (writeMrc a)) = pipeline d false outZyx wr op (.arr a) := by
  simp only [pipeline, load, if_true, transpose3_transpose3 d a h, readMrc_writeMrc a h, Bool.false_eq_true, if_false, and_self]

/-- **The output order only transposes the returned array and does not touch the file**: the `xyz` answer is the
`(2,1,0)` transpose of the `zyx` answer, the files written are identical.
Definitional in the model (`present` is the only place `outZyx` is used); honest only through the `correct_order` /
`write_out` anchors (`order_handling_documented`, `tiltstack_class_documented`) and the differential run. -/
theorem output_order_only_transposes (d : α) (inXyz wr : Bool) (op : A3 α → Except Err (List (A3 α))) (inp : Input α) :
    pipeline d inXyz false wr op inp
      = (pipeline d inXyz true wr op inp).map (fun o => { o with returned := o.returned.map (transpose3 d) }) := by
  simp only [pipeline]
  cases op (load d inXyz inp) with
  | error e => rfl
  | ok rs => simp [Except.map, present]

/-- both output orders in one equation: a written file, read back and put in the output order, is the returned stack -/
theorem written_file_presents_result (d : α) (inXyz outZyx : Bool) (op : A3 α → Except Err (List (A3 α))) (inp : Input α)
    (o : Out α) (hop : ∀ rs, op (load d inXyz inp) = .ok rs → ∀ r ∈ rs, r.WF)
    (h : pipeline d inXyz outZyx true op inp = .ok o) :
    o.written.map (fun f => present d outZyx (readMrc f)) = o.returned := by
  obtain ⟨rs, hrs, rfl⟩ := except_map_ok (e := op (load d inXyz inp)) h
  show (rs.map writeMrc).map _ = rs.map _
  rw [List.map_map]
  apply List.map_congr_left
  intro r hr
  show present d outZyx (readMrc (writeMrc r)) = present d outZyx r
  rw [readMrc_writeMrc r (hop rs hrs r hr)]

/-- **The file it writes holds that result.** If the operation returns rectangular stacks (all six do, see the
`*_wf` theorems), the files written, read back, are exactly the stacks returned in `zyx` order — and the `(2,1,0)`
transposes of the stacks returned in `xyz` order. -/
theorem written_file_holds_result (d : α) (inXyz outZyx : Bool) (op : A3 α → Except Err (List (A3 α))) (inp : Input α)
    (o : Out α) (hop : ∀ rs, op (load d inXyz inp) = .ok rs → ∀ r ∈ rs, r.WF)
    (h : pipeline d inXyz outZyx true op inp = .ok o) :
    (outZyx = true → o.written.map readMrc = o.returned)
    ∧ (outZyx = false → o.written.map (fun f => transpose3 d (readMrc f)) = o.returned) := by
  have key := written_file_presents_result d inXyz outZyx op inp o hop h
  exact ⟨fun ho => by subst ho; exact key, fun ho => by subst ho; exact key⟩

/-- **An angle list of another length than the stack is outside the statement — this is what the code does with it.**
Whenever the call returns, it returns exactly one image per ANGLE (not per image) and there are at most as many angles as
images; so the result has all the images iff there is one angle per image: fewer angles silently drop images. -/
theorem sort_length_iff (le : κ → κ → Bool) (angles : List κ) (imgs r : List ι) (h : sortTilts le angles imgs = .ok r) :
    r.length = angles.length ∧ angles.length ≤ imgs.length ∧ (r.length = imgs.length ↔ angles.length = imgs.length) := by
  rw [sortTilts_eq] at h
  split at h
  · rename_i hle
    cases h
    have hlen := length_sorted_zip le angles imgs hle
    exact ⟨hlen, hle, by rw [hlen]⟩
  · cases h

/-- the two branches: more angles than images raise (numpy's `IndexError`), fewer return a shorter stack -/
theorem sort_length_mismatch (le : κ → κ → Bool) (angles : List κ) (imgs : List ι) :
    (imgs.length < angles.length → sortTilts le angles imgs = .error .angleIndex)
    ∧ (angles.length ≤ imgs.length → ∃ r, sortTilts le angles imgs = .ok r ∧ r.length = angles.length) := by
  rw [sortTilts_eq]
  exact ⟨fun hlt => if_neg (Nat.not_le.2 hlt), fun hle => ⟨_, if_pos hle, length_sorted_zip le angles imgs hle⟩⟩

/-- **Index sources.** A list/array goes through `remove_spec` as is; a csv file forces 0-based numbering whatever the
caller passes and is not refused when nothing is flagged (nothing is removed); a text file with one or more entries behaves
like the list (a single entry included: `indices_load` makes the loaded array 1-D, repository fix 068f224 of the former
finding C15-K1), an empty one removes nothing; anything that is neither a path, a list nor an ndarray (a tuple) is refused. -/
theorem remove_sources (base1 : Bool) (idxs : List Int) (imgs : List ι) :
    removeTiltsSrc .list base1 idxs imgs = removeTilts base1 idxs imgs
    ∧ (idxs ≠ [] → removeTiltsSrc .csv base1 idxs imgs = removeTilts false idxs imgs)
    ∧ removeTiltsSrc .csv base1 [] imgs = .ok imgs
    ∧ (idxs ≠ [] → removeTiltsSrc .txt base1 idxs imgs = removeTilts base1 idxs imgs)
    ∧ removeTiltsSrc .txt base1 [] imgs = .ok imgs
    ∧ removeTiltsSrc .other base1 idxs imgs = .error .argType := by
  have hne : idxs ≠ [] → idxs.isEmpty = false := List.isEmpty_eq_false_iff.2
  exact ⟨rfl, fun h => by simp [removeTiltsSrc, hne h], rfl, fun h => by simp [removeTiltsSrc, hne h], rfl, rfl⟩

/-- a text index file with a single entry removes exactly that image (1-based by default) -/
theorem remove_single_entry_file (base1 : Bool) (i : Int) (imgs : List ι) :
    removeTiltsSrc .txt base1 [i] imgs = removeTilts base1 [i] imgs := rfl

/-- an omitted `numbered_from_1` means 1-based: index `k` removes the `k`-th image counted from 1 -/
theorem remove_default_is_one_based (idxs : List Int) (imgs : List ι) :
    removeTilts (base1Of none) idxs imgs = removeTilts true idxs imgs := by
  rw [defaults_resolve.1]

/-- **Which axis a flip reverses** (the involution alone is also satisfied by the identity): on a rectangular
`n × H × W` stack, numpy axis 0 maps tilt `z` to `n-1-z`, axis 1 maps row `j` to `H-1-j`, axis 2 maps column `i` to `W-1-i`;
with `flip_table_documented`: `'x'` reverses the rows (IMOD `clip flipx`), `'y'` the columns, `'z'` the tilt order. -/
theorem flip_reverses (d : α) {n H W : Nat} {v : L3 α} (h : Rect n H W v) {z j i : Nat} (hz : z < n) (hj : j < H) (hi : i < W) :
    get3 d (flipAxis 0 v) z j i = get3 d v (n - 1 - z) j i
    ∧ get3 d (flipAxis 1 v) z j i = get3 d v z (H - 1 - j) i
    ∧ get3 d (flipAxis 2 v) z j i = get3 d v z j (W - 1 - i) := by
  obtain ⟨hn, himg⟩ := h
  have hzv : z < v.length := by omega
  obtain ⟨hH, hrow⟩ := himg _ (getD_mem v [] hzv)
  refine ⟨?_, ?_, ?_⟩
  · simp only [get3, flipAxis]
    rw [getD_reverse v [] hzv, hn]
  · simp only [get3, flipAxis]
    rw [getD_map_nil List.reverse rfl, getD_reverse _ [] (by omega), hH]
  · simp only [get3, flipAxis]
    rw [getD_map_nil (fun img => img.map List.reverse) rfl, getD_map_nil List.reverse rfl]
    have hW := hrow _ (getD_mem (v.getD z []) [] (by omega : j < (v.getD z []).length))
    rw [getD_reverse _ d (by omega), hW]

/-- anchor-level restatement (`rfl` through the regenerated `Gen.C15.flipTable`): which list operation each axis NAME
denotes in the model. It is not a clause of the property by itself — the content is `flip_reverses` (which voxel moves
where) together with `flip_table_documented` (the table in the source is the documented one); if the source table
changes, this `rfl` stops type-checking. -/
theorem flip_named_convention (v : L3 α) :
    flipAll ["x"] v = .ok (v.map List.reverse) ∧ flipAll ["y"] v = .ok (v.map (fun img => img.map List.reverse))
    ∧ flipAll ["z"] v = .ok v.reverse := ⟨rfl, rfl, rfl⟩

/-- the `axes` argument: a single string is one axis, a list is applied left to right, anything else (a tuple) is refused.
An `rfl` restatement of the definition of `flipArg` (an anchor for the reader, not a clause of the property); the tie to
the code is the `if not isinstance(axes, list): axes = [axes]` statement in `flip_body_documented`. -/
theorem flip_argument_kinds (v : L3 α) :
    (∀ a, flipArg (.one a) v = flipAll [a] v) ∧ (∀ as, flipArg (.list as) v = flipAll as v) ∧ flipArg .other v = .error .axis :=
  ⟨fun _ => rfl, fun _ => rfl, rfl⟩

/-- **`astype(int16)` truncates toward zero**: for a block mean `num/den`, the stored integer `t` has the sign of the mean,
`|t| ≤ |mean| < |t| + 1`; an integral mean is stored exactly. -/
theorem trunc_toward_zero (q : Rat) :
    (0 ≤ q.num → 0 ≤ truncI q ∧ truncI q * q.den ≤ q.num ∧ q.num < (truncI q + 1) * q.den)
    ∧ (q.num ≤ 0 → truncI q ≤ 0 ∧ q.num ≤ truncI q * q.den ∧ (truncI q - 1) * q.den < q.num) :=
  tdiv_toward_zero q.num q.den q.den_pos

theorem trunc_of_int (n : Int) : truncI (n : Rat) = n := by
  simp [truncI]

theorem present_map {β : Type} (c : α → β) (d : α) (outZyx : Bool) (a : A3 α) :
    present (c d) outZyx (A3.map c a) = A3.map c (present d outZyx a) := by
  cases outZyx
  · exact transpose3_map c d a
  · rfl

/-- **The file holds the result also through the dtype cast**: `write_out` and `correct_order` apply the same cast `c`
(the dtype of the loaded stack), and the cast commutes with file I/O and transposition. -/
theorem written_file_holds_result_cast {β : Type} (c : α → β) (d : α) (inXyz outZyx : Bool)
    (op : A3 α → Except Err (List (A3 α))) (inp : Input α)
    (o : Out α) (hop : ∀ rs, op (load d inXyz inp) = .ok rs → ∀ r ∈ rs, r.WF)
    (h : pipeline d inXyz outZyx true op inp = .ok o) :
    (outZyx = true → (o.cast c).written.map readMrc = (o.cast c).returned)
    ∧ (outZyx = false → (o.cast c).written.map (fun f => transpose3 (c d) (readMrc f)) = (o.cast c).returned) := by
  have key : (o.cast c).written.map (fun f => present (c d) outZyx (readMrc f)) = (o.cast c).returned := by
    simp only [Out.cast, ← written_file_presents_result d inXyz outZyx op inp o hop h, List.map_map]
    exact List.map_congr_left fun f _ => by simp only [Function.comp, readMrc_map, present_map]
  exact ⟨fun ho => by subst ho; exact key, fun ho => by subst ho; exact key⟩

/-- **The written file holds the result for the real functions** (not only for an abstract `op`): sorting, removing (any
index source), splitting, flipping (any argument kind) and cropping, on every input whose loaded stack is rectangular. -/
theorem file_holds_result_for_each_function (d : α) (inXyz outZyx : Bool) (inp : Input α) (hin : (load d inXyz inp).WF) (o : Out α) :
    let holds := (outZyx = true → o.written.map readMrc = o.returned)
      ∧ (outZyx = false → o.written.map (fun f => transpose3 d (readMrc f)) = o.returned)
    (∀ (le : κ → κ → Bool) angles, pipeline d inXyz outZyx true (opSort le angles) inp = .ok o → holds)
    ∧ (∀ src base1 idxs, pipeline d inXyz outZyx true (opRemoveSrc src base1 idxs) inp = .ok o → holds)
    ∧ (pipeline d inXyz outZyx true opSplit inp = .ok o → holds)
    ∧ (∀ arg, pipeline d inXyz outZyx true (opFlipArg arg) inp = .ok o → holds)
    ∧ (∀ newW newH, pipeline d inXyz outZyx true (opCrop newW newH) inp = .ok o → holds) := by
  intro holds
  -- each of the five keeps the loaded stack rectangular, which is all `written_file_holds_result` asks
  have key := fun op hop h => written_file_holds_result d inXyz outZyx op inp o hop h
  exact ⟨fun le angles => key _ fun _ => opSort_wf hin, fun src base1 idxs => key _ fun _ => opRemoveSrc_wf hin,
    key _ fun _ => opSplit_wf hin, fun arg => key _ fun _ => opFlipArg_wf hin, fun newW newH => key _ fun _ => opCrop_wf hin⟩

/-! The tilt-angle sources: sorting is judged on the angles AS WRITTEN (exact decimal → `Rat`).

`sort_tilts_by_angle` takes its angles from a text file with one decimal number per line (`one_value_per_line_read`,
float32), from the `TiltAngle` entries of an mdoc file (float64) or from a list / ndarray. The model parses the decimal
TEXT exactly (`parseDec`) and sorts by that rational number, so the theorems below are about the very key written in the
file. The code's key is this number rounded to float32 / float64: rounding is monotone, hence the order is the same
unless two different written angles round to the same float (the harness computes this for every case and counts such
cases as outside — they need ≥ 7 significant digits). -/

/-- **What a decimal text denotes**: `ddd.ddd` is the integer part plus the fractional digits over `10 ^ (their number)`,
a leading `-` negates, a text without a decimal point is the integer. (Every all-digit `ip ≠ []`, every all-digit `fp`.) -/
theorem angle_text_value (ip fp : List Char) (hip : ∀ c ∈ ip, c.isDigit = true) (hfp : ∀ c ∈ fp, c.isDigit = true) (hne : ip ≠ []) :
    parseDecChars (ip ++ '.' :: fp) = some ((natOfDigits ip : Rat) + (natOfDigits fp : Rat) / (10 : Rat) ^ fp.length)
    ∧ parseDecChars ('-' :: (ip ++ '.' :: fp)) = some (-((natOfDigits ip : Rat) + (natOfDigits fp : Rat) / (10 : Rat) ^ fp.length))
    ∧ parseDecChars ip = some (natOfDigits ip : Rat)
    ∧ parseDecChars ('-' :: ip) = some (-(natOfDigits ip : Rat)) := by
  obtain ⟨d, t, rfl⟩ := List.exists_cons_of_ne_nil hne
  have huns := parseDecChars_of_digit (hip d (List.mem_cons_self ..))
  have h1 := parseUnsigned_decimal (d :: t) fp hip hfp hne
  have h2 := parseUnsigned_integer (d :: t) hip hne
  -- a leading `-` maps the negation over the value of the rest
  exact ⟨(huns _).trans h1, congrArg (Option.map _) h1, (huns _).trans h2, congrArg (Option.map _) h2⟩

/-- **Sorting by the written angles** (hypothesis-free about the order: `≤` on `Rat` is total and transitive): if every
line parses (`keys` are the exact values, one per image), the result is a permutation of the (angle, image) pairs,
ascending in the written angle. -/
theorem sort_by_written_angles (lines : List String) (keys : List Rat) (imgs : List ι)
    (hparse : List.Forall₂ (fun s q => parseDec s = some q) lines keys) (hlen : lines.length = imgs.length) :
    ∃ ps : List (Rat × ι), sortTiltsLines lines imgs = .ok (ps.map (·.2))
      ∧ ps.Perm (keys.zip imgs) ∧ ps.Pairwise (fun p q => p.1 ≤ q.1) := by
  have hk : keys.length = imgs.length := by rw [← hlen]; exact hparse.length_eq.symm
  obtain ⟨ps, hres, hperm, hsorted⟩ := sort_perm_sorted ratLe ratLe_trans ratLe_total keys imgs hk
  refine ⟨ps, ?_, hperm, hsorted.imp (fun h => by simpa [ratLe] using h)⟩
  simp only [sortTiltsLines, parseAll_of_forall₂ lines keys hparse]
  exact hres

/-- written angles without ties: the ascending arrangement is unique — any correct sorting routine returns the model's list -/
theorem sort_by_written_angles_unique (keys : List Rat) (hnodup : keys.Nodup) (imgs : List ι) (hlen : keys.length = imgs.length)
    (ps qs : List (Rat × ι)) (hp : ps.Perm (keys.zip imgs)) (hq : qs.Perm (keys.zip imgs))
    (hps : ps.Pairwise (fun p q => p.1 ≤ q.1)) (hqs : qs.Pairwise (fun p q => p.1 ≤ q.1)) : ps = qs :=
  sort_unique_without_ties ratLe ratLe_antisymm keys hnodup imgs hlen ps qs hp hq
    (hps.imp (fun h => by simpa [ratLe] using h)) (hqs.imp (fun h => by simpa [ratLe] using h))

/-- **Ties (outside the property; recorded).** The MODEL's sort is stable: whenever image `i` comes before image `j` in the
input and its angle is `≤` the angle of `j` (in particular: equal), `i` comes before `j` in the result. The real code calls
`np.argsort(tilt_angles)` with numpy's default `kind="quicksort"` (`sort_expressions_documented`), which numpy does not
promise to be stable; so for tied angles the harness only checks that the result is SOME ascending arrangement of the images
that have an angle, and does not compare the positions of tied images with the model. The tie class is decided before the
length class: an angle list SHORTER than the stack that holds a tie is judged the same way (up to the order inside tie
groups): compared position by position with this stable model such a list gives a false alarm (seed 1069). -/
theorem sort_ties_keep_input_order (le : κ → κ → Bool)
    (htrans : ∀ a b c, le a b = true → le b c = true → le a c = true) (htotal : ∀ a b, (le a b || le b a) = true)
    (angles : List κ) (imgs : List ι) (hlen : angles.length = imgs.length) (i j : Nat) (hij : i < j) (hj : j < angles.length)
    (hle : le (angles[i]'(by omega)) angles[j] = true) :
    ∃ r, sortTilts le angles imgs = .ok r ∧ [imgs[i]'(by omega), imgs[j]'(by omega)].Sublist r := by
  refine ⟨_, by rw [sortTilts_eq, if_pos hlen.le], ?_⟩
  rw [← argsort_filterMap_getElem? le angles imgs hlen.le]
  have hs := (argsort_stable le htrans htotal angles i j hij hj hle).filterMap (imgs[·]?)
  have hi' : i < imgs.length := by omega
  have hj' : j < imgs.length := by omega
  simpa only [List.filterMap_cons, List.filterMap_nil, List.getElem?_eq_getElem hi', List.getElem?_eq_getElem hj'] using hs

/-- the same for the written angles: two images with the same written angle keep their input order in the model -/
theorem sort_written_ties_keep_input_order (keys : List Rat) (imgs : List ι) (hlen : keys.length = imgs.length)
    (i j : Nat) (hij : i < j) (hj : j < keys.length) (heq : keys[i]'(by omega) = keys[j]) :
    ∃ r, sortTilts ratLe keys imgs = .ok r ∧ [imgs[i]'(by omega), imgs[j]'(by omega)].Sublist r :=
  sort_ties_keep_input_order ratLe ratLe_trans ratLe_total keys imgs hlen i j hij hj (by simp [ratLe, heq])

/-- **From the text of the file to the column of angles** (what `AngArg.tltFile` / `AngArg.mdocFile` sort by). Both extractions
are compositional over the lines of the file (`…_append`), so these per-line facts describe whole files:
a one-value-per-line file contributes, per non-blank line, its first whitespace-separated field (leading blanks as IMOD writes
them in `.rawtlt`, trailing blanks / `\r` dropped), blank lines nothing; an mdoc file contributes, per `TiltAngle = v` line,
the stripped `v`, and nothing for section headers `[ZValue = k]`, other keys or blank lines. -/
theorem angle_file_columns :
    (∀ a b, tltColumn (a ++ b) = tltColumn a ++ tltColumn b)
    ∧ (∀ l, (∀ c ∈ l, isWs c = true) → tltColumn [l] = [])
    ∧ (∀ pre tok post, (∀ c ∈ pre, isWs c = true) → (∀ c ∈ tok, isWs c = false) → tok ≠ [] →
        (post = [] ∨ ∃ w rest, post = w :: rest ∧ isWs w = true) → tltColumn [pre ++ tok ++ post] = [tok])
    ∧ (∀ a b, mdocColumn (a ++ b) = mdocColumn a ++ mdocColumn b)
    ∧ (∀ k v, (∀ c ∈ k, c ≠ '=') → trimChars k = "TiltAngle".toList → (k ++ '=' :: v).head? ≠ some '[' →
        mdocColumn [k ++ '=' :: v] = [trimChars v])
    ∧ (∀ l, (l.head? = some '[' ∨ keyOf l ≠ "TiltAngle".toList) → mdocColumn [l] = []) :=
  ⟨tltColumn_append, tltColumn_blank, tltColumn_line, mdocColumn_append, mdocColumn_line, mdocColumn_skip⟩

/-- what the model does with each kind of `input_tilts` (definitional unfoldings — anchors, not clauses): an argument that is
neither a path, a list nor an ndarray is refused like `tlt_load`'s final `raise ValueError` (`loaders_documented`); a cell that
is not a plain decimal number puts the case outside the model (`angleText`); otherwise the call IS `opSort` on the exact values
of the cells — so `sort_by_written_angles`, `sort_by_written_angles_unique`, `opSort_wf` apply to what the driver executes. -/
theorem sort_argument_kinds (arg : AngArg) (a : A3 α) :
    (arg.cells = none → opSortArg arg a = .error .argType)
    ∧ (∀ cells, arg.cells = some cells → parseAll cells = none → opSortArg arg a = .error .angleText)
    ∧ (∀ cells keys, arg.cells = some cells → parseAll cells = some keys → opSortArg arg a = opSort ratLe keys a)
    ∧ AngArg.other.cells = none ∧ (∀ lines, (AngArg.seq lines).cells = some lines) := by
  refine ⟨fun h => ?_, fun cells hc h => ?_, fun cells keys hc h => ?_, rfl, fun _ => rfl⟩
  · simp [opSortArg, h]
  · simp [opSortArg, hc, sortTiltsLines, h, Except.map]
  · simp [opSortArg, hc, sortTiltsLines, h, opSort]

/-- **The written file holds the result for sorting by a file / list of written angles** (the operation the driver executes) -/
theorem file_holds_result_sort_lines (d : α) (inXyz outZyx : Bool) (inp : Input α) (hin : (load d inXyz inp).WF) (o : Out α)
    (arg : AngArg) (h : pipeline d inXyz outZyx true (opSortArg arg) inp = .ok o) :
    (outZyx = true → o.written.map readMrc = o.returned)
    ∧ (outZyx = false → o.written.map (fun f => transpose3 d (readMrc f)) = o.returned) :=
  written_file_holds_result d inXyz outZyx _ inp o (fun _ => opSortArg_wf hin) h

/-- **The written file holds the result for binning too** (the sixth function; `file_holds_result_for_each_function` lists the five
that only move voxels): over any field, for every binning factor, also through the cast back to the stack's dtype (`c`, e.g.
`truncI` for int16 stacks — `write_out` and `correct_order` apply the same cast). -/
theorem file_holds_result_bin {F β : Type} [Field F] (c : F → β) (d : F) (inXyz outZyx : Bool) (inp : Input F) (o : Out F) (b : Nat)
    (h : pipeline d inXyz outZyx true (opBin b) inp = .ok o) :
    ((outZyx = true → o.written.map readMrc = o.returned)
      ∧ (outZyx = false → o.written.map (fun f => transpose3 d (readMrc f)) = o.returned))
    ∧ ((outZyx = true → (o.cast c).written.map readMrc = (o.cast c).returned)
      ∧ (outZyx = false → (o.cast c).written.map (fun f => transpose3 (c d) (readMrc f)) = (o.cast c).returned)) :=
  ⟨written_file_holds_result d inXyz outZyx _ inp o (fun _ => opBin_wf) h,
    written_file_holds_result_cast c d inXyz outZyx _ inp o (fun _ => opBin_wf) h⟩

/-! Non-vacuity: concrete inputs meeting the hypotheses. -/

example := sort_perm_sorted (fun (a b : Int) => decide (a ≤ b)) (by intro a b c; simp; omega) (by intro a b; simp; omega)
  [30, -10, 20] ["a", "b", "c"] rfl
example := sort_unique_without_ties (ι := String) (fun (a b : Int) => decide (a ≤ b)) (by intro a b; simp; omega) [30, -10, 20] (by decide)
example : removeTilts true [3, 1] ["a", "b", "c", "d"] = .ok ["b", "d"] := by decide +kernel
example : removeTilts false [3, 1] ["a", "b", "c", "d"] = .ok ["a", "c"] := by decide +kernel
example : removeTilts true [0] ["a", "b"] = .error .index := by decide +kernel
example : splitTilts [1, 2, 3, 4, 5] = .ok ([1, 3, 5], [2, 4]) := by decide +kernel
example : flipAll ["x", "z"] [[[1, 2], [3, 4]], [[5, 6], [7, 8]]] = .ok [[[7, 8], [5, 6]], [[3, 4], [1, 2]]] := by decide +kernel
example : (crop (some 2) (some 1) (ofFlat 1 3 5 (List.range 15))).toOption.map (·.v) = some [[[6, 7]]] := by decide +kernel
example : (bin 2 (ofFlat 1 2 4 [(1 : Rat), 2, 3, 4, 5, 6, 7, 8])).toOption.map (·.v) = some [[[(7 : Rat) / 2, 11 / 2]]] := by decide +kernel
example : (ofFlat 2 3 4 (List.range 24)).WF := by unfold A3.WF Rect; decide +kernel
example : (transpose3 0 (ofFlat 1 2 3 [1, 2, 3, 4, 5, 6])).v = [[[1], [4]], [[2], [5]], [[3], [6]]] := by decide +kernel

example : ∃ r, sortTilts (fun (a b : Int) => decide (a ≤ b)) [30, -10] ["a", "b", "c"] = .ok r ∧ r.length = 2 :=
  (sort_length_mismatch _ [30, -10] ["a", "b", "c"]).2 (by decide)
example : sortTilts (fun (a b : Int) => decide (a ≤ b)) [3, 1, 2, 0] ["a", "b", "c"] = .error .angleIndex :=
  (sort_length_mismatch _ [3, 1, 2, 0] ["a", "b", "c"]).1 (by decide)
example : removeTiltsSrc .csv true [1, 3] ["a", "b", "c", "d"] = .ok ["a", "c"] := by decide +kernel
example : removeTiltsSrc .txt true [2] ["a", "b", "c", "d"] = .ok ["a", "c", "d"] := by decide +kernel
example : removeTiltsSrc .txt true [2, 4] ["a", "b", "c", "d"] = .ok ["a", "c"] := by decide +kernel
example : flipArg (.one "x") [[[1, 2], [3, 4]]] = .ok [[[3, 4], [1, 2]]] := by decide +kernel
example : flipArg .other [[[1, 2], [3, 4]]] = .error .axis := by decide +kernel
example : truncI ((-7 : Rat) / 2) = -3 ∧ truncI ((7 : Rat) / 2) = 3 ∧ truncI (-(1 : Rat) / 4) = 0 := by decide +kernel
example : Rect 2 2 2 [[[1, 2], [3, 4]], [[5, 6], [7, 8]]] := by unfold Rect; decide +kernel
example : parseDec " -60.00" = some (-60) ∧ parseDec "10.34" = some (517 / 50) ∧ parseDec "10.26\r" = some (513 / 50)
    ∧ parseDec "12" = some 12 ∧ parseDec ".5" = some (1 / 2) ∧ parseDec "1e1" = none ∧ parseDec "" = none := by decide +kernel
/-- 10.34, 10.26, -3.0 sort to positions [2, 1, 0] (rounding the angles to one decimal would give
[2, 0, 1]); derived from the two theorems above, not by evaluating the sort -/
example : sortTiltsLines ["10.34", "10.26", "-3.0"] ["a", "b", "c"] = .ok ["c", "b", "a"] := by
  obtain ⟨ps, hres, hperm, hsorted⟩ := sort_by_written_angles ["10.34", "10.26", "-3.0"] [517 / 50, 513 / 50, -3] ["a", "b", "c"]
    (.cons (by decide +kernel) (.cons (by decide +kernel) (.cons (by decide +kernel) .nil))) rfl
  have := sort_by_written_angles_unique [517 / 50, 513 / 50, -3] (by decide +kernel) ["a", "b", "c"] rfl ps
    [(-3, "c"), (513 / 50, "b"), (517 / 50, "a")] hperm (List.reverse_perm [(517 / 50, "a"), (513 / 50, "b"), (-3, "c")])
    hsorted (by decide +kernel)
  rw [hres, this]; rfl
example := sort_by_written_angles ["10.34", "10.26", "-3.0"] [517 / 50, 513 / 50, -3] ["a", "b", "c"]
  (.cons (by decide +kernel) (.cons (by decide +kernel) (.cons (by decide +kernel) .nil))) rfl
example := angle_text_value ['1', '0'] ['3', '4'] (by decide +kernel) (by decide +kernel) (by decide +kernel)
example : removeTiltsSrc .other true [1] ["a", "b"] = .error .argType := rfl
example : (AngArg.tltFile [" -60.00", "  -57.00\r", "", "3.5 7"]).cells = some ["-60.00", "-57.00", "3.5"] := by decide +kernel
example : (AngArg.mdocFile ["PixelSpacing = 1.35", "[T = x]", "[ZValue = 0]", "TiltAngle = -0.01", "ExposureDose = 3.0", "",
    "[ZValue = 1]", "TiltAngle = 59.98"]).cells = some ["-0.01", "59.98"] := by decide +kernel

end CryoCat.C15
