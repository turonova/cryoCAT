import CryoCat.Drv.Proto
import CryoCat.Model.C17
import CryoCat.Model.C17_Wedge
import CryoCat.Model.C17_Load
import CryoCat.Model.C17_Ext
import CryoCat.Model.C17_Code
import CryoCat.Model.C17_Ties
import CryoCat.Model.C17_Num
import CryoCat.Lemmas.C17_WF
namespace CryoCat.Drv.C17
open Lean CryoCat CryoCat.C17

def sJ (s : Str) : Json := Json.str (String.ofList s)
def ratJ (q : Rat) : Json := Json.arr #[Json.num (JsonNumber.fromInt q.num), Json.num (JsonNumber.fromNat q.den)]
def optJ {β : Type} (f : β → Json) : Option β → Json
  | some x => f x
  | none => Json.null
def listJ {β : Type} (f : β → Json) (l : List β) : Json := Json.arr (l.map f).toArray

def valJ : Val → Json
  | .int ds => Json.arr #["i", sJ ds]
  | .flt i f => Json.arr #["f", sJ i, sJ f]
  | .text s => Json.arr #["s", sJ s]
  | .tilt n i f => Json.arr #["t", Json.bool n, sJ i, sJ f]

def rowJ (r : Row) : Json := Json.mkObj [("z", sJ r.z), ("cells", listJ valJ r.cells), ("removed", Json.bool r.removed)]
def mdocJ (m : Mdoc) : Json :=
  Json.mkObj [("info", listJ (fun kv => Json.arr #[sJ kv.1, valJ kv.2]) m.info), ("titles", listJ sJ m.titles),
              ("sid", sJ m.sid), ("cols", listJ sJ m.cols), ("rows", listJ rowJ m.rows)]

def getBool? (j : Json) (k : String) : Option Bool := (j.getObjValAs? Bool k).toOption
def parseStrs (a : Array Json) : Option (List Str) := a.toList.mapM (fun j => match j with | Json.str s => some s.toList | _ => none)
def parseInts (a : Array Json) : Option (List Int) := a.toList.mapM (fun j => (j.getInt?).toOption)

/-- a number on the wire: the decimal TOKEN as it stands in the text file (parsed by the model's `parseDecimal`: the text → number step of
the loaders is inside the model), or an exact rational `[numerator, denominator]` (numbers that never were text: array inputs) -/
def parseRat (j : Json) : Option Rat :=
  match j with
  | Json.str s => parseDecimal (strip s.toList)
  | Json.arr #[a, b] => match a.getInt?, b.getNat? with
    | .ok n, .ok d => if d = 0 then none else some (mkRat n d)
    | _, _ => none
  | _ => none
def parseRats (j : Json) : Option (List Rat) := match j with | Json.arr a => a.toList.mapM parseRat | _ => none
def parseOptRats (j : Json) : Option (Option (List Rat)) := match j with | Json.null => some none | _ => (parseRats j).map some

def leRat (a b : Rat) : Bool := decide (a ≤ b)

/-- one step of an operation sequence on an Mdoc object -/
def step (m : Mdoc) (j : Json) : Option Mdoc :=
  match getStr? j "k" with
  | some "sort" =>
    let reset := (getBool? j "reset").getD Gen.C17.sortResetDefault
    -- `order` (sent only for tables with equal tilt angles): the arrangement the implementation chose; accepted iff it is an ascending
    -- permutation of the table (verified checker `arrangeOk`), else the step fails
    match getArr? j "order" with
    | some a => match a.toList.mapM (fun x => x.getNat?.toOption) with
      | some o => sortByTiltAs (some o) reset m
      | none => none
    | none => if reset then some (sortByTilt true m) else Op.apply .sort m
  | some "remove" =>
    match getArr? j "idxs" >>= parseInts with
    | some idxs =>
      -- `from1` present: the console-level `mdoc.remove_images(path, idx, numbered_from_1)` (indices_load, then kept_only default)
      match getBool? j "from1" with
      | some f1 => removeImagesScript f1 idxs m
      | none => Op.apply (.remove idxs ((getBool? j "kept_only").getD Gen.C17.removeKeptOnlyDefault)) m
    | none => none
  | _ => none

def handleMdoc (j : Json) : Json :=
  match getArr? j "lines" >>= parseStrs with
  | none => err "bad-args"
  | some lines =>
    let steps := ((getArr? j "steps").getD #[]).toList
    let wr := (getBool? j "write_removed").getD Gen.C17.writeRemovedDefault
    let parsed := parseMdocX lines
    let after := steps.foldl (fun (acc : Option Mdoc) s => acc.bind (fun m => step m s)) parsed
    let written := after.map (printMdoc wr)
    let reread := written.bind parseMdocX
    let fresh := parsed.map (printMdoc true)
    Json.mkObj [("parsed", optJ mdocJ parsed), ("after", optJ mdocJ after),
                -- is the text read by the strict model the theorems are about, and if nothing reads it: does the code raise or is
                -- the text of a named class outside the quantifier?
                ("strict", Json.bool (parseMdoc lines).isSome),
                ("why", match parsed with | some _ => Json.null | none => Json.str (whyNone lines).name),
                ("tilt_ties", optJ (fun m => Json.bool (hasTiltTies m)) parsed),
                ("long_float", optJ (fun m => Json.bool (hasLongFloat m)) parsed),
                ("reset_hits_section", optJ (fun m => Json.bool (resetHitsSection m)) parsed),
                ("text_ok", Json.bool (textOk lines)),
                ("wf", optJ (fun m => Json.bool (wfb m)) parsed), ("wf_after", optJ (fun m => Json.bool (wfb m)) after),
                ("kept", optJ (fun m => listJ rowJ (keptImages m)) after),
                ("written", optJ (listJ sJ) written), ("reread", optJ mdocJ reread),
                ("fresh_written", optJ (listJ sJ) fresh), ("fresh_reread", optJ mdocJ (fresh.bind parseMdocX)),
                ("dose", optJ (listJ ratJ) (parsed.bind mdocDose)),
                ("tilts", optJ (fun m => listJ ratJ (mdocTilts false m)) parsed),
                ("tilts_sorted", optJ (fun m => listJ ratJ (mdocTilts true m)) parsed)]

def defocusJ (d : Defocus Rat) : Json := Json.arr #[ratJ d.defocus1, ratJ d.defocus2, ratJ d.astigmatism, ratJ d.phaseShift, ratJ d.defocusMean]

def parseCtfRows (rows : Array Json) : Option (List (Rat × Rat × Rat × Option Rat)) :=
  rows.toList.mapM (fun r => match r with
    | Json.arr #[u, v, a, p] => match parseRat u, parseRat v, parseRat a with
      | some u, some v, some a => (match p with | Json.null => some (u, v, a, none) | _ => (parseRat p).map (fun p => (u, v, a, some p)))
      | _, _, _ => none
    | _ => none)

def readDefocus (kind : String) (rs : List (Rat × Rat × Rat × Option Rat)) : List (Defocus Rat) :=
  if kind == "gctf" then gctfRead Gen.C17.angToMicronGctf Gen.C17.meanDivisor rs
  else ctffindRead Gen.C17.angToMicronCtffind Gen.C17.meanDivisor (rs.map (fun r => (r.1, r.2.1, r.2.2.1, r.2.2.2.getD 0)))

/-- a tomogram of a wedge request: tilts / dose either as numbers or through an mdoc text (`mdoc` lines), defocus either as
defocus_mean numbers or through the rows of a gctf / ctffind4 file (`ctf_kind`, `ctf_rows`) -/
def parseTomo (j : Json) : Option (Tomo Rat) :=
  let md : Option Mdoc := (getArr? j "mdoc" >>= parseStrs) >>= parseMdoc
  let tilts : Option (List Rat) := match j.getObjVal? "mdoc" with
    | .ok _ => md.map (mdocTilts Gen.C17.tltSortsByDefault)
    | .error _ => ((j.getObjVal? "tilts").toOption >>= parseRats).map
        -- `as_given`: the tilts are passed as an ARRAY, which `tlt_load` returns unsorted
        (tltLoad leRat (Gen.C17.tltSortsByDefault && !((getBool? j "as_given").getD false)))
  let dose : Option (Option (List Rat)) := match getBool? j "dose_from_mdoc" with
    | some true => (md >>= mdocDose).map some
    | _ => (j.getObjVal? "dose").toOption >>= parseOptRats
  let defocus : Option (Option (List Rat)) := match getStr? j "ctf_kind", getArr? j "ctf_rows" >>= parseCtfRows with
    | some kind, some rs => some (some ((readDefocus kind rs).map (·.defocusMean)))
    | _, _ => (j.getObjVal? "defocus").toOption >>= parseOptRats
  match getInt? j "id", (j.getObjVal? "dims").toOption >>= parseRats, (j.getObjVal? "z").toOption >>= parseRat, tilts, defocus, dose with
  | some id, some [x, y, z], some zs, some tilts, some defocus, some dose =>
    some { id := id, dimX := x, dimY := y, dimZ := z, zShift := zs, tilts := tilts, defocus := defocus, dose := dose }
  | _, _, _, _, _, _ => none

def handleDefocus (j : Json) : Json :=
  match getStr? j "kind", getArr? j "rows" >>= parseCtfRows with
  | some kind, some rs => listJ defocusJ (readDefocus kind rs)
  | _, _ => err "bad-args"

/-- `gctf_read` at code level: the STAR table's numeric columns in FILE order -/
def handleGctfCode (j : Json) : Json :=
  match getArr? j "cols" >>= (fun a => a.toList.mapM (fun x => match x with | Json.str s => some s | _ => none)),
        (j.getObjVal? "cells").toOption >>= (fun x => match x with | Json.arr a => a.toList.mapM parseRats | _ => none) with
  | some cols, some rows =>
    Json.mkObj [("out", optJ (listJ defocusJ) (gctfReadCode Gen.C17.angToMicronGctf Gen.C17.meanDivisor cols rows)),
                ("spec", optJ (listJ defocusJ) ((getArr? j "rows" >>= parseCtfRows).map (readDefocus "gctf")))]
  | _, _ => err "bad-args"

def wrowJ (r : WedgeRow Rat) : Json :=
  Json.arr #[Json.num (JsonNumber.fromInt r.tomoNum), ratJ r.pixelSize, ratJ r.tomoX, ratJ r.tomoY, ratJ r.tomoZ, ratJ r.zShift,
             ratJ r.tiltAngle, optJ ratJ r.defocus, optJ ratJ r.exposure, ratJ r.voltage, ratJ r.ampContrast, ratJ r.cs]

def emJ (r : Int × Rat × Rat) : Json := Json.arr #[Json.num (JsonNumber.fromInt r.1), ratJ r.2.1, ratJ r.2.2]

def cellJ : WCell Rat → Json
  | .int n => Json.num (JsonNumber.fromInt n)
  | .num x => ratJ x
  | .nan => Json.null

def handleWedge (j : Json) : Json :=
  match (j.getObjVal? "consts").toOption >>= parseRats, getArr? j "tomos" >>= (fun a => a.toList.mapM parseTomo) with
  | some [px, vo, am, cs], some tomos0 =>
    -- a tomogram list read from a file goes through `tlt_load`, which sorts it ascending
    let tomos := if (getBool? j "tomo_list_from_file").getD false
      then tomoOrder Gen.C17.tltSortsByDefault tomos0 else tomos0
    let c : Consts Rat := { pixelSize := px, voltage := vo, ampContrast := am, cs := cs }
    let rows := wedgeBatch c tomos
    -- code level: the tables of the batch function in THEIR row order, look-ups by tomogram number, np.repeat, values[0][0]
    let parseTab {β : Type} (k : String) (f : Json → Option β) : Option (List (Int × β)) :=
      getArr? j k >>= (fun a => a.toList.mapM (fun r => match r with
        | Json.arr #[i, v] => (match i.getInt?.toOption, f v with | some i, some v => some (i, v) | _, _ => none)
        | _ => none))
    let bin : BatchIn Rat :=
      { ids := tomos.map (·.id),
        dimTable := (parseTab "dim_table" parseRats).getD (tomos.map (fun t => (t.id, [t.dimX, t.dimY, t.dimZ]))),
        zTable := (parseTab "z_table" parseRat).getD (tomos.map (fun t => (t.id, t.zShift))),
        files := tomos.map (fun t => (t.id, (t.tilts, t.defocus, t.dose))) }
    let rowsCode := wedgeBatchCode c bin
    let hasCtf := tomos.any (fun t => t.defocus.isSome)
    let hasDose := tomos.any (fun t => t.dose.isSome)
    Json.mkObj [("rows", optJ (listJ wrowJ) rows),
                ("rows_code", optJ (listJ wrowJ) rowsCode),
                ("code_eq_spec", Json.bool (rowsCode == rows)),
                ("single_code", listJ (fun t => optJ (listJ wrowJ) (wedgeSingleCode c
                    { id := t.id, dims := [[t.dimX, t.dimY, t.dimZ]], zTable := [[t.zShift]], tilts := t.tilts, defocus := t.defocus, dose := t.dose })) tomos),
                ("single", listJ (fun t => optJ (listJ wrowJ) (wedgeSingle c t)) tomos),
                ("header", listJ (fun (s : String) => Json.str s) (wedgeHeader hasCtf hasDose)),
                ("em", optJ (listJ emJ) (wedgeEm leRat (tomos.map (fun t => (t.id, t.tilts))))),
                ("sg2em", optJ (listJ emJ) (rows.bind (fun rs => sgToEm leRat (rs.map (fun r => (r.tomoNum, r.tiltAngle)))))),
                -- the file layer: the table that is written, what `load_wedge_list_sg` makes of it, `wedge_list_sg_to_em` on it
                ("table_cols", optJ (fun rs => listJ (fun (s : String) => Json.str s) (sgTable rs).cols) rows),
                ("table_rows", optJ (fun rs => listJ (listJ cellJ) (sgTable rs).rows) rows),
                ("table_reload_same", optJ (fun rs => Json.bool (loadSg ((sgTable rs).mapCells id) == some rs)) rows),
                ("sg2em_table", optJ (listJ emJ) (rows.bind (fun rs => sgToEmFile leRat ((sgTable rs).mapCells id))))]
  | _, _ => err "bad-args"

def handleTlt (j : Json) : Json :=
  match (j.getObjVal? "vals").toOption >>= parseRats with
  | some xs => Json.mkObj [("sorted", listJ ratJ (tltLoad leRat Gen.C17.tltSortsByDefault xs)),
                           ("unsorted", listJ ratJ (tltLoad leRat false xs)), ("dose", listJ ratJ (doseLoad xs))]
  | none => err "bad-args"

/-- the two views of a path input: as an mdoc (tilts resp. dose) and as a one-value-per-line file -/
def parseViews (j : Json) (dose : Bool) : FileViews Rat :=
  let md : Option Mdoc := (getArr? j "lines" >>= parseStrs) >>= parseMdoc
  { mdoc := if dose then md >>= mdocDose else md.map (mdocTilts false),
    lines := (j.getObjVal? "vals").toOption >>= parseRats }

def parseLoadIn (j : Json) (dose : Bool) : Option (LoadIn Rat) :=
  match getStr? j "kind" with
  | some "array" => ((j.getObjVal? "vals").toOption >>= parseRats).map LoadIn.array
  | some "list" => ((j.getObjVal? "vals").toOption >>= parseRats).map LoadIn.list
  | some "file" => (getStr? j "path").map (fun p => LoadIn.file p.toList (parseViews j dose))
  | _ => none

/-- `tlt_load` / `total_dose_load` on any input kind: the reader chosen for a path, and the result (`null` = raises / outside) -/
def handleLoadIn (j : Json) (dose : Bool) : Json :=
  match parseLoadIn j dose with
  | none => err "bad-args"
  | some inp =>
    let reader : Json := match inp with
      | .file p _ => Json.str (if dose then dispatch Gen.C17.doseDispatch Gen.C17.doseDefault p else dispatch Gen.C17.tltDispatch Gen.C17.tltDefault p)
      | _ => Json.null
    let out := if dose then doseLoadIn inp else tltLoadIn leRat ((getBool? j "sort").getD Gen.C17.tltSortsByDefault) inp
    Json.mkObj [("reader", reader), ("out", optJ (listJ ratJ) out)]

def parseRatRows (j : Json) : Option (List (List Rat)) := match j with | Json.arr a => a.toList.mapM parseRats | _ => none

def handleDefocusIn (j : Json) : Json :=
  let ctf := (getArr? j "rows" >>= parseCtfRows)
  let inp : Option (DefocusIn Rat) := match getStr? j "kind" with
    | some "file" => (getStr? j "file_type").map (fun ft =>
        DefocusIn.file ft (if (getStr? j "content") == some "gctf" then ctf else none)
          (if (getStr? j "content") == some "ctffind" then ctf.map (·.map (fun r => (r.1, r.2.1, r.2.2.1, r.2.2.2.getD 0))) else none))
    | some "frame" => ((j.getObjVal? "arr").toOption >>= parseRatRows).bind (fun rs =>
        (defocusLoadIn Gen.C17.angToMicronGctf Gen.C17.angToMicronCtffind Gen.C17.meanDivisor (DefocusIn.array rs)).map DefocusIn.frame)
    | some "array" => ((j.getObjVal? "arr").toOption >>= parseRatRows).map DefocusIn.array
    | _ => none
  match inp with
  | none => err "bad-args"
  | some inp =>
    let reader : Json := match inp with
      | .file ft _ _ => optJ (fun (s : String) => Json.str s) (defocusReader ft)
      | _ => Json.null
    Json.mkObj [("reader", reader),
                ("out", optJ (listJ defocusJ) (defocusLoadIn Gen.C17.angToMicronGctf Gen.C17.angToMicronCtffind Gen.C17.meanDivisor inp))]

def handle (j : Json) : Json :=
  match getStr? j "op" with
  | some "tlt_in" => handleLoadIn j false
  | some "dose_in" => handleLoadIn j true
  | some "defocus_in" => handleDefocusIn j
  | some "mdoc" => handleMdoc j
  | some "defocus" => handleDefocus j
  | some "gctf_code" => handleGctfCode j
  | some "wedge" => handleWedge j
  | some "tlt" => handleTlt j
  | _ => err "bad-op"

end CryoCat.Drv.C17
