import CryoCat.Lemmas.C06
import CryoCat.Lemmas.Euclid3
/-! C06 — over an ordered field with an abstract square root: unit normals, the angles of `normals_to_euler_angles` as functions
of the normalised normal, the in-plane snap and fold, the Boolean tests of the checker. -/
namespace CryoCat.C06

section ring
variable {α : Type} [CommRing α]
theorem normSq_apply_ez {m : M3 α} (h : m.Orth) : V3.normSq (m.apply ⟨0, 0, 1⟩) = 1 := by
  rw [h.normSq_apply]; simp only [V3.normSq, V3.dot, mul_zero, mul_one, zero_add]
end ring

section field
variable {α : Type} [Field α] [LinearOrder α] [IsStrictOrderedRing α]

/-- what the theorems assume about the platform square root -/
structure SqrtSpec (L : Libm α) : Prop where
  mul_self : ∀ a, 0 ≤ a → L.sqrt a * L.sqrt a = a
  nonneg : ∀ a, 0 ≤ L.sqrt a

theorem abs_dot_le_one {u v : V3 α} (hu : V3.normSq u = 1) (hv : V3.normSq v = 1) : |V3.dot u v| ≤ 1 := by
  have h := V3.dot_sq_le u v
  rw [hu, hv, one_mul] at h
  exact abs_le_one_iff_mul_self_le_one.2 h

theorem SqrtSpec.eq_of_mul_self {L : Libm α} (h : SqrtSpec L) {a x : α} (hx : 0 ≤ x) (hxx : x * x = a) : L.sqrt a = x :=
  (mul_self_inj (h.nonneg a) hx).1 ((h.mul_self a (hxx ▸ mul_self_nonneg x)).trans hxx.symm)

theorem SqrtSpec.sqrt_one {L : Libm α} (h : SqrtSpec L) : L.sqrt 1 = 1 := h.eq_of_mul_self zero_le_one (one_mul 1)

theorem SqrtSpec.eq_zero {L : Libm α} (h : SqrtSpec L) : L.sqrt 0 = 0 := h.eq_of_mul_self le_rfl (zero_mul 0)

theorem SqrtSpec.ne_zero {L : Libm α} (h : SqrtSpec L) {a : α} (ha : 0 ≤ a) (hne : a ≠ 0) : L.sqrt a ≠ 0 := by
  intro e
  have := h.mul_self a ha
  rw [e, mul_zero] at this
  exact hne this.symm

theorem scale_one (p : V3 α) : scale p 1 = p := by
  ext <;> simp [scale]

theorem normSq_scale (p : V3 α) (n : α) (hn0 : n ≠ 0) :
    V3.normSq (scale p n) * (n * n) = V3.normSq p := by
  simp only [V3.normSq, V3.dot, scale, add_mul, div_mul_div_comm, div_mul_cancel₀ _ (mul_ne_zero hn0 hn0)]

theorem SqrtSpec.normSq_unit {L : Libm α} (h : SqrtSpec L) (n : V3 α) (hn : V3.normSq n ≠ 0) :
    V3.normSq (scale n (L.sqrt (V3.normSq n))) = 1 := by
  have h0 := V3.normSq_nonneg n
  have e := normSq_scale n _ (h.ne_zero h0 hn)
  rw [h.mul_self _ h0] at e
  exact mul_right_cancel₀ hn (e.trans (one_mul _).symm)

/-- `√(k²·|n|²) = k·√|n|²` is the non-negative root, and `k` cancels -/
theorem SqrtSpec.scale_smul {L : Libm α} (h : SqrtSpec L) (n : V3 α) {k : α} (hk : 0 < k) :
    scale (V3.smul k n) (L.sqrt (V3.normSq (V3.smul k n))) = scale n (L.sqrt (V3.normSq n)) := by
  have hs : L.sqrt (V3.normSq (V3.smul k n)) = k * L.sqrt (V3.normSq n) := by
    refine h.eq_of_mul_self (mul_nonneg hk.le (h.nonneg _)) ?_
    have b := h.mul_self _ (V3.normSq_nonneg n)
    simp only [V3.normSq, V3.dot, V3.smul] at b ⊢
    linear_combination (k * k) * b
  rw [hs]
  ext <;> simp only [scale, V3.smul, mul_div_mul_left _ _ hk.ne']

theorem sum_normSq_unit (pts : List (V3 α)) (h : ∀ p ∈ pts, V3.normSq p = 1) :
    (pts.map V3.normSq).foldr (· + ·) 0 = (pts.length : α) := by
  induction pts with
  | nil => simp
  | cons a l ih =>
    simp only [List.map_cons, List.foldr_cons, List.length_cons, Nat.cast_add, Nat.cast_one]
    rw [ih (fun p hp => h p (List.mem_cons_of_mem _ hp)), h a (by simp)]; ring

/-- `n2eCS` at the normalised normal -/
def csOfUnit (L : Libm α) (u : V3 α) : α × α × α × α :=
  let rho := L.sqrt (u.x * u.x + u.y * u.y)
  if u.x == 0 && u.y == 0 then (u.z, rho, 1, 0) else (u.z, rho, -(u.y / rho), u.x / rho)

/-- `n2eAngles` at the normalised normal -/
def anglesOfUnit (L : Libm α) (u : V3 α) : α × α :=
  let rho := L.sqrt (u.x * u.x + u.y * u.y)
  (L.atan2 rho u.z * (180 / L.pi), if u.x == 0 && u.y == 0 then 0 else 90 + L.atan2 u.y u.x * (180 / L.pi))

theorem n2eCS_eq (L : Libm α) (n : V3 α) : n2eCS L n = csOfUnit L (scale n (L.sqrt (V3.normSq n))) := rfl
theorem n2eAngles_eq (L : Libm α) (n : V3 α) : n2eAngles L n = anglesOfUnit L (scale n (L.sqrt (V3.normSq n))) := rfl

theorem xy_beq (u : V3 α) : (u.x == 0 && u.y == 0) = true ↔ u.x = 0 ∧ u.y = 0 := by
  simp only [Bool.and_eq_true, beq_iff_eq]

theorem csOfUnit_axis (L : Libm α) (u : V3 α) (h : u.x = 0 ∧ u.y = 0) :
    csOfUnit L u = (u.z, L.sqrt (u.x * u.x + u.y * u.y), 1, 0) :=
  if_pos ((xy_beq u).2 h)

theorem csOfUnit_off (L : Libm α) (u : V3 α) (h : ¬(u.x = 0 ∧ u.y = 0)) :
    csOfUnit L u = (u.z, L.sqrt (u.x * u.x + u.y * u.y),
      -(u.y / L.sqrt (u.x * u.x + u.y * u.y)), u.x / L.sqrt (u.x * u.x + u.y * u.y)) :=
  if_neg (mt (xy_beq u).1 h)

/-- with `ρ = √(ux² + uy²)` the z-axis of `zxz φ θ ψ` is `(sin ψ · ρ, −cos ψ · ρ, uz)`, whatever φ -/
theorem csOfUnit_zaxis (L : Libm α) (hL : SqrtSpec L) (u : V3 α) (hu : V3.normSq u = 1) (cp sp : α) :
    let r := csOfUnit L u
    r.1 * r.1 + r.2.1 * r.2.1 = 1 ∧ r.2.2.1 * r.2.2.1 + r.2.2.2 * r.2.2.2 = 1 ∧
    zaxisOfEuler cp sp r.1 r.2.1 r.2.2.1 r.2.2.2 = u := by
  intro r
  have h0 : 0 ≤ u.x * u.x + u.y * u.y := add_nonneg (mul_self_nonneg _) (mul_self_nonneg _)
  have hrho := hL.mul_self _ h0
  simp only [V3.normSq, V3.dot] at hu
  by_cases hxy : u.x = 0 ∧ u.y = 0
  · -- on the axis ρ = 0, so any ψ gives the z-axis back; the code takes ψ = 0
    have hr : r = _ := csOfUnit_axis L u hxy
    have hz : L.sqrt (u.x * u.x + u.y * u.y) = 0 := by rw [hxy.1, hxy.2, mul_zero, add_zero, hL.eq_zero]
    rw [hr, zaxisOfEuler_eq]
    generalize L.sqrt (u.x * u.x + u.y * u.y) = rho at hrho hz
    refine ⟨by linear_combination hu + hrho, by ring, ?_⟩
    ext <;> simp only [hz, hxy.1, hxy.2, mul_zero, neg_zero]
  · have hr : r = _ := csOfUnit_off L u hxy
    have hne := hL.ne_zero h0 fun e => hxy (mul_self_add_mul_self_eq_zero.1 e)
    rw [hr, zaxisOfEuler_eq]
    generalize L.sqrt (u.x * u.x + u.y * u.y) = rho at hrho hne
    refine ⟨by linear_combination hu + hrho, ?_, ?_⟩
    · rw [neg_mul_neg, div_mul_div_comm, div_mul_div_comm, ← add_div, add_comm, ← hrho,
        div_self (mul_self_ne_zero.2 hne)]
    · ext <;> simp only [neg_mul, neg_neg, div_mul_cancel₀ _ hne]

theorem snap_of_le {tol p : α} (h : tol ≤ |p|) : snap tol p = p :=
  if_neg (by rw [absv_eq_abs]; exact not_lt.2 h)

theorem abs_snap_le (tol p : α) : |snap tol p| ≤ |p| := by
  unfold snap; split
  · rw [abs_zero]; exact abs_nonneg p
  · exact le_rfl

theorem abs_snap_sub_le (tol p : α) (ht : 0 ≤ tol) : |snap tol p - p| ≤ tol := by
  unfold snap; split
  · rename_i hp; rw [zero_sub, abs_neg, ← absv_eq_abs]; exact hp.le
  · rw [sub_self, abs_zero]; exact ht

/-- the two shifts by 180 cancel -/
theorem inplane_eq (tol p1 p2 : α) :
    inplane tol p1 p2 = if 180 < |snap tol p1 - snap tol p2| then |(|snap tol p1 - snap tol p2| - 360)|
      else |snap tol p1 - snap tol p2| := by
  simp only [inplane, absv_eq_abs, add_sub_add_right_eq_sub]

theorem inRange_iff (d : α) : inRange d = true ↔ 0 ≤ d ∧ d ≤ 180 := by
  simp only [inRange, Bool.and_eq_true, decide_eq_true_eq]

theorem near_iff (tol a b : α) : near tol a b = true ↔ |a - b| ≤ tol := by
  simp only [near, Bool.and_eq_true, decide_eq_true_eq, abs_sub_le_iff]

end field
end CryoCat.C06
