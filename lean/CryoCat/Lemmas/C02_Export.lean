import CryoCat.Lemmas.C02_Write
import CryoCat.Lemmas.C02_NumWrite
/-! C02 — the theorems of C02 that other properties build on (C04: `Lemmas/C04_Star.lean`, `Props/C04.lean`; the concrete
STAR layer of `write_out`/`read_in` round-trips because `typed_roundtrip` holds). What each claims in cryoCAT's terms is said
at its restatement in `Props/C02.lean`.

They are here, not in `Props/C02.lean`, so that a user imports them without the translator obligations of C02
(`anchors_ok`, `*_documented`): an edit of `cryocat/starfileio.py` that makes an anchor of the translator fail or
changes one of the regenerated source dumps of `Gen/C02.lean` (`body_read`, `body_parse_rows`, `writeDefaults`,
`numberedCond`, `body_remove_lines`, …) breaks `Props/C02.lean`, as it must, but not this file, hence not a property
that only needs the theorems below. `Props/C02.lean` restates `star_roundtrip`, `written_column_typing` and `typed_roundtrip`
under the same names in namespace `CryoCat.C02`, so the audit of C02 lists and checks them; `written_column_kinds` is
`written_column_typing` column by column.

What of `Gen/C02.lean` the theorems below depend on (`Model/C02.lean` reads regenerated constants):
* `printStar` / `readStar` are built from regenerated literals, and the proofs in `Lemmas/C02*.lean` unfold them, so the
  theorems depend on the VALUES of: reader `lineSep`, `commentChar`, `propPrefix`, `loopKw`, `propNameDrop`; writer
  `cellFill`, `cellAlign` (`padCell` reads the whole format spec; `padCell_eq` of `Lemmas/C02_Write.lean` is where the
  documented `'{:<10}'` enters), `cellWidth`, `cellSep`, `rowEnd`, `labelNumbered`, `labelPlain`, `specLine`, `loopLine`,
  `stopgapExtra`, `blockEnd`. If an edit of the source changes one of these, the text the writer produces or the way the
  reader cuts it changes, and it is right that every property resting on the round trip (C02 and C04) stops building.
  They are not taken as hypotheses `Gen.C02.x = documented`: a user could discharge such a hypothesis only by `decide`
  on the same regenerated constant, which fails in exactly the situations in which the unfolding does.
* Not used by value by anything this file imports: `anchorsOk`, `labelStart` (labels are numbered from whatever
  `Gen.C02.labelStart` is, see `layoutOf` in `Lemmas/C02_Write.lean`, and the reader skips the `#n` comment), `stopgapKw`
  (the round trip holds for the numbered and the un-numbered header alike, whichever block names count as STOPGAP),
  `classifyOrder`, `floatPrecision` (read by `round6Cell` of `Model/C02_Value.lean`, which nothing here imports),
  `roundsBeforeFormat`, `numberedCond`, `labelCall`, `commentLine`, `commentsEnd`, `commentValue`, `commentsOrder`,
  `dataIdBranch`, `newlineOrComments`, `getSpecifierId`, `getFrameAndComments`, the signatures and defaults
  (`writeSignature`, `readSignature`, `removeLinesSignature`, `writeDefaults`, `defaultSpecifier`,
  `numberColumnsDefault`, `removeLinesNumberColumnsDefault`) and every `body_*` dump. A change of any of these is C02's
  business alone. -/
namespace CryoCat.C02.Export

theorem star_roundtrip (numberColumns : Bool) (bs : List Block) (h : ∀ b ∈ bs, BlockOk b)
    (he : EmptyOnlyLast bs) : readStar (printStar numberColumns bs) = .ok bs :=
  readStar_printStar numberColumns bs h he

theorem written_column_typing (rows : List (List Cell)) (j : Nat) (hj : ∀ r ∈ rows, j < r.length)
    (hwf : ∀ r ∈ rows, ∀ c ∈ r, CellWF c) :
    colNumeric isNumTok (rows.map (fun r => r.map cellText)) j = true ↔
      rows ≠ [] ∧ ∀ r ∈ rows, ∀ c, r[j]? = some c → c.isNumber = true := typed_column rows j hj hwf

/-- the kinds the reader assigns to the columns of a written table whose rows all have the number pattern `ks` -/
theorem written_column_kinds (rows : List (List Cell)) (hne : rows ≠ [])
    (hwf : ∀ r ∈ rows, ∀ c ∈ r, CellWF c) (ks : List Bool)
    (hk : ∀ r ∈ rows, r.map Cell.isNumber = ks) :
    (List.range ks.length).map (colNumeric isNumTok (rows.map (fun r => r.map cellText))) = ks := by
  apply List.ext_getElem
  · simp
  · intro j _ hj
    have hlen : ∀ r ∈ rows, j < r.length := fun r hr => by
      rw [← List.length_map Cell.isNumber, hk r hr]
      exact hj
    have hcell : ∀ r ∈ rows, r[j]?.map Cell.isNumber = some ks[j] := fun r hr => by
      rw [← List.getElem?_map, hk r hr, List.getElem?_eq_getElem hj]
    rw [List.getElem_map, List.getElem_range, Bool.eq_iff_iff,
      written_column_typing rows j hlen hwf, and_iff_right hne]
    constructor
    · intro hall
      obtain ⟨r0, hr0⟩ := List.exists_mem_of_ne_nil rows hne
      obtain ⟨c, hc, he⟩ := Option.map_eq_some_iff.1 (hcell r0 hr0)
      exact he ▸ hall r0 hr0 c hc
    · intro hkj r hr c hc
      have := hcell r hr
      rw [hc, Option.map_some, Option.some.injEq] at this
      exact this ▸ hkj

theorem typed_roundtrip (numberColumns : Bool) (bs : List TBlock) (h : ∀ b ∈ bs, TBlockOk b)
    (he : EmptyOnlyLast (bs.map TBlock.texts)) :
    readStar (printTyped numberColumns bs) = .ok (bs.map TBlock.texts) ∧
    ∀ b ∈ bs, ∀ j < b.cols.length,
      (colNumeric isNumTok b.texts.rows j = true ↔ b.rows ≠ [] ∧ ∀ r ∈ b.rows, ∀ c, r[j]? = some c → c.isNumber = true) := by
  refine ⟨star_roundtrip numberColumns _ (fun b hb => ?_) he, ?_⟩
  · obtain ⟨tb, htb, rfl⟩ := List.mem_map.1 hb
    exact texts_ok tb (h tb htb)
  · intro b hb j hj
    obtain ⟨_, _, _, hr⟩ := h b hb
    exact typed_column b.rows j (fun r hr' => by rw [(hr r hr').1]; exact hj) (fun r hr' => (hr r hr').2)

end CryoCat.C02.Export
