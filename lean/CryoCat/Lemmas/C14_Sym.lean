import CryoCat.Lemmas.C14
import Mathlib.Algebra.BigOperators.Field
import Mathlib.Algebra.BigOperators.Group.Finset.Basic
import Mathlib.Algebra.BigOperators.Ring.Finset
import Mathlib.Algebra.BigOperators.Group.Finset.Sigma
import Mathlib.Data.Finset.Prod
import Mathlib.Data.Finset.Card
import Mathlib.Tactic.IntervalCases
/-! C14 — symmetrisation. The mean over an exact cyclic action `σ` (`σⁿ = id`) is invariant under `σ` and conserves the total of a map
supported in a `σ`-invariant part `I` of a finite window `B` of the grid (`sum_sym_total`). For the executable n ∈ {1, 2, 4} model `σ` is
the voxel map of the quarter-turn rotation about z, `B` the voxels of a box and `I` its `core`: the whole box for odd sizes, the box
without its `x = 0` / `y = 0` planes for even sizes. -/
namespace CryoCat.C14
open Finset

variable {K : Type} [_root_.Field K] {α : Type}

theorem list_range_sum (h : Nat → K) (n : Nat) : ((List.range n).map h).sum = ∑ i ∈ range n, h i := rfl

theorem foldl_add_eq_sum (h : Nat → K) (n : Nat) :
    (List.range n).foldl (fun acc k => acc + h k) 0 = ∑ k ∈ range n, h k := by
  rw [← List.foldl_map (g := (· + ·)), ← List.sum_eq_foldl, list_range_sum]

theorem sum_shift_period (F : Nat → K) (n : Nat) (hper : F n = F 0) :
    ∑ k ∈ range n, F (k + 1) = ∑ k ∈ range n, F k := by
  have h1 := Finset.sum_range_succ' F n
  have h2 := Finset.sum_range_succ F n
  rw [h2, hper] at h1
  exact (add_right_cancel h1).symm

/-- `σ^[k + 1] (σ p)` is `σ^[k + 2] p` by definition, and the sequence `k ↦ f (σ^[k + 1] p)` has period `n` -/
theorem sum_orbit_invariant {X : Type} (σ : X → X) (n : Nat) (hσ : ∀ x, σ^[n] x = x) (f : X → K) (p : X) :
    ∑ k ∈ range n, f (σ^[k + 1] (σ p)) = ∑ k ∈ range n, f (σ^[k + 1] p) :=
  sum_shift_period (fun j => f (σ^[j + 1] p)) n (congrArg f (hσ (σ p)))

theorem injective_of_iterate {X : Type} (σ : X → X) (n : Nat) (hn : 0 < n) (hσ : ∀ x, σ^[n] x = x) : Function.Injective σ := by
  obtain ⟨m, rfl⟩ := Nat.exists_eq_succ_of_ne_zero hn.ne'
  exact Function.LeftInverse.injective (g := σ^[m]) hσ

theorem rzQuarter_mod (a : Nat) : rzQuarter a = rzQuarter (a % 4) := by
  simp [rzQuarter, cubeZxz, quarter]

theorem rzQuarter_add (a b : Nat) : rzQuarter (a + b) = rzQuarter a * rzQuarter b := by
  have h : ∀ a < 4, ∀ b < 4, rzQuarter ((a + b) % 4) = rzQuarter a * rzQuarter b := by decide +kernel
  rw [rzQuarter_mod (a + b), Nat.add_mod, rzQuarter_mod a, rzQuarter_mod b]
  exact h _ (Nat.mod_lt _ (by decide)) _ (Nat.mod_lt _ (by decide))

theorem rzQuarter_zero : rzQuarter 0 = M3.one := by decide
theorem rzQuarter_four : rzQuarter 4 = M3.one := by decide

theorem srcCoord_one (c p : V3 Int) : srcCoord (M3.one : M3 Int).transpose c p = p := by
  have : (M3.one : M3 Int).transpose = M3.one := by decide
  unfold srcCoord; rw [this, M3.apply_one, V3.add_sub_cancel]

theorem srcCoord_rz_iter (m : Nat) (c p : V3 Int) (k : Nat) :
    srcCoord (rzQuarter (k * m)).transpose c p = (srcCoord (rzQuarter m).transpose c)^[k] p := by
  induction k generalizing p with
  | zero => rw [Nat.zero_mul, rzQuarter_zero, srcCoord_one]; rfl
  | succ k ih =>
    rw [Function.iterate_succ_apply, ← ih, ← srcCoord_mul, ← M3.transpose_mul, ← rzQuarter_add]
    congr 3
    rw [Nat.succ_mul, Nat.add_comm]

theorem sigma_period (n : Nat) (hn : n * (4 / n) = 4) (c x : V3 Int) : (srcCoord (rzQuarter (4 / n)).transpose c)^[n] x = x := by
  rw [← srcCoord_rz_iter, hn, rzQuarter_four, srcCoord_one]

/-- a map continued by the constant 0 outside its box (`mode='constant'`) -/
def zeroExt [OfNat α 0] (s : Shape) (f : V3 Int → α) (q : V3 Int) : α := if s.inBox q = true then f q else 0

theorem rotateBy_zeroExt [OfNat α 0] (R : M3 Int) (s : Shape) (f : V3 Int → α) (p : V3 Int) :
    rotateBy R s f p = zeroExt s f (srcCoord R.transpose s.centre p) := rfl

theorem symmetrizeExact_eq_orbit [OfNat α 0] [Add α] [Div α] (ofNat : Nat → α) (n : Nat) (s : Shape) (f : V3 Int → α) :
    symmetrizeExact ofNat n s f
      = symmetrizeF ofNat n fun k q => zeroExt s f ((srcCoord (rzQuarter (4 / n)).transpose s.centre)^[k] q) := by
  unfold symmetrizeExact
  congr 1; funext k q
  rw [rotateBy_zeroExt, srcCoord_rz_iter]

section abstract
variable {X : Type}

theorem sum_comp_supported (σ : X → X) (hinj : Function.Injective σ) (B I : Finset X) (hIB : I ⊆ B)
    (hmap : ∀ x ∈ I, σ x ∈ I) (g : X → K) (hg : ∀ x, x ∉ I → g x = 0) :
    ∑ x ∈ B, g (σ x) = ∑ x ∈ B, g x := by
  -- an injective self-map of a finite set is onto it, so `σ x ∈ I` only for `x ∈ I`, and `σ` permutes `I`
  have hsurj : Set.SurjOn σ I I := surjOn_of_injOn_of_card_le σ hmap hinj.injOn le_rfl
  rw [← sum_subset hIB fun x _ hx => hg x hx,
      ← sum_subset hIB fun x _ hx => hg _ fun h => hx (by obtain ⟨y, hy, e⟩ := hsurj h; exact hinj e ▸ hy)]
  exact sum_nbij σ hmap hinj.injOn hsurj fun _ _ => rfl

theorem sum_sym_total (σ : X → X) (n : Nat) (hn : (n : K) ≠ 0) (hσ : ∀ x, σ^[n] x = x) (B I : Finset X) (hIB : I ⊆ B)
    (hmap : ∀ x ∈ I, σ x ∈ I) (g : X → K) (hg : ∀ x, x ∉ I → g x = 0) :
    ∑ x ∈ B, (∑ k ∈ range n, g (σ^[k + 1] x)) / (n : K) = ∑ x ∈ B, g x := by
  have hn' : 0 < n := Nat.pos_of_ne_zero (fun h => hn (by simp [h]))
  have hi := injective_of_iterate σ n hn' hσ
  rw [← Finset.sum_div, Finset.sum_comm]
  have : ∀ k ∈ range n, ∑ x ∈ B, g (σ^[k + 1] x) = ∑ x ∈ B, g x := fun k _ =>
    sum_comp_supported (σ^[k + 1]) (hi.iterate (k + 1)) B I hIB (Set.MapsTo.iterate (s := (I : Set X)) hmap (k + 1)) g hg
  rw [Finset.sum_congr rfl this, Finset.sum_const, card_range, nsmul_eq_mul, mul_div_cancel_left₀ _ hn]
end abstract

def voxels (s : Shape) : Finset (V3 Int) :=
  ((range s.nx ×ˢ range s.ny) ×ˢ range s.nz).image fun t => (⟨(t.1.1 : Int), (t.1.2 : Int), (t.2 : Int)⟩ : V3 Int)

theorem mem_voxels (s : Shape) (p : V3 Int) : p ∈ voxels s ↔ s.inBox p = true := by
  rw [inBox_iff]
  unfold voxels
  constructor
  · intro h
    obtain ⟨⟨⟨i, j⟩, k⟩, hm, rfl⟩ := mem_image.1 h
    simp only [mem_product, mem_range] at hm
    obtain ⟨⟨hi, hj⟩, hk⟩ := hm
    simp only
    omega
  · rintro ⟨⟨hx0, hx1⟩, ⟨hy0, hy1⟩, ⟨hz0, hz1⟩⟩
    refine mem_image.2 ⟨⟨⟨p.x.toNat, p.y.toNat⟩, p.z.toNat⟩, ?_, ?_⟩
    · simp only [mem_product, mem_range]; omega
    · ext <;> (simp only; omega)

/-- the part of the box that the half turn about z through the centre `⌊N/2⌋` maps into the box, hence the part every quarter turn maps
onto itself: for an even size the plane `x = 0` (resp. `y = 0`) has no mirror image inside the box and is left out -/
def core (s : Shape) : Finset (V3 Int) :=
  (voxels s).filter fun p => s.inBox ⟨2 * s.centre.x - p.x, 2 * s.centre.y - p.y, p.z⟩ = true

theorem mem_core (s : Shape) (p : V3 Int) :
    p ∈ core s ↔ s.inBox p = true ∧ s.inBox ⟨2 * s.centre.x - p.x, 2 * s.centre.y - p.y, p.z⟩ = true := by
  rw [core, mem_filter, mem_voxels]

theorem core_subset (s : Shape) : core s ⊆ voxels s := filter_subset _ _

theorem face_of_not_mem_core (s : Shape) (p : V3 Int) (hb : s.inBox p = true) (h : p ∉ core s) :
    (s.nx % 2 = 0 ∧ p.x = 0) ∨ (s.ny % 2 = 0 ∧ p.y = 0) := by
  rw [mem_core, and_iff_right hb, inBox_iff] at h
  rw [inBox_iff] at hb
  simp only [Shape.centre] at h
  omega

theorem sigma_two (c p : V3 Int) : srcCoord (rzQuarter 2).transpose c p = ⟨2 * c.x - p.x, 2 * c.y - p.y, p.z⟩ := by
  have e : (rzQuarter 2).transpose = (⟨-1, 0, 0, 0, -1, 0, 0, 0, 1⟩ : M3 Int) := by decide
  rw [e]
  ext <;> simp [srcCoord, M3.apply, V3.add_def, V3.sub_def, V3.add, V3.sub] <;> omega

theorem sigma_one (c p : V3 Int) : srcCoord (rzQuarter 1).transpose c p = ⟨c.x + (p.y - c.y), c.y - (p.x - c.x), p.z⟩ := by
  have e : (rzQuarter 1).transpose = (⟨0, 1, 0, -1, 0, 0, 0, 0, 1⟩ : M3 Int) := by decide
  rw [e]
  ext <;> simp [srcCoord, M3.apply, V3.add_def, V3.sub_def, V3.add, V3.sub]
  omega

theorem n_cases (n : Nat) (hn : n * (4 / n) = 4) : n = 1 ∨ n = 2 ∨ n = 4 := by
  have h4 : n ≤ 4 := Nat.le_of_dvd (by decide) ⟨4 / n, hn.symm⟩
  interval_cases n <;> simp_all

/-- a 4-fold symmetry needs a square x–y section -/
theorem sigma_maps_core (n : Nat) (hn : n * (4 / n) = 4) (s : Shape) (hsq : n = 4 → s.nx = s.ny) :
    ∀ p ∈ core s, srcCoord (rzQuarter (4 / n)).transpose s.centre p ∈ core s := by
  intro p hp
  rcases n_cases n hn with rfl | rfl | rfl
  · rwa [show 4 / 1 = 4 from rfl, rzQuarter_four, srcCoord_one]
  · rw [show 4 / 2 = 2 from rfl, sigma_two]
    rw [mem_core, inBox_iff, inBox_iff] at hp ⊢
    simp only [Shape.centre] at hp ⊢
    omega
  · have hs := hsq rfl
    rw [show 4 / 4 = 1 from rfl, sigma_one]
    rw [mem_core, inBox_iff, inBox_iff] at hp ⊢
    simp only [Shape.centre, ← hs] at hp ⊢
    omega

/-! `np.sum` of the model (`sumBox`, a left fold in C order) is the finite sum over `voxels` -/
theorem list_flatMap_sum {ι κ : Type} (l : List ι) (F : ι → List κ) (g : κ → K) :
    ((l.flatMap F).map g).sum = (l.map fun a => ((F a).map g).sum).sum := by
  rw [List.map_flatMap, List.flatMap_def, List.sum_flatten, List.map_map]; rfl

theorem sumBox_eq_sum (s : Shape) (g : V3 Int → K) : sumBox s g = ∑ p ∈ voxels s, g p := by
  unfold sumBox voxels
  rw [← List.sum_eq_foldl, sum_image]
  · rw [Finset.sum_product, Finset.sum_product]
    unfold Shape.indices
    rw [list_flatMap_sum, list_range_sum]
    refine Finset.sum_congr rfl (fun i _ => ?_)
    rw [list_flatMap_sum, list_range_sum]
    refine Finset.sum_congr rfl (fun j _ => ?_)
    rw [List.map_map, list_range_sum]
    rfl
  · rintro ⟨⟨i, j⟩, k⟩ _ ⟨⟨i', j'⟩, k'⟩ _ h
    simp only [V3.mk.injEq, Nat.cast_inj] at h
    obtain ⟨rfl, rfl, rfl⟩ := h
    rfl

end CryoCat.C14
