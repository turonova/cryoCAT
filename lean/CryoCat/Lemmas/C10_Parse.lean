import CryoCat.Model.C10
import CryoCat.Lemmas.Text
import CryoCat.Lemmas.Round
/-! C10 — the symmetry argument. As a string: `re.findall(r"\d+", s)[-1]` and `int(...)` on `'C' ++ str(n)` give back `n`, also with
blanks or zero padding between the letter and the number, and the last number counts. As a number: Python's `int(x)` is the model's
`truncInt`, truncation toward zero. -/
namespace CryoCat.C10

theorem toDigitsCore_eq (fuel n : Nat) (ds : List Char) :
    Nat.toDigitsCore 10 fuel n ds = (revDigitsAux fuel n).reverse ++ ds := by
  induction fuel generalizing n ds with
  | zero => rfl
  | succ fuel ih =>
    unfold Nat.toDigitsCore revDigitsAux
    by_cases h0 : n / 10 = 0
    · simp [h0]
    · simp [h0, ih]

/-- `digits` (Python's `str(n)`) is the digit list of Lean's `Nat.repr` -/
theorem digits_eq_toDigits (n : Nat) : digits n = Nat.toDigits 10 n := by
  rw [Nat.toDigits, toDigitsCore_eq, List.append_nil, digits]

/-- `Fin 200`: the range the property quantifies over -/
theorem digits_eq_repr : ∀ n : Fin 200, digits n.val = (Nat.repr n.val).toList := fun n => by
  rw [digits_eq_toDigits, Nat.toList_repr]

theorem digits_ne_nil (n : Nat) : digits n ≠ [] := digits_eq_toDigits n ▸ Nat.toDigits_ne_nil

theorem natOfDigits_eq (ds : List Char) : natOfDigits ds = Nat.ofDigitChars 10 ds 0 := by
  unfold natOfDigits Nat.ofDigitChars
  congr; funext acc c; rw [Nat.mul_comm]

/-- `isDig` is `Char.isDigit` by unfolding -/
theorem padded_isDig (z n : Nat) : ∀ c ∈ List.replicate z '0' ++ digits n, isDig c = true :=
  digits_eq_toDigits n ▸ Text.isDigit_pad (Text.isDigit_toDigits n)

theorem padded_ne_nil (z n : Nat) : List.replicate z '0' ++ digits n ≠ [] :=
  fun h => digits_ne_nil n (List.append_eq_nil_iff.1 h).2

theorem natOfDigits_padded (z n : Nat) : natOfDigits (List.replicate z '0' ++ digits n) = n := by
  rw [natOfDigits_eq, digits_eq_toDigits, Text.ofDigitChars_pad_toDigits]

theorem findallDigits_nil : findallDigits [] = [] := by rw [findallDigits]
theorem findallDigits_cons_dig (c : Char) (cs : List Char) (h : isDig c = true) :
    findallDigits (c :: cs) = (c :: cs.takeWhile isDig) :: findallDigits (cs.dropWhile isDig) := by
  rw [findallDigits, if_pos h]
theorem findallDigits_cons_non (c : Char) (cs : List Char) (h : isDig c = false) :
    findallDigits (c :: cs) = findallDigits cs := by
  rw [findallDigits]; simp [h]

theorem findallDigits_run (ds : List Char) (hne : ds ≠ []) (hd : ∀ c ∈ ds, isDig c = true) : findallDigits ds = [ds] := by
  cases ds with
  | nil => exact absurd rfl hne
  | cons c cs =>
    obtain ⟨ht, hdr⟩ := Text.span_all fun x hx => hd x (List.mem_cons_of_mem _ hx)
    rw [findallDigits_cons_dig _ _ (hd c (List.mem_cons_self ..)), ht, hdr, findallDigits_nil]

theorem findallDigits_prefix (pre ds : List Char) (hp : ∀ c ∈ pre, isDig c = false) (hne : ds ≠ [])
    (hd : ∀ c ∈ ds, isDig c = true) : findallDigits (pre ++ ds) = [ds] := by
  induction pre with
  | nil => exact findallDigits_run ds hne hd
  | cons p ps ih =>
    rw [List.cons_append, findallDigits_cons_non _ _ (hp p (List.mem_cons_self ..))]
    exact ih fun c hc => hp c (List.mem_cons_of_mem _ hc)

theorem takeWhile_append_stop (p : Char → Bool) (x : Char) (hx : p x = false) (r l : List Char) :
    (l ++ x :: r).takeWhile p = l.takeWhile p := by
  induction l with
  | nil => simp [hx]
  | cons c cs ih => simp only [List.cons_append, List.takeWhile_cons, ih]

theorem dropWhile_append_stop (p : Char → Bool) (x : Char) (hx : p x = false) (r l : List Char) :
    (l ++ x :: r).dropWhile p = l.dropWhile p ++ x :: r := by
  induction l with
  | nil => simp [hx]
  | cons c cs ih =>
    simp only [List.cons_append, List.dropWhile_cons, ih]
    split <;> rfl

theorem findallDigits_sep (sep : Char) (hs : isDig sep = false) (a b : List Char) :
    findallDigits (a ++ sep :: b) = findallDigits a ++ findallDigits b := by
  induction a using findallDigits.induct with
  | case1 => rw [List.nil_append, findallDigits_cons_non _ _ hs, findallDigits_nil, List.nil_append]
  | case2 c cs hc ih =>
    rw [List.cons_append, findallDigits_cons_dig _ _ hc, findallDigits_cons_dig _ _ hc,
      takeWhile_append_stop _ _ hs, dropWhile_append_stop _ _ hs, ih]
    rfl
  | case3 c cs hc ih =>
    have hc' : isDig c = false := by simpa using hc
    rw [List.cons_append, findallDigits_cons_non _ _ hc', findallDigits_cons_non _ _ hc', ih]

theorem findallDigits_last (a : List Char) (sep : Char) (hs : isDig sep = false) (ds : List Char) (hne : ds ≠ [])
    (hd : ∀ c ∈ ds, isDig c = true) : (findallDigits (a ++ sep :: ds)).getLast? = some ds := by
  rw [findallDigits_sep sep hs, findallDigits_run ds hne hd]
  simp

theorem parseSym_str_cyclic {lead : Char} (hl : lead = 'C' ∨ lead = 'c') {cs run : List Char}
    (h : (findallDigits (lead :: cs)).getLast? = some run) : parseSym (.str (lead :: cs)) = .cyclic (natOfDigits run) := by
  unfold parseSym
  simp only [h, List.head?_cons]
  rcases hl with rfl | rfl <;> rfl

theorem parseSym_num (q : ℚ) :
    parseSym (.num q) = if truncInt q < 0 then .negative else .cyclic (truncInt q).toNat := rfl

/-- `truncInt` is `Round.trunc` on ℚ: the identity on integers, odd, `⌊q⌋` for `q ≥ 0` (`Lemmas/Round`) -/
theorem truncInt_eq (q : ℚ) : truncInt q = Round.trunc q := (Round.trunc_eq_floor q).symm

theorem truncInt_of_mem (q : ℚ) (n : ℕ) (h1 : (n : ℚ) ≤ q) (h2 : q < (n : ℚ) + 1) : truncInt q = n := by
  rw [truncInt_eq, Round.trunc_of_nonneg ((Nat.cast_nonneg n).trans h1), Int.floor_eq_iff]
  exact ⟨by exact_mod_cast h1, by exact_mod_cast h2⟩

end CryoCat.C10
