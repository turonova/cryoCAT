import CryoCat.Lemmas.C16_IsDFT
import CryoCat.Lemmas.DftCore
import Mathlib.Tactic.Ring
/-! C16 — the exact 2-D discrete Fourier transform of real `H × W` images over ℂ, with numpy's sign convention
(`exp(-2πi/n)` forward), satisfies the laws `IsDFT` of the Fourier service for EVERY size `H ≥ 1`, `W ≥ 1`
(`dftN_isDFT`). `dftN_fft2_apply` / `dftN_ifft2re_apply` / `omegaN_eq` tie the definition to the textbook formulas,
`dftN_dc` is the DC bin (sum of the image).

The 1-D transform on `Fin n → ℂ` is the one of `Lemmas/DftCore` at the root `omegaN n`: inversion in both orders and the conjugation
rule `dft (conj x) k = conj (dft x (-k))` are instances.  2-D is 1-D along each axis; the inverse of a Hermitian spectrum is real
(conjugation, which the transform intertwines with the Hermitian reflection, passes to the inverse), so `.real` loses nothing.
Independent of the regenerated constants and of every C12 file. -/
namespace CryoCat.C16
open Finset Complex

/-- numpy's forward twiddle `exp(-2πi/n)` -/
noncomputable def omegaN (n : Nat) : ℂ := (exp (2 * Real.pi * I / n))⁻¹

theorem omegaN_eq (n : Nat) : omegaN n = Complex.exp (-(2 * Real.pi * Complex.I / n)) := by
  rw [omegaN, Complex.exp_neg]

theorem omegaN_prim {n : Nat} (hn : 0 < n) : IsPrimitiveRoot (omegaN n) n := Dft.expRoot_prim hn

theorem omegaN_pow_n {n : Nat} (hn : 0 < n) : omegaN n ^ n = 1 := (omegaN_prim hn).pow_eq_one

theorem omegaN_conj (n : Nat) : (starRingEnd ℂ) (omegaN n) = (omegaN n)⁻¹ := Dft.expRoot_conj n

theorem omegaN_pow_inv (n m : Nat) : (omegaN n ^ m)⁻¹ = (starRingEnd ℂ) (omegaN n ^ m) := by
  rw [map_pow, omegaN_conj, inv_pow]

noncomputable def dft1 (n : Nat) (x : Fin n → ℂ) (k : Fin n) : ℂ := ∑ j : Fin n, omegaN n ^ (j.val * k.val) * x j
noncomputable def idft1 (n : Nat) (y : Fin n → ℂ) (i : Fin n) : ℂ :=
  (n : ℂ)⁻¹ * ∑ k : Fin n, (omegaN n ^ (k.val * i.val))⁻¹ * y k

theorem idft1_dft1 {n : Nat} (hn : 0 < n) (x : Fin n → ℂ) : idft1 n (dft1 n x) = x :=
  funext (Dft.inversion (omegaN_prim hn) (Nat.cast_ne_zero.2 hn.ne') x)

theorem dft1_idft1 {n : Nat} (hn : 0 < n) (y : Fin n → ℂ) : dft1 n (idft1 n y) = y :=
  funext (Dft.inversion' (omegaN_prim hn) (Nat.cast_ne_zero.2 hn.ne') y)

theorem dft1_add (n : Nat) (f g : Fin n → ℂ) (k : Fin n) : dft1 n (fun j => f j + g j) k = dft1 n f k + dft1 n g k := by
  simp only [dft1, mul_add, sum_add_distrib]
theorem dft1_smul (n : Nat) (c : ℂ) (f : Fin n → ℂ) (k : Fin n) : dft1 n (fun j => c * f j) k = c * dft1 n f k := by
  simp only [dft1, mul_sum, mul_left_comm]
theorem idft1_add (n : Nat) (f g : Fin n → ℂ) (k : Fin n) : idft1 n (fun j => f j + g j) k = idft1 n f k + idft1 n g k := by
  simp only [idft1, mul_add, sum_add_distrib]
theorem idft1_smul (n : Nat) (c : ℂ) (f : Fin n → ℂ) (k : Fin n) : idft1 n (fun j => c * f j) k = c * idft1 n f k := by
  simp only [idft1, mul_sum, mul_left_comm]

theorem dft1_conj {n : Nat} (x : Fin n → ℂ) (k : Fin n) :
    dft1 n (fun j => (starRingEnd ℂ) (x j)) k = (starRingEnd ℂ) (dft1 n x (negFin k)) := by
  have h := Dft.conj_rule (omegaN_pow_n k.pos) (starRingEnd ℂ) (omegaN_conj n) x (negFin k)
  rwa [show (n - (negFin k).val) % n = k.val from congrArg Fin.val (negFin_negFin k)] at h

abbrev CImg (H W : Nat) := Fin H → Fin W → ℂ

noncomputable def dft2 (H W : Nat) (x : CImg H W) : CImg H W :=
  fun v u => dft1 H (fun y => dft1 W (x y) u) v
noncomputable def idft2 (H W : Nat) (Y : CImg H W) : CImg H W :=
  fun y i => idft1 W (fun u => idft1 H (fun v => Y v u) y) i

theorem dft2_apply (H W : Nat) (x : CImg H W) (v : Fin H) (u : Fin W) :
    dft2 H W x v u = ∑ y : Fin H, ∑ i : Fin W, x y i * omegaN H ^ (y.val * v.val) * omegaN W ^ (i.val * u.val) := by
  unfold dft2 dft1
  apply sum_congr rfl; intro y _
  rw [mul_sum]
  apply sum_congr rfl; intro i _
  ring

theorem idft2_apply (H W : Nat) (Y : CImg H W) (y : Fin H) (i : Fin W) :
    idft2 H W Y y i = ((H : ℂ) * (W : ℂ))⁻¹ *
      ∑ v : Fin H, ∑ u : Fin W, Y v u * (omegaN H ^ (v.val * y.val))⁻¹ * (omegaN W ^ (u.val * i.val))⁻¹ := by
  unfold idft2 idft1
  simp only [mul_sum]
  rw [sum_comm]
  apply sum_congr rfl; intro v _
  apply sum_congr rfl; intro u _
  rw [mul_inv]; ring

theorem idft2_dft2 {H W : Nat} (hH : 0 < H) (hW : 0 < W) (x : CImg H W) : idft2 H W (dft2 H W x) = x := by
  funext y i
  simp only [idft2, dft2, idft1_dft1 hH, idft1_dft1 hW]

theorem dft2_idft2 {H W : Nat} (hH : 0 < H) (hW : 0 < W) (Y : CImg H W) : dft2 H W (idft2 H W Y) = Y := by
  funext v u
  have e : ∀ y, dft1 W (idft2 H W Y y) u = idft1 H (fun v' => Y v' u) y :=
    fun y => congrFun (dft1_idft1 hW _) u
  simp only [dft2, e, dft1_idft1 hH]

theorem dft2_conj {H W : Nat} (x : CImg H W) (v : Fin H) (u : Fin W) :
    dft2 H W (fun y i => (starRingEnd ℂ) (x y i)) v u = (starRingEnd ℂ) (dft2 H W x (negFin v) (negFin u)) := by
  simp only [dft2, dft1_conj]

theorem dft2_hermitian {H W : Nat} (x : CImg H W) (hx : ∀ y i, (starRingEnd ℂ) (x y i) = x y i)
    (v : Fin H) (u : Fin W) : dft2 H W x (negFin v) (negFin u) = (starRingEnd ℂ) (dft2 H W x v u) := by
  rw [← Complex.conj_conj (dft2 H W x (negFin v) (negFin u)), ← dft2_conj]
  simp only [hx]

theorem idft2_real_of_hermitian {H W : Nat} (hH : 0 < H) (hW : 0 < W) (Y : CImg H W)
    (hY : ∀ v u, Y (negFin v) (negFin u) = (starRingEnd ℂ) (Y v u)) (y : Fin H) (i : Fin W) :
    (((idft2 H W Y y i).re : ℝ) : ℂ) = idft2 H W Y y i := by
  have h := Dft.inv_intertwine (idft2_dft2 hH hW) (dft2_idft2 hH hW) (A := fun x y i => (starRingEnd ℂ) (x y i))
    (B := fun Y v u => (starRingEnd ℂ) (Y (negFin v) (negFin u))) (fun x => funext₂ (dft2_conj x)) Y
  simp only [hY, Complex.conj_conj] at h
  exact Complex.conj_eq_iff_re.1 (congrFun (congrFun h y) i).symm

def toC (z : Cx ℝ) : ℂ := ⟨z.re, z.im⟩
def ofC (c : ℂ) : Cx ℝ := ⟨c.re, c.im⟩

@[simp] theorem toC_ofC (c : ℂ) : toC (ofC c) = c := rfl
@[simp] theorem ofC_toC (z : Cx ℝ) : ofC (toC z) = z := rfl
theorem ofC_smul (c : ℝ) (z : ℂ) : Cx.smul c (ofC z) = ofC ((c : ℂ) * z) := by
  simp [Cx.smul, ofC]
theorem ofC_add (z w : ℂ) : Cx.add (ofC z) (ofC w) = ofC (z + w) := by
  simp [Cx.add, ofC]
theorem toC_smul (c : ℝ) (z : Cx ℝ) : toC (Cx.smul c z) = (c : ℂ) * toC z := by
  apply Complex.ext <;> simp [Cx.smul, toC]
theorem toC_add (z w : Cx ℝ) : toC (Cx.add z w) = toC z + toC w := by
  apply Complex.ext <;> simp [Cx.add, toC]

abbrev ImgN (H W : Nat) := Fin H → Fin W → ℝ

/-- numpy's `fft2` on real images / `ifft2(·).real`, exact over ℂ, any size -/
noncomputable def dftN (H W : Nat) : FFT (ImgN H W) ℝ H W :=
  { fft2 := fun x v u => ofC (dft2 H W (fun y i => (x y i : ℂ)) v u)
    ifft2re := fun S y i => (idft2 H W (fun v u => toC (S v u)) y i).re }

variable {H W : Nat}

theorem dftN_fft2_eq (x : ImgN H W) (v : Fin H) (u : Fin W) :
    (dftN H W).fft2 x v u = ofC (dft2 H W (fun y i => (x y i : ℂ)) v u) := rfl
theorem dftN_ifft2re_eq (S : Spec ℝ H W) (y : Fin H) (i : Fin W) :
    (dftN H W).ifft2re S y i = (idft2 H W (fun v u => toC (S v u)) y i).re := rfl

theorem dftN_fft2_apply (x : ImgN H W) (v : Fin H) (u : Fin W) :
    (⟨((dftN H W).fft2 x v u).re, ((dftN H W).fft2 x v u).im⟩ : ℂ)
      = ∑ y : Fin H, ∑ i : Fin W, (x y i : ℂ) * omegaN H ^ (y.val * v.val) * omegaN W ^ (i.val * u.val) := by
  rw [← dft2_apply]
  rfl

theorem dftN_ifft2re_apply (S : Spec ℝ H W) (y : Fin H) (i : Fin W) :
    (dftN H W).ifft2re S y i = (((H : ℂ) * (W : ℂ))⁻¹ *
      ∑ v : Fin H, ∑ u : Fin W, (⟨(S v u).re, (S v u).im⟩ : ℂ) * (omegaN H ^ (v.val * y.val))⁻¹
        * (omegaN W ^ (u.val * i.val))⁻¹).re := by
  rw [← idft2_apply]
  rfl

theorem dftN_dc_eq (x : ImgN H W) (hH : 0 < H) (hW : 0 < W) :
    (dftN H W).fft2 x ⟨0, hH⟩ ⟨0, hW⟩ = ofC ((∑ y : Fin H, ∑ i : Fin W, x y i : ℝ) : ℂ) := by
  rw [dftN_fft2_eq, dft2_apply]
  simp only [Nat.mul_zero, pow_zero, mul_one, ← Complex.ofReal_sum]

theorem dftN_dc (x : ImgN H W) (hH : 0 < H) (hW : 0 < W) :
    ((dftN H W).fft2 x ⟨0, hH⟩ ⟨0, hW⟩).re = ∑ y : Fin H, ∑ i : Fin W, x y i := by
  simp only [dftN_dc_eq, ofC, Complex.ofReal_re]

theorem dftN_dc_im (x : ImgN H W) (hH : 0 < H) (hW : 0 < W) : ((dftN H W).fft2 x ⟨0, hH⟩ ⟨0, hW⟩).im = 0 := by
  simp only [dftN_dc_eq, ofC, Complex.ofReal_im]

theorem dft2_add (x y : CImg H W) (v : Fin H) (u : Fin W) :
    dft2 H W (fun a b => x a b + y a b) v u = dft2 H W x v u + dft2 H W y v u := by
  simp only [dft2, dft1_add]
theorem dft2_smul (c : ℂ) (x : CImg H W) (v : Fin H) (u : Fin W) :
    dft2 H W (fun a b => c * x a b) v u = c * dft2 H W x v u := by
  simp only [dft2, dft1_smul]
theorem idft2_add (x y : CImg H W) (a : Fin H) (b : Fin W) :
    idft2 H W (fun v u => x v u + y v u) a b = idft2 H W x a b + idft2 H W y a b := by
  simp only [idft2, idft1_add]
theorem idft2_smul (c : ℂ) (x : CImg H W) (a : Fin H) (b : Fin W) :
    idft2 H W (fun v u => c * x v u) a b = c * idft2 H W x a b := by
  simp only [idft2, idft1_smul]

theorem dftN_fft2_hermitian (x : ImgN H W) (v : Fin H) (u : Fin W) :
    toC ((dftN H W).fft2 x (negFin v) (negFin u)) = (starRingEnd ℂ) (toC ((dftN H W).fft2 x v u)) :=
  dft2_hermitian _ (fun _ _ => Complex.conj_ofReal _) v u

theorem dftN_fft2_ifft2re (hH : 0 < H) (hW : 0 < W) (S : Spec ℝ H W)
    (hS : ∀ v u, toC (S (negFin v) (negFin u)) = (starRingEnd ℂ) (toC (S v u))) :
    (dftN H W).fft2 ((dftN H W).ifft2re S) = S := by
  funext v u
  have e := funext₂ (idft2_real_of_hermitian hH hW (fun v u => toC (S v u)) hS)
  simp only [dftN_fft2_eq, dftN_ifft2re_eq]
  rw [e, dft2_idft2 hH hW, ofC_toC]

theorem dftN_isDFT {H W : Nat} (hH : 0 < H) (hW : 0 < W) : IsDFT (dftN H W) where
  inv_left x := by
    funext y i
    simp only [dftN_ifft2re_eq, dftN_fft2_eq, toC_ofC, idft2_dft2 hH hW, Complex.ofReal_re]
  -- a Hermitian-even real multiplier keeps the spectrum of a real image Hermitian
  even_mult M hM x := dftN_fft2_ifft2re hH hW _ fun v u => by
    simp only [hM, toC_smul, dftN_fft2_hermitian, map_mul, Complex.conj_ofReal]
  fft_add x y := by
    funext v u
    simp only [dftN_fft2_eq, ofC_add, ← dft2_add, Pi.add_apply, Complex.ofReal_add]
  fft_smul c x := by
    funext v u
    simp only [dftN_fft2_eq, ofC_smul, ← dft2_smul, Pi.smul_apply, smul_eq_mul, Complex.ofReal_mul]
  ifft_add s t := by
    funext y i
    simp only [Pi.add_apply, dftN_ifft2re_eq, toC_add, idft2_add, Complex.add_re]
  ifft_smul c s := by
    funext y i
    simp only [Pi.smul_apply, smul_eq_mul, dftN_ifft2re_eq, toC_smul, idft2_smul, Complex.re_ofReal_mul]

theorem dftN_fft2_exp (x : ImgN H W) (v : Fin H) (u : Fin W) :
    (⟨((dftN H W).fft2 x v u).re, ((dftN H W).fft2 x v u).im⟩ : ℂ)
      = ∑ y : Fin H, ∑ i : Fin W, (x y i : ℂ) *
          Complex.exp (-(2 * Real.pi * Complex.I) * ((y.val * v.val : ℕ) / (H : ℂ) + (i.val * u.val : ℕ) / (W : ℂ))) := by
  rw [dftN_fft2_apply]
  apply sum_congr rfl; intro y _
  apply sum_congr rfl; intro i _
  rw [mul_assoc, omegaN_eq, omegaN_eq, ← Complex.exp_nat_mul, ← Complex.exp_nat_mul, ← Complex.exp_add]
  congr 2
  ring

/-- the `Add` / `SMul ℝ` on images that `IsDFT (dftN H W)` speaks about are the pointwise ones -/
theorem imgN_add_apply (x y : ImgN H W) (a : Fin H) (b : Fin W) : (x + y) a b = x a b + y a b := rfl
theorem imgN_smul_apply (c : ℝ) (x : ImgN H W) (a : Fin H) (b : Fin W) : (c • x) a b = c * x a b := rfl
theorem dftN_isDFT_pi (hH : 0 < H) (hW : 0 < W) : @IsDFT (ImgN H W) Pi.instAdd Pi.instSMul H W (dftN H W) :=
  dftN_isDFT hH hW

end CryoCat.C16
