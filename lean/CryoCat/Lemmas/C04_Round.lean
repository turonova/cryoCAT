import CryoCat.Model.C04
import CryoCat.Lemmas.Round
/-! C04 — what the `update_coord=True` clause asks of the rounding in `Motl.update_coordinates`
(`Decimal(v).to_integral_value(ROUND_HALF_UP)`), over any ordered field, and that the exact rational rule `ratRoundAway` of
`Model/C04.lean` meets it, being `Round.roundAway` of `Lemmas/Round` at ℚ. The rounding rule itself is C05's property. Apart from
`Lemmas/C04.lean` because of Mathlib's ordered fields: that file and `Lemmas/C04_Star.lean` are core Lean only. -/
namespace CryoCat.C04
variable {α : Type} [_root_.Field α] [LinearOrder α] [IsStrictOrderedRing α]

def RoundsToNearest (r : α → α) : Prop := ∀ v, (∃ z : ℤ, r v = (z : α)) ∧ |v - r v| ≤ 1 / 2

/-- the tie rule of ROUND_HALF_UP: exact halves go away from zero, on both sides of it -/
def TiesAwayFromZero (r : α → α) : Prop :=
  ∀ k : ℕ, r ((k : α) + 1 / 2) = (k : α) + 1 ∧ r (-((k : α) + 1 / 2)) = -((k : α) + 1)

/-- the exact rule is `Round.roundAway` on ℚ -/
theorem ratRoundAway_eq : ratRoundAway = fun q => ((Round.roundAway q : ℤ) : ℚ) :=
  funext fun q => (Round.roundAway_cast_eq_floor q).symm

theorem ratRoundAway_nearest : RoundsToNearest ratRoundAway := ratRoundAway_eq ▸ Round.roundAway_nearest

theorem ratRoundAway_ties : TiesAwayFromZero ratRoundAway := ratRoundAway_eq ▸ Round.roundAway_ties

/-- an all-integer list is left alone -/
theorem ratRoundAway_int (z : ℤ) : ratRoundAway (z : ℚ) = z :=
  ratRoundAway_eq ▸ congrArg Int.cast (Round.roundAway_intCast z)

omit [IsStrictOrderedRing α] in
/-- one axis of `update_coordinates` -/
theorem recentre_axis {r : α → α} (hr : RoundsToNearest r) (x sh : α) :
    (∃ z : ℤ, r (x + sh) = (z : α)) ∧ |x + sh - r (x + sh)| ≤ 1 / 2 ∧
    r (x + sh) + (x + sh - r (x + sh)) = x + sh := by
  exact ⟨(hr _).1, (hr _).2, add_sub_cancel _ _⟩

end CryoCat.C04
