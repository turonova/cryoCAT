import CryoCat.Lemmas.List
/-! `List.mergeSort` with a comparison that decides a total preorder, in particular `fun a b => decide (key a ≤ key b)`:
the result is ascending, and stable; selecting by each value of a duplicate-free list of keys, one value after the
other, IS the stable sort by the position of the key in that list. Core Lean only. -/
namespace CryoCat.Lists
variable {β κ : Type}

theorem pairwise_mergeSort_of_iff (le : β → β → Bool) (r : β → β → Prop) (h : ∀ a b, le a b = true ↔ r a b)
    (ht : ∀ a b c, r a b → r b c → r a c) (htot : ∀ a b, r a b ∨ r b a) (l : List β) : (l.mergeSort le).Pairwise r :=
  (List.pairwise_mergeSort (le := le) (fun a b c h1 h2 => (h a c).2 (ht a b c ((h a b).1 h1) ((h b c).1 h2)))
    (fun a b => by rw [Bool.or_eq_true, h, h]; exact htot a b) l).imp fun hab => (h _ _).1 hab

section key
variable [LE κ] [DecidableLE κ] [Std.IsLinearPreorder κ] (key : β → κ)

theorem keyLe_trans (a b c : β) :
    decide (key a ≤ key b) = true → decide (key b ≤ key c) = true → decide (key a ≤ key c) = true := by
  simp only [decide_eq_true_eq]; exact Std.le_trans

theorem keyLe_total (a b : β) : (decide (key a ≤ key b) || decide (key b ≤ key a)) = true := by
  simp only [Bool.or_eq_true, decide_eq_true_eq]; exact Std.le_total

theorem pairwise_mergeSort_key (l : List β) :
    (l.mergeSort fun a b => decide (key a ≤ key b)).Pairwise fun a b => key a ≤ key b :=
  (List.pairwise_mergeSort (keyLe_trans key) (keyLe_total key) l).imp of_decide_eq_true

/-- the sort is stable: members that are `≤` each other both ways (equal keys) keep their order -/
theorem filter_mergeSort_key (p : β → Bool) (hp : ∀ a b, p a = true → p b = true → key a ≤ key b) (l : List β) :
    (l.mergeSort fun a b => decide (key a ≤ key b)).filter p = l.filter p := by
  have hsub := (List.sublist_mergeSort (keyLe_trans key) (keyLe_total key)
    (List.pairwise_of_forall_mem_list fun a ha b hb =>
      decide_eq_true (hp a b (List.mem_filter.1 ha).2 (List.mem_filter.1 hb).2)) (List.filter_sublist (p := p) (l := l))).filter p
  simp only [List.filter_filter, Bool.and_self] at hsub
  exact (hsub.eq_of_length ((List.mergeSort_perm l _).filter p).length_eq.symm).symm

end key

section groups
variable {γ : Type} [DecidableEq κ] (key : γ → κ)

theorem nodup_pairwise_idxOf (ks : List κ) (h : ks.Nodup) : ks.Pairwise fun a b => ks.idxOf a < ks.idxOf b := by
  rw [List.pairwise_iff_getElem]
  intro i j hi hj hij
  rw [h.idxOf_getElem i hi, h.idxOf_getElem j hj]
  exact hij

theorem flatMap_filter_of_sorted (rank : κ → Nat) (ks : List κ) (hks : ks.Pairwise fun a b => rank a < rank b) (s : List γ)
    (hs : s.Pairwise fun p q => rank (key p) ≤ rank (key q)) (hcov : ∀ p ∈ s, key p ∈ ks) :
    ks.flatMap (fun k => s.filter fun p => decide (key p = k)) = s := by
  induction s with
  | nil => simp
  | cons a s ih =>
    rw [List.pairwise_cons] at hs
    obtain ⟨ks₁, ks₂, rfl⟩ := List.append_of_mem (hcov a List.mem_cons_self)
    rw [List.pairwise_append, List.pairwise_cons] at hks
    obtain ⟨_, ⟨hgt, _⟩, hlt⟩ := hks
    -- the keys in front of `key a` rank below it, and `a` ranks lowest: none of them occurs
    have h1 : ∀ t : List γ, (∀ p ∈ t, rank (key a) ≤ rank (key p)) →
        ks₁.flatMap (fun k => t.filter fun p => decide (key p = k)) = [] := by
      intro t ht
      simp only [List.flatMap_eq_nil_iff, List.filter_eq_nil_iff, decide_eq_true_eq]
      rintro k hk p hp rfl
      exact Nat.not_le.2 (hlt _ hk _ List.mem_cons_self) (ht p hp)
    have h2 : ks₂.flatMap (fun k => (a :: s).filter fun p => decide (key p = k))
        = ks₂.flatMap (fun k => s.filter fun p => decide (key p = k)) :=
      flatMap_congr fun k hk => List.filter_cons_of_neg (by simpa using fun (e : key a = k) => Nat.lt_irrefl _ (hgt _ (e ▸ hk)))
    have ih' := ih hs.2 (fun p hp => hcov p (List.mem_cons_of_mem _ hp))
    simp only [List.flatMap_append, List.flatMap_cons] at ih' ⊢
    rw [h1 s hs.1, List.nil_append] at ih'
    rw [h1 (a :: s) (List.forall_mem_cons.2 ⟨Nat.le_refl _, hs.1⟩), List.nil_append, h2,
      List.filter_cons_of_pos (p := fun p => decide (key p = key a)) (decide_eq_true rfl), List.cons_append, ih']

/-- **grouping is sorting**: the groups of `l`, one per key of the duplicate-free list `ks` and in that order, are `l`
sorted stably by the position of the key in `ks` -/
theorem groups_eq_mergeSort (ks : List κ) (hks : ks.Nodup) (l : List γ) (hcov : ∀ p ∈ l, key p ∈ ks) :
    ks.flatMap (fun k => l.filter fun p => decide (key p = k))
      = l.mergeSort fun p q => decide (ks.idxOf (key p) ≤ ks.idxOf (key q)) :=
  (flatMap_congr fun k _ => (filter_mergeSort_key (fun p => ks.idxOf (key p)) (fun p => decide (key p = k))
      (fun a b ha hb => by rw [of_decide_eq_true ha, of_decide_eq_true hb]; exact Nat.le_refl _) l).symm).trans
    (flatMap_filter_of_sorted key ks.idxOf ks (nodup_pairwise_idxOf ks hks) _
      (pairwise_mergeSort_key (fun p => ks.idxOf (key p)) l) fun p hp => hcov p (List.mem_mergeSort.1 hp))

theorem groups_perm (ks : List κ) (hks : ks.Nodup) (l : List γ) (hcov : ∀ p ∈ l, key p ∈ ks) :
    (ks.flatMap fun k => l.filter fun p => decide (key p = k)).Perm l :=
  groups_eq_mergeSort key ks hks l hcov ▸ List.mergeSort_perm _ _

theorem filter_groups (ks : List κ) (hks : ks.Nodup) (l : List γ) (hcov : ∀ p ∈ l, key p ∈ ks) (t : κ) :
    (ks.flatMap fun k => l.filter fun p => decide (key p = k)).filter (fun p => decide (key p = t))
      = l.filter fun p => decide (key p = t) :=
  groups_eq_mergeSort key ks hks l hcov ▸ filter_mergeSort_key (fun p => ks.idxOf (key p)) _
    (fun a b ha hb => by rw [of_decide_eq_true ha, of_decide_eq_true hb]; exact Nat.le_refl _) l

end groups
end CryoCat.Lists
