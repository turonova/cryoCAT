import CryoCat.Model.C02_Value
import CryoCat.Lemmas.C02_NumWrite
import Mathlib.Algebra.Order.Field.Rat
import Mathlib.Tactic.Ring
/-! C02 — the exact value of a decimal token; the cells the writer prints for numbers denote the
numbers they were printed from. Mathlib for rational arithmetic: the identity `shift_one_decimal` and the casts in `decValue_intStr`. -/
namespace CryoCat.C02

theorem decValue_isSome (w : Word) : (decValue w).isSome = isDecTok w := by
  unfold decValue
  cases isDecTok w <;> simp

def Sign.isMinus : Sign → Bool
  | .minus => true
  | _ => false

def Dec.fp (d : Dec) : Word := match d.frac with | some fp => fp | none => []

def Dec.expVal (d : Dec) : Int :=
  match d.exp with
  | none => 0
  | some (_, s, x) => if s.isMinus then -((digitsVal x : Nat) : Int) else ((digitsVal x : Nat) : Int)

def Dec.value (d : Dec) : Rat :=
  let mag : Rat := ((digitsVal (d.ip ++ d.fp) : Nat) : Rat) * pow10 (d.expVal - (d.fp.length : Int))
  if d.sign.isMinus then -mag else mag

theorem head_sign_text (s : Sign) (c : Char) (r : Word) (h : isDigit c = true ∨ c = '.') :
    ((s.text ++ c :: r).head? = some '-') ↔ s.isMinus = true := by
  cases s <;> simp [Sign.text, Sign.isMinus, (not_sign h).2]

theorem expOf_expText (d : Dec) (h : d.Ok) : expOf ((expText d.exp).drop 1) = d.expVal := by
  obtain ⟨_, _, _, hexp⟩ := h
  unfold Dec.expVal
  cases he : d.exp with
  | none => simp [expText, expOf, dropSign, digitsVal]
  | some t =>
    obtain ⟨c, s, x⟩ := t
    obtain ⟨_, hx, hxd⟩ := hexp c s x he
    obtain ⟨c', x', rfl⟩ := List.exists_cons_of_ne_nil hx
    have hd : isDigit c' = true := hxd c' (by simp)
    simp only [expText, List.drop_succ_cons, List.drop_zero]
    unfold expOf
    rw [dropSign_text s c' x' (not_sign (Or.inl hd))]
    have := head_sign_text s c' x' (Or.inl hd)
    by_cases hm : s.isMinus = true
    · rw [if_pos (this.2 hm)]; simp [hm]
    · rw [if_neg (fun h => hm (this.1 h))]; simp [hm]

theorem decValue_dec (d : Dec) (h : d.Ok) : decValue d.text = some d.value := by
  have hdec := isDecTok_of_dec d h
  have hexp := expOf_expText d h
  obtain ⟨hu, hs⟩ := dec_cut d h
  have hs2 := mantissa_cut d.ip d.frac h.1
  have hfr : (fracText d.frac).drop 1 = d.fp := by
    unfold Dec.fp; cases d.frac <;> simp [fracText]
  have hneg : (d.text.head? = some '-') ↔ d.sign.isMinus = true := by
    obtain ⟨c, r, hcr, hc⟩ := mantissa_head d.ip d.frac h.1 h.2.2.1 (expText d.exp)
    unfold Dec.text; rw [hcr]; exact head_sign_text d.sign c r hc
  unfold decValue
  simp only [hdec, if_true, hu, hs.1, hs.2, hs2.1, hs2.2, hfr, hexp]
  unfold Dec.value
  by_cases hm : d.sign.isMinus = true
  · simp [hneg.2 hm, hm]
  · have : ¬ d.text.head? = some '-' := fun h => hm (hneg.1 h)
    simp [this, hm]

/-- for a token whose exact value is known the value clause speaks of that value -/
theorem round6Spec_of_value {p ulps : Nat} {v ulp d : Rat} {tok : Word} (h : decValue tok = some d) :
    Round6Spec p ulps v ulp tok ↔ (d * ((10 ^ p : Nat) : Rat)).den = 1 ∧ absQ (d - v) ≤ halfUnit p + (ulps : Rat) * ulp := by
  unfold Round6Spec
  rw [h]
  exact ⟨fun ⟨_, e, h2, h3⟩ => by cases e; exact ⟨h2, h3⟩, fun ⟨h2, h3⟩ => ⟨d, rfl, h2, h3⟩⟩

theorem decValue_of_isDecTok (w : Word) (h : isDecTok w = true) : ∃ d : Dec, d.Ok ∧ w = d.text ∧ decValue w = some d.value := by
  obtain ⟨d, hd, rfl⟩ := dec_of_isDecTok w h
  exact ⟨d, hd, rfl, decValue_dec d hd⟩

theorem digitsVal_append (a b : Word) : digitsVal (a ++ b) = 10 ^ b.length * digitsVal a + digitsVal b :=
  Text.ofDigitChars_append a b

theorem digitsVal_zeros (k : Nat) : digitsVal (zeros k) = 0 := by
  unfold digitsVal zeros; simp

theorem zeros_length (k : Nat) : (zeros k).length = k := by simp [zeros]

theorem digitsVal_zeros_append (k : Nat) (ds : Word) : digitsVal (zeros k ++ ds) = digitsVal ds := Text.ofDigitChars_pad k ds

theorem digitsVal_natDigits (n : Nat) : digitsVal (natDigits n) = n := Nat.ofDigitChars_ten_toDigits

theorem digitsVal_expDigits (e : Nat) : digitsVal (expDigits e) = e := by
  unfold expDigits
  split
  · exact Text.ofDigitChars_pad_toDigits 1 e
  · exact digitsVal_natDigits e

/-- one trailing zero digit after the point: `N·10^(k+1) · 10⁻¹ = N·10^k` -/
theorem shift_one_decimal (N k : Nat) :
    (((10 ^ (k + 1) * N + 0 : Nat) : Nat) : Rat) * pow10 (0 - ((1 : Nat) : Int)) = (N : Rat) * pow10 (k : Int) := by
  have h1 : pow10 (0 - ((1 : Nat) : Int)) = 1 / 10 := by
    unfold pow10; norm_num
  have h2 : pow10 (k : Int) = (10 : Rat) ^ k := by
    unfold pow10; simp
  rw [h1, h2]
  push_cast
  ring

/-- the value of the digit string `ds` with the decimal point after `decpt` digits (`0.d₁d₂… × 10^decpt`), signed -/
def digitsValue (neg : Bool) (ds : Word) (decpt : Int) : Rat :=
  let mag : Rat := ((digitsVal ds : Nat) : Rat) * pow10 (decpt - (ds.length : Int))
  if neg then -mag else mag

theorem expVal_signed (s : Sign) (ip : Word) (fr : Option Word) (e : Int) :
    Dec.expVal ⟨s, ip, fr, some ('e', if e < 0 then .minus else .plus, expDigits e.natAbs)⟩ = e := by
  simp only [Dec.expVal, digitsVal_expDigits]
  split <;> simp only [Sign.isMinus, if_true, Bool.false_eq_true, if_false] <;> omega

theorem floatDec_value (s : Sign) (ds : Word) (decpt : Int) (hne : ds ≠ []) :
    ((digitsVal ((floatDec s ds decpt).ip ++ (floatDec s ds decpt).fp) : Nat) : Rat) *
        pow10 ((floatDec s ds decpt).expVal - ((floatDec s ds decpt).fp.length : Int)) =
      ((digitsVal ds : Nat) : Rat) * pow10 (decpt - (ds.length : Int)) := by
  have hpos : 0 < ds.length := List.length_pos_iff.2 hne
  by_cases h1 : decpt > 16 ∨ decpt < -3
  · -- exponent form
    simp only [floatDec, floatMag, h1, if_true, expVal_signed]
    by_cases hl : ds.length > 1
    · simp only [Dec.fp, hl, if_true, List.take_append_drop, List.length_drop]
      congr 2; omega
    · have ht : ds.take 1 = ds := List.take_of_length_le (by omega)
      simp only [Dec.fp, hl, if_false, List.append_nil, ht, List.length_nil]
      congr 2; omega
  · by_cases h2 : decpt ≤ 0
    · -- 0.000ddd
      have : (['0'] ++ (zeros (-decpt).toNat ++ ds) : Word) = zeros ((-decpt).toNat + 1) ++ ds := by
        simp [zeros, List.replicate_succ]
      simp only [floatDec, floatMag, h1, h2, if_true, if_false, Dec.fp, Dec.expVal, this, digitsVal_zeros_append, List.length_append,
        zeros_length]
      congr 2; omega
    · by_cases h3 : ds.length ≤ decpt.toNat
      · -- ddd000.0
        have e0 : ((ds ++ zeros (decpt.toNat - ds.length)) ++ ['0'] : Word) = ds ++ zeros (decpt.toNat - ds.length + 1) := by
          simp [zeros, List.replicate_succ']
        simp only [floatDec, floatMag, h1, h2, h3, if_true, if_false, Dec.fp, Dec.expVal, e0, digitsVal_append, digitsVal_zeros,
          zeros_length, List.length_singleton]
        rw [shift_one_decimal]
        congr 2; omega
      · -- dd.ddd
        simp only [floatDec, floatMag, h1, h2, h3, if_false, Dec.fp, Dec.expVal, List.take_append_drop, List.length_drop]
        congr 2; omega

theorem signOf_isMinus (neg : Bool) : (signOf neg).isMinus = neg := by cases neg <;> rfl

theorem decValue_floatRepr (neg : Bool) (ds : Word) (decpt : Int) (hne : ds ≠ []) (hd : AllDigits ds) :
    decValue (floatRepr neg ds decpt) = some (digitsValue neg ds decpt) := by
  obtain ⟨hok, htxt⟩ := floatDec_spec (signOf neg) ds decpt hne hd
  unfold floatRepr
  rw [signText_eq, htxt, decValue_dec _ hok]
  unfold Dec.value digitsValue
  simp only [floatDec_sign, signOf_isMinus, floatDec_value _ ds decpt hne]

theorem decValue_intStr (n : Int) : decValue (intStr n) = some (n : Rat) := by
  rw [(intDec_spec n).2, decValue_dec _ (intDec_spec n).1]
  cases n with
  | ofNat k => simp [intDec, Dec.value, Dec.fp, Dec.expVal, Sign.isMinus, digitsVal_natDigits, pow10]
  | negSucc k => simp [intDec, Dec.value, Dec.fp, Dec.expVal, Sign.isMinus, digitsVal_natDigits, pow10, Int.negSucc_eq]

end CryoCat.C02
