import CryoCat.Lemmas.C02_Tokenize
/-! C02 — the parser on token lists of the shapes a laid-out document has: the label loop, the row loop, and one
round of the block loop of `Starfile.read`. The block loop is analysed once, in the form that collects the comment lists
(`blocksGoC`); the loop without them (`blocksGo`) is that one with the lists forgotten. Core Lean only. -/
namespace CryoCat.C02

def isNC : Tok → Bool
  | .newline => true
  | .comment _ => true
  | _ => false

def comOf : Tok → Option Comment
  | .comment c => some c
  | _ => none

/-- `parse_newline_or_comments` in closed form: it drops the leading blank / comment tokens … -/
theorem skipNC_eq (ts : List Tok) : skipNC ts = ts.dropWhile isNC := by
  induction ts with
  | nil => rfl
  | cons t ts ih => cases t <;> simp [skipNC, isNC, List.dropWhile, ih]

/-- … and returns the comments among them -/
theorem ncComments_eq (ts : List Tok) : ncComments ts = (ts.takeWhile isNC).filterMap comOf := by
  induction ts with
  | nil => rfl
  | cons t ts ih => cases t <;> simp [ncComments, isNC, comOf, List.takeWhile, List.filterMap_cons, ih]

theorem skipNC_append (a r : List Tok) (h : ∀ t ∈ a, isNC t = true) : skipNC (a ++ r) = skipNC r := by
  simp only [skipNC_eq, List.dropWhile_append_of_pos h]

theorem skipNC_all (a : List Tok) (h : ∀ t ∈ a, isNC t = true) : skipNC a = [] := by
  simpa [skipNC_eq] using skipNC_append a [] h

theorem skipNC_upto (a : List Tok) (t : Tok) (r : List Tok) (ha : ∀ x ∈ a, isNC x = true) (ht : isNC t = false) :
    skipNC (a ++ t :: r) = t :: r := by
  simp [skipNC_eq, List.dropWhile_append_of_pos ha, ht]

theorem ncComments_append (a r : List Tok) (h : ∀ t ∈ a, isNC t = true) :
    ncComments (a ++ r) = ncComments a ++ ncComments r := by
  have ha : a.takeWhile isNC = a := by simpa using List.takeWhile_append_of_pos (l₂ := []) h
  simp only [ncComments_eq, List.takeWhile_append_of_pos h, List.filterMap_append, ha]

theorem ncComments_upto (a : List Tok) (t : Tok) (r : List Tok) (ha : ∀ x ∈ a, isNC x = true) (ht : isNC t = false) :
    ncComments (a ++ t :: r) = ncComments a := by
  simp [ncComments_append a _ ha, ncComments_eq, ht]

theorem commentToks_nc (tl : List Char) : ∀ t ∈ commentToks tl, isNC t = true := by
  cases tl <;> simp [commentToks, isNC]

theorem skip_toks_nc (l : Line) (h : l.Skip) : ∀ t ∈ l.toks, isNC t = true := by
  intro t ht
  simp only [Line.toks, Line.words, h.2, List.map_nil, List.nil_append, List.mem_append, List.mem_singleton] at ht
  rcases ht with ht | rfl
  · exact commentToks_nc _ t ht
  · rfl

theorem skips_toks_nc (ls : List Line) (h : ∀ l ∈ ls, l.Skip) : ∀ t ∈ ls.flatMap Line.toks, isNC t = true := by
  intro t ht
  obtain ⟨l, hl, hlt⟩ := List.mem_flatMap.1 ht
  exact skip_toks_nc l (h l hl) t hlt

theorem classify_lit (w : Word) (h : IsLit w) : classifyWord w = .lit w := by
  simp [classifyWord, propPrefix_eq, loopKw_eq, h.1, h.2]

theorem classify_loop : classifyWord ['l', 'o', 'o', 'p', '_'] = .loop := by decide

theorem classify_prop (c : Word) : classifyWord ('_' :: c) = .prop ('_' :: c) := by
  simp [classifyWord, propPrefix_eq]

def isLit : Tok → Bool
  | .lit _ => true
  | _ => false

/-- no cell ahead: where the row loop stops -/
abbrev Stops (r : List Tok) : Prop := Text.Stops isLit r

def labelToks (c : Word) (tl : List Char) : List Tok := .prop ('_' :: c) :: (commentToks tl ++ [.newline])

theorem parseLabels_stop (t : Tok) (r : List Tok) (h : ∀ w, t ≠ .prop w) : parseLabels (t :: r) = .ok ([], t :: r) := by
  cases t with
  | prop w => exact absurd rfl (h w)
  | _ => simp [parseLabels]

theorem parseLabels_label (c : Word) (tl : List Char) (r : List Tok) :
    parseLabels (labelToks c tl ++ r) =
      match parseLabels r with
      | .ok (cs, r') => .ok (c :: cs, r')
      | .error e => .error e := by
  cases tl with
  | nil =>
    simp [labelToks, commentToks, parseLabels, Gen.C02.propNameDrop]
    rcases parseLabels r with e | ⟨cs, r'⟩ <;> rfl
  | cons x tl =>
    simp [labelToks, commentToks, parseLabels, Gen.C02.propNameDrop]
    rcases parseLabels r with e | ⟨cs, r'⟩ <;> rfl

def NoLabel (ts : List Tok) : Prop := ∃ t r, ts = t :: r ∧ ∀ w, t ≠ .prop w

theorem parseLabels_append (cols : List Word) (tls : List (List Char)) (hl : cols.length = tls.length) (ts : List Tok) :
    parseLabels ((List.zipWith labelToks cols tls).flatten ++ ts) =
      match parseLabels ts with
      | .ok (cs, r) => .ok (cols ++ cs, r)
      | .error e => .error e := by
  induction cols generalizing tls with
  | nil => rcases h : parseLabels ts with e | ⟨cs, r⟩ <;> simp [h]
  | cons c cols ih =>
    cases tls with
    | nil => simp at hl
    | cons tl tls =>
      simp only [List.zipWith_cons_cons, List.flatten_cons, List.append_assoc]
      rw [parseLabels_label, ih tls (by simpa using hl)]
      rcases parseLabels ts with e | ⟨cs, r⟩ <;> rfl

theorem parseLabels_labels (cols : List Word) (tls : List (List Char)) (hl : cols.length = tls.length)
    (ts : List Tok) (h : NoLabel ts) :
    parseLabels ((List.zipWith labelToks cols tls).flatten ++ ts) = .ok (cols, ts) := by
  obtain ⟨t, r, rfl, h⟩ := h
  rw [parseLabels_append cols tls hl, parseLabels_stop t r h]
  simp only [List.append_nil]

/-- the text ends on the last label line: `Token.check` finds the queue exhausted -/
theorem parseLabels_end (cols : List Word) (tls : List (List Char)) (hl : cols.length = tls.length) :
    parseLabels ((List.zipWith labelToks cols tls).flatten) = .error (.expected .prop true) := by
  have := parseLabels_append cols tls hl []
  rwa [List.append_nil] at this

theorem rowsGo_lits (n : Nat) (ws : List Word) (j : Nat) (cur rows r) :
    rowsGo n (ws.length + j) cur rows (ws.map .lit ++ r) = rowsGo n j (ws.reverse ++ cur) rows r := by
  induction ws generalizing cur with
  | nil => simp
  | cons w ws ih =>
    have : (w :: ws).length + j = (ws.length + j) + 1 := by simp; omega
    rw [this]
    simp only [List.map_cons, List.cons_append, rowsGo]
    rw [ih]; simp

theorem rowsGo_row (ws : List Word) (rows r) :
    rowsGo ws.length ws.length [] rows (ws.map .lit ++ .newline :: r) = rowsGo ws.length ws.length [] (ws :: rows) r := by
  have := rowsGo_lits ws.length ws 0 [] rows (.newline :: r)
  simp only [Nat.add_zero, List.append_nil] at this
  rw [this]; simp [rowsGo]

def rowToks (ws : List Word) : List Tok := ws.map .lit ++ [.newline]

theorem rowsGo_rows (n : Nat) (rs : List (List Word)) (h : ∀ ws ∈ rs, ws.length = n) (rows r) :
    rowsGo n n [] rows ((rs.map rowToks).flatten ++ r) = rowsGo n n [] (rs.reverse ++ rows) r := by
  induction rs generalizing rows with
  | nil => simp
  | cons ws rs ih =>
    have hw := h ws (by simp)
    subst hw
    simp only [List.map_cons, List.flatten_cons, rowToks, List.append_assoc, List.cons_append, List.nil_append]
    rw [rowsGo_row, ih (fun x hx => h x (by simp [hx]))]
    simp

theorem rowsGo_notlit (n k : Nat) (cur : List Word) (rows : List (List Word)) (ts : List Tok) (h : Stops ts) :
    rowsGo n (k + 1) cur rows ts = .ok (rows.reverse, ts) := by
  cases ts with
  | nil => simp [rowsGo]
  | cons t r =>
    cases t with
    | lit w => exact absurd (h _ rfl) (by simp [isLit])
    | _ => simp [rowsGo]

theorem rowsGo_stop (n : Nat) (hn : n ≠ 0) (rows r) (h : Stops r) : rowsGo n n [] rows r = .ok (rows.reverse, r) := by
  obtain ⟨k, rfl⟩ := Nat.exists_eq_succ_of_ne_zero hn
  exact rowsGo_notlit _ k [] rows r h

def dropC : Except Err (List (Block × List Comment)) → Except Err (List Block)
  | .ok bs => .ok (bs.map Prod.fst)
  | .error e => .error e

theorem blocksGoC_tables (fuel : Nat) (ts : List Tok) : dropC (blocksGoC fuel ts) = blocksGo fuel ts := by
  induction fuel generalizing ts with
  | zero => rfl
  | succ f ih =>
    rw [blocksGoC, blocksGo]
    split
    · -- the two loops run the same parsers; they differ in what a completed round returns
      rcases parseSpecifier ts with e | ⟨name, ts1⟩
      · rfl
      dsimp only
      rcases parseColumns ts1 with e | ⟨cols, ts2⟩
      · rfl
      dsimp only
      rcases parseRows cols.length ts2 with e | ⟨rows, ts3⟩
      · rfl
      simp only [← ih ts3]
      rcases blocksGoC f ts3 with e | bs <;> rfl
    · cases skipNC ts <;> rfl

theorem readStarC_tables (txt : List Char) : dropC (readStarC txt) = readStar txt :=
  blocksGoC_tables _ _

theorem nc_not_prop {t : Tok} (h : isNC t = true) : ∀ w, t ≠ .prop w := by
  intro w e; subst e; simp [isNC] at h

theorem nc_not_lit {t : Tok} (h : isNC t = true) : isLit t = false := by
  cases t <;> first | rfl | cases h

theorem stops_append (a r : List Tok) (h : ∀ t ∈ a, isNC t = true) (hne : a ≠ []) : Stops (a ++ r) := by
  cases a with
  | nil => exact absurd rfl hne
  | cons t a => exact Text.stops_cons (nc_not_lit (h t (by simp))) _

theorem stops_of_nc (a : List Tok) (h : ∀ t ∈ a, isNC t = true) : Stops a :=
  Text.stops_of_forall fun t ht => nc_not_lit (h t ht)

theorem rows_head_lit (n : Nat) (hn : n ≠ 0) (ws : List Word) (rs : List (List Word)) (hl : ws.length = n) (after : List Tok) :
    ∃ w r, ((ws :: rs).map rowToks).flatten ++ after = .lit w :: r := by
  cases ws with
  | nil => simp at hl; exact absurd hl.symm hn
  | cons w ws => exact ⟨w, ws.map .lit ++ .newline :: ((rs.map rowToks).flatten ++ after), by simp [rowToks]⟩

theorem noLabel_of_nc (a : List Tok) (h : ∀ t ∈ a, isNC t = true) (hne : a ≠ []) : NoLabel a := by
  cases a with
  | nil => exact absurd rfl hne
  | cons t r => exact ⟨t, r, rfl, nc_not_prop (h t (by simp))⟩

theorem after_labels_head (Q : List Tok) (hQ : ∀ t ∈ Q, isNC t = true) (n : Nat) (hn : n ≠ 0)
    (rs : List (List Word)) (hrs : ∀ ws ∈ rs, ws.length = n) (after : List Tok)
    (hne : rs = [] → NoLabel (Q ++ after)) : NoLabel (Q ++ ((rs.map rowToks).flatten ++ after)) := by
  cases rs with
  | nil => simpa using hne rfl
  | cons ws rs =>
    cases Q with
    | cons t Q => exact ⟨t, _, rfl, nc_not_prop (hQ t (by simp))⟩
    | nil =>
      obtain ⟨w, r, hw⟩ := rows_head_lit n hn ws rs (hrs ws (by simp)) after
      exact ⟨.lit w, r, hw, by intro v e; cases e⟩

theorem parseRows_rows (Q : List Tok) (hQ : ∀ t ∈ Q, isNC t = true) (n : Nat) (hn : n ≠ 0) (ws : List Word) (rs : List (List Word))
    (hrs : ∀ x ∈ ws :: rs, x.length = n) (after : List Tok) :
    parseRows n (Q ++ (((ws :: rs).map rowToks).flatten ++ after)) = rowsGo n n [] (ws :: rs).reverse after := by
  obtain ⟨w, r', hw⟩ := rows_head_lit n hn ws rs (hrs ws (by simp)) after
  rw [parseRows, hw, skipNC_upto Q (.lit w) r' hQ rfl, ← hw, rowsGo_rows _ _ hrs, List.append_nil]

/-- one round of the `while lookahead` loop of `Starfile.read`, up to the labels -/
theorem blocksGoC_head (P N rest : List Tok) (hP : ∀ t ∈ P, isNC t = true) (hN : ∀ t ∈ N, isNC t = true) (name : Word) (fuel : Nat) :
    blocksGoC (fuel + 1) (P ++ .lit name :: (N ++ .loop :: .newline :: rest)) =
      match parseLabels rest with
      | .error e => .error e
      | .ok (cols, ts2) =>
        match parseRows cols.length ts2 with
        | .error e => .error e
        | .ok (rows, ts3) =>
          (blocksGoC fuel ts3).map (({ name := name, cols := cols, rows := rows }, ncComments P ++ (ncComments N ++ ncComments ts2)) :: ·) := by
  rw [blocksGoC]
  simp only [lookaheadLit, parseSpecifier, parseColumns, skipNC_upto P (.lit name) _ hP rfl, skipNC_upto N .loop _ hN rfl,
    ncComments_upto P (.lit name) _ hP rfl, ncComments_upto N .loop _ hN rfl, if_true]
  rcases parseLabels rest with e | ⟨cols, ts2⟩
  · rfl
  dsimp only
  rcases parseRows cols.length ts2 with e | ⟨rows, ts3⟩
  · rfl
  dsimp only
  rcases blocksGoC fuel ts3 with e | bs <;> rfl

theorem blocksGoC_nc (fuel : Nat) (T : List Tok) (h : ∀ t ∈ T, isNC t = true) : blocksGoC (fuel + 1) T = .ok [] := by
  rw [blocksGoC]
  simp [lookaheadLit, skipNC_all T h]

theorem blocksGoC_skip (fuel : Nat) (T : List Tok) (h : ∀ t ∈ T, isNC t = true) : blocksGoC fuel T = blocksGoC fuel [] := by
  cases fuel with
  | zero => rfl
  | succ f => rw [blocksGoC_nc f T h, blocksGoC_nc f [] (by simp)]

/-- one round of the `while lookahead` loop on the tokens of one block. After a block without rows the row loop has eaten the
blank / comment tokens that follow (their comments go to this block); the loop goes on as if they were still there. -/
theorem block_stepC (P N Q : List Tok) (hP : ∀ t ∈ P, isNC t = true) (hN : ∀ t ∈ N, isNC t = true)
    (hQ : ∀ t ∈ Q, isNC t = true) (name : Word) (cols : List Word) (tls : List (List Char))
    (hlen : cols.length = tls.length) (hcols : cols ≠ []) (rs : List (List Word))
    (hrs : ∀ ws ∈ rs, ws.length = cols.length) (after : List Tok) (ha : Stops after)
    (hne : rs = [] → (∀ t ∈ after, isNC t = true) ∧ Q ++ after ≠ []) (fuel : Nat) :
    blocksGoC (fuel + 1) (P ++ .lit name :: (N ++ .loop :: .newline ::
        ((List.zipWith labelToks cols tls).flatten ++ (Q ++ ((rs.map rowToks).flatten ++ after))))) =
      (blocksGoC fuel after).map (({ name := name, cols := cols, rows := rs },
        ncComments P ++ (ncComments N ++ (ncComments Q ++ (if rs = [] then ncComments after else [])))) :: ·) := by
  have hn : cols.length ≠ 0 := by simpa using hcols
  rw [blocksGoC_head P N _ hP hN,
    parseLabels_labels cols tls hlen _ (after_labels_head Q hQ cols.length hn rs hrs after (fun h =>
      noLabel_of_nc _ (fun t ht => (List.mem_append.1 ht).elim (hQ t) ((hne h).1 t)) (hne h).2))]
  simp only [ncComments_append Q _ hQ]
  cases rs with
  | nil =>
    have hrows : parseRows cols.length (Q ++ after) = .ok ([], []) := by
      unfold parseRows
      rw [skipNC_append Q _ hQ, skipNC_all after (hne rfl).1, rowsGo_stop _ hn _ _ Text.stops_nil]
      rfl
    simp only [List.map_nil, List.flatten_nil, List.nil_append, hrows, if_true, blocksGoC_skip fuel after (hne rfl).1]
  | cons ws rs' =>
    have hcom : ncComments (((ws :: rs').map rowToks).flatten ++ after) = [] := by
      obtain ⟨w, r', hw⟩ := rows_head_lit cols.length hn ws rs' (hrs ws (by simp)) after
      rw [hw]; rfl
    have hrows := parseRows_rows Q hQ _ hn ws rs' hrs after
    rw [rowsGo_stop _ hn _ _ ha, List.reverse_reverse] at hrows
    simp only [hrows, hcom, if_neg (List.cons_ne_nil ws rs')]

end CryoCat.C02
