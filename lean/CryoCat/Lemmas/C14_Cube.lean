import CryoCat.Lemmas.C14
import CryoCat.Lemmas.Rot
import Mathlib.Tactic.Linarith
import Mathlib.Tactic.IntervalCases
/-! the cube rotations: `cubeZxz a b c` is a proper rotation because `quarter` is a unit pair, `cube24` holds exactly these matrices,
and every proper orthogonal integer matrix is among them, its Euler angles being quarter turns -/
namespace CryoCat.C14

theorem quarter_unit (k : Nat) : (quarter k).1 * (quarter k).1 + (quarter k).2 * (quarter k).2 = 1 := by
  unfold quarter; split <;> rfl

theorem quarter_neg : ∀ a < 4, quarter ((4 - a) % 4) = ((quarter a).1, -(quarter a).2) := by decide

theorem cubeZxz_isRot (a b c : Nat) : (cubeZxz a b c).IsRot :=
  zxz_isRot _ _ _ _ _ _ (quarter_unit a) (quarter_unit b) (quarter_unit c)

theorem forall_mem_cube24 {P : M3 Int → Prop} : (∀ R ∈ cube24, P R) ↔ ∀ a < 4, ∀ b < 4, ∀ c < 4, P (cubeZxz a b c) := by
  simp only [cube24, List.mem_eraseDups, List.mem_flatMap, List.mem_map, List.mem_range]
  exact ⟨fun h a ha b hb c hc => h _ ⟨a, ha, b, hb, c, hc, rfl⟩, fun h R ⟨a, ha, b, hb, c, hc, e⟩ => e ▸ h a ha b hb c hc⟩

theorem cube24_isRot : ∀ R ∈ cube24, R.IsRot := forall_mem_cube24.2 fun a _ b _ c _ => cubeZxz_isRot a b c

theorem nodup_eraseDups {α : Type} [BEq α] [LawfulBEq α] : ∀ l : List α, l.eraseDups.Nodup
  | [] => List.nodup_nil
  | a :: as => by
    rw [List.eraseDups_cons, List.nodup_cons, List.mem_eraseDups, List.mem_filter]
    exact ⟨fun h => by simp at h, nodup_eraseDups _⟩
termination_by l => l.length
decreasing_by exact Nat.lt_succ_of_le (List.length_filter_le _ _)

/-! completeness: a proper integer rotation has `zxz` Euler angles on the integer unit circle, whose points are the quarter turns -/

theorem abs_le_one_of_mul_self_le (a : Int) (h : a * a ≤ 1) : -1 ≤ a ∧ a ≤ 1 := by
  constructor <;> nlinarith

theorem unit_pair {c s : Int} (h : c * c + s * s = 1) : ∃ k < 4, quarter k = (c, s) := by
  obtain ⟨hc1, hc2⟩ := abs_le_one_of_mul_self_le c (by linarith [mul_self_nonneg s])
  obtain ⟨hs1, hs2⟩ := abs_le_one_of_mul_self_le s (by linarith [mul_self_nonneg c])
  have : (c, s) ∈ (List.range 4).map quarter := by
    interval_cases c <;> interval_cases s <;> first | (exfalso; omega) | decide
  simpa only [List.mem_map, List.mem_range] using this

theorem zxz_mem_cube24 {cp sp ct st cs ss : Int} (hp : cp * cp + sp * sp = 1) (ht : ct * ct + st * st = 1)
    (hs : cs * cs + ss * ss = 1) : zxz cp sp ct st cs ss ∈ cube24 := by
  obtain ⟨a, ha, ea⟩ := unit_pair hp
  obtain ⟨b, hb, eb⟩ := unit_pair ht
  obtain ⟨c, hc, ec⟩ := unit_pair hs
  have e : zxz cp sp ct st cs ss = cubeZxz a b c := by rw [cubeZxz, ea, eb, ec]
  exact e ▸ forall_mem_cube24.1 (fun _ h => h) a ha b hb c hc

theorem mem_cube24_iff (R : M3 Int) : R ∈ cube24 ↔ R.IsRot := by
  refine ⟨cube24_isRot R, fun h => ?_⟩
  -- `m₃₃² ≤ 1` (third column): `m₃₃ = 1, −1` are gimbal lock with θ = 0, 180°; `m₃₃ = 0` is the generic case with `sin θ = 1`
  obtain ⟨h1, h2⟩ := abs_le_one_of_mul_self_le R.a33 (by linarith [h.col3, mul_self_nonneg R.a13, mul_self_nonneg R.a23])
  rcases (by omega : R.a33 = 1 ∨ R.a33 = -1 ∨ R.a33 = 0) with e | e | e
  · obtain ⟨u, z⟩ := h.zxz_gimbal_pos e
    exact z ▸ zxz_mem_cube24 u rfl rfl
  · obtain ⟨u, z⟩ := h.zxz_gimbal_neg e
    exact z ▸ zxz_mem_cube24 u rfl rfl
  · obtain ⟨u1, u3, z⟩ := h.zxz_of_scaled (s := 1) (by rw [e]; rfl) one_ne_zero (one_mul _) (one_mul _) (one_mul _) (one_mul _)
    exact z ▸ zxz_mem_cube24 u1 (by rw [e]; rfl) u3

end CryoCat.C14
