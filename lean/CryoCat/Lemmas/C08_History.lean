import CryoCat.Lemmas.C08_Merge
import CryoCat.Model.C08_Check
/-! C08 — the history invariant: rows only ever come from the lists that entered the history, and only
id fields are rewritten. -/
namespace CryoCat.C08
open CryoCat Gen.C08
set_option linter.unusedSectionVars false

section plain
variable {α : Type}

theorem get_fillRow (fill : α → α) (p : Particle α) (f : Field) : (fillRow fill p).get f = fill (p.get f) := by
  unfold fillRow; exact Particle.get_ofFn _ _


theorem numberFrom_objs (nat : Nat → α) (k : Nat) (l : Motl α) :
    (numberFrom nat k l).map (·.object_id) = l.map (·.object_id) := by
  induction l generalizing k with
  | nil => rfl
  | cons p l ih => simp only [numberFrom, List.map_cons, ih]; rfl


theorem unchanged_refl (fill : α → α) (p : Particle α) : Unchanged fill p p := fun _ _ _ => Or.inl rfl

theorem unchanged_set_object_id (fill : α → α) (p : Particle α) (v : α) : Unchanged fill p (p.set .object_id v) :=
  fun _ _ h2 => Or.inl (Particle.get_set_other _ _ _ _ h2)

theorem unchanged_trans (fill : α → α) (hfill : ∀ v, fill (fill v) = fill v) (p q r : Particle α)
    (h1 : Unchanged fill p q) (h2 : Unchanged fill q r) : Unchanged fill p r := by
  intro f hf1 hf2
  rcases h2 f hf1 hf2 with e2 | e2 <;> rcases h1 f hf1 hf2 with e1 | e1
  · exact Or.inl (e2.trans e1)
  · exact Or.inr (e2.trans e1)
  · exact Or.inr (by rw [e2, e1])
  · exact Or.inr (by rw [e2, e1, hfill])

theorem unchanged_of_literal (g : α → α) (p q : Particle α) (h : Literal p q) : Unchanged g p q :=
  fun f h1 h2 => Or.inl (h f h1 h2)

theorem literal_iff_unchanged_id (p q : Particle α) : Literal p q ↔ Unchanged (fun v => v) p q :=
  ⟨fun h f h1 h2 => Or.inl (h f h1 h2), fun h f h1 h2 => (h f h1 h2).elim id id⟩

theorem unchanged_if_mono (fill : α → α) (c d : Bool) (hcd : c = true → d = true) (p q : Particle α)
    (h : Unchanged (if c then fill else (fun v => v)) p q) : Unchanged (if d then fill else (fun v => v)) p q := by
  cases c <;> cases d
  · exact h
  · exact unchanged_of_literal _ p q ((literal_iff_unchanged_id p q).2 h)
  · exact absurd (hcd rfl) (by decide)
  · exact h

/-- the filling policy of one operation of a history is contained in the history's -/
theorem unchanged_op_hist (fill : α → α) {op : Op α} {ops : List (Op α)} (hop : op ∈ ops) {p q : Particle α}
    (h : Unchanged (opFill fill op) p q) : Unchanged (histFill fill ops) p q :=
  unchanged_if_mono fill _ _ (fun e => List.any_eq_true.2 ⟨op, hop, e⟩) p q h

theorem histFill_idem (fill : α → α) (hfill : ∀ v, fill (fill v) = fill v) (ops : List (Op α)) :
    ∀ v, histFill fill ops (histFill fill ops v) = histFill fill ops v := by
  intro v; unfold histFill; split
  · exact hfill v
  · rfl

theorem histFill_of_no_fill (fill : α → α) (ops : List (Op α)) (h : ops.any Op.mayFill = false) :
    histFill fill ops = (fun v => v) := by
  unfold histFill; rw [h]; rfl

/-- what one operation may do to the rows: every row of the result is a row of the table before it or of a list the
operation brings in, only id fields rewritten, a missing value filled only if the operation re-loads a frame -/
abbrev StepRows (fill : α → α) (op : Op α) (l l' : Motl α) : Prop :=
  ∀ q ∈ l', ∃ p ∈ l ++ op.sources, Unchanged (opFill fill op) p q

/-- the invariant of a history `ops` started at `l`: every row is a row that entered the history, only id fields
rewritten, a missing value filled only as far as the history may.  The model's run keeps it (`step_rows`), an accepted
observed history keeps it (`stepOK_rows`). -/
def RowsFrom (fill : α → α) (ops : List (Op α)) (l l' : Motl α) : Prop :=
  ∀ q ∈ l', ∃ p ∈ l ++ ops.flatMap Op.sources, Unchanged (histFill fill ops) p q

theorem RowsFrom.init (fill : α → α) (ops : List (Op α)) (l : Motl α) : RowsFrom fill ops l l :=
  fun q hq => ⟨q, List.mem_append_left _ hq, unchanged_refl _ q⟩

/-- one step of the history keeps the invariant: its filling policy is contained in the history's, which is idempotent -/
theorem RowsFrom.step {fill : α → α} (hfill : ∀ v, fill (fill v) = fill v) {ops : List (Op α)} {op : Op α} (hop : op ∈ ops)
    {l l₁ l₂ : Motl α} (hstep : StepRows fill op l₁ l₂) (h : RowsFrom fill ops l l₁) : RowsFrom fill ops l l₂ := by
  intro q hq
  obtain ⟨p1, hp1, hu1⟩ := hstep q hq
  have hu1' := unchanged_op_hist fill hop hu1
  rcases List.mem_append.1 hp1 with h1 | h1
  · obtain ⟨p0, hp0, hu0⟩ := h p1 h1
    exact ⟨p0, hp0, unchanged_trans _ (histFill_idem fill hfill _) p0 p1 q hu0 hu1'⟩
  · exact ⟨p1, List.mem_append_right _ (List.mem_flatMap.2 ⟨op, hop, h1⟩), hu1'⟩

theorem RowsFrom.literal {fill : α → α} {ops : List (Op α)} {l l' : Motl α} (h : RowsFrom fill ops l l')
    (hops : ops.any Op.mayFill = false) : ∀ q ∈ l', ∃ p ∈ l ++ ops.flatMap Op.sources, Literal p q := by
  simp only [RowsFrom, histFill_of_no_fill _ _ hops, ← literal_iff_unchanged_id] at h
  exact h

end plain

section ordered
variable {α : Type} [CommRing α] [LinearOrder α] [IsStrictOrderedRing α]

/-- `Motl.load` of one tagged input, row by row -/
def loadRow (fill : α → α) (df : Bool) (p : Particle α) : Particle α := if df then fillRow fill p else p

theorem loaded_eq_map (fill : α → α) (x : Bool × Motl α) : loaded fill x = x.2.map (loadRow fill x.1) := by
  unfold loaded loadRow
  split
  · simp
  · simp

theorem get_loadRow (fill : α → α) (df : Bool) (p : Particle α) (f : Field) :
    (loadRow fill df p).get f = fillIf fill df (p.get f) := by
  unfold loadRow fillIf
  cases df
  · rfl
  · exact get_fillRow fill p f

theorem mergeInputs_eq_map (fill : α → α) (b a : List (Bool × Motl α)) (s : Bool) (l : Motl α) :
    mergeInputs fill b a s l = (rawInputs b a s l).map (loaded fill) := by
  unfold mergeInputs rawInputs
  simp only [List.map_append, List.map_cons, List.map_nil]

theorem mem_rawInputs (b a : List (Bool × Motl α)) (s : Bool) (l : Motl α) (x : Bool × Motl α)
    (hx : x ∈ rawInputs b a s l) (p : Particle α) (hp : p ∈ x.2) :
    p ∈ l ++ ((b.map (·.2)).flatten ++ (a.map (·.2)).flatten)
    ∧ (x.1 = true → (s || (b.any (·.1) || a.any (·.1))) = true) := by
  unfold rawInputs at hx
  simp only [List.mem_append, List.mem_singleton] at hx
  simp only [List.mem_append, List.mem_flatten, List.mem_map]
  rcases hx with (hx | rfl) | hx
  · refine ⟨Or.inr (Or.inl ⟨x.2, ⟨x, hx, rfl⟩, hp⟩), fun e => ?_⟩
    have : b.any (·.1) = true := List.any_eq_true.2 ⟨x, hx, e⟩
    simp [this]
  · exact ⟨Or.inl hp, fun e => by simp at e; simp [e]⟩
  · refine ⟨Or.inr (Or.inr ⟨x.2, ⟨x, hx, rfl⟩, hp⟩), fun e => ?_⟩
    have : a.any (·.1) = true := List.any_eq_true.2 ⟨x, hx, e⟩
    simp [this]

theorem mergeInputs_rows (fill : α → α) (b a : List (Bool × Motl α)) (s : Bool) (l : Motl α) :
    ∀ m ∈ mergeInputs fill b a s l, ∀ p ∈ m,
      ∃ p0 ∈ l ++ ((b.map (·.2)).flatten ++ (a.map (·.2)).flatten),
        Unchanged (if (s || (b.any (·.1) || a.any (·.1))) then fill else (fun v => v)) p0 p := by
  intro m hm p hp
  rw [mergeInputs_eq_map] at hm
  obtain ⟨x, hx, rfl⟩ := List.mem_map.1 hm
  rw [loaded_eq_map] at hp
  obtain ⟨p0, hp0, rfl⟩ := List.mem_map.1 hp
  obtain ⟨hmem, hflag⟩ := mem_rawInputs b a s l x hx p0 hp0
  exact ⟨p0, hmem, unchanged_if_mono fill _ _ hflag p0 _ (fun f _ _ => Or.inr (get_loadRow fill x.1 p0 f))⟩

theorem merged_rows (cmp : Cmp) (fill : α → α) (b a : List (Bool × Motl α)) (s : Bool) (l : Motl α) :
    ∀ q ∈ (mergeBlocks cmp 0 (mergeInputs fill b a s l)).flatten,
      ∃ p ∈ l ++ ((b.map (·.2)).flatten ++ (a.map (·.2)).flatten),
        Unchanged (if (s || (b.any (·.1) || a.any (·.1))) then fill else (fun v => v)) p q := by
  intro q hq
  obtain ⟨m, hm, p2, hp2, h2⟩ := mergeBlocks_flat_rows cmp 0 _ q hq
  obtain ⟨p0, hp0, hu⟩ := mergeInputs_rows fill b a s l m hm p2 hp2
  exact ⟨p0, hp0, fun f hf1 hf2 => by rw [h2 f hf2]; exact hu f hf1 hf2⟩

end ordered
end CryoCat.C08
