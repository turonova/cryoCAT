import CryoCat.Model.C17_Ties
import CryoCat.Lemmas.C17_WF
import CryoCat.Lemmas.Sort
/-! C17 — the operations on the table: ascending arrangements of a table with equal keys (the checker `arrangeOk`, uniqueness up
to the order inside a tie group), and that sorting and removing keep an object well-formed. -/
namespace CryoCat.C17

variable {α : Type}

theorem filterMap_getElem?_range (l : List α) : (List.range l.length).filterMap (fun i => l[i]?) = l := by
  induction l with
  | nil => rfl
  | cons a l ih =>
    rw [List.length_cons, List.range_succ_eq_map, List.filterMap_cons]
    simp only [List.getElem?_cons_zero, List.filterMap_map]
    congr 1

theorem pick_perm (rows : List α) (order : List Nat) (h : order.Perm (List.range rows.length)) : (pick rows order).Perm rows := by
  have := List.Perm.filterMap (fun i => rows[i]?) h
  rw [filterMap_getElem?_range] at this
  exact this

theorem arrangeOk_iff (key : α → Rat) (asc : Bool) (rows : List α) (order : List Nat) :
    arrangeOk key asc rows order = true ↔
      order.Perm (List.range rows.length) ∧ (pick rows order).Pairwise (fun a b => keyLe key asc a b = true) := by
  simp only [arrangeOk, Bool.and_eq_true, decide_eq_true_eq, List.isPerm_iff]

/-- sorting with `keyLe key asc` gives an ascending (for `asc = false`: descending) list -/
theorem pairwise_mergeSort_keyLe (key : α → Rat) (asc : Bool) (l : List α) :
    (l.mergeSort (keyLe key asc)).Pairwise (fun a b => keyLe key asc a b = true) := by
  cases asc
  · exact (Lists.pairwise_mergeSort_of_iff (keyLe key false) (fun a b => key b ≤ key a) (fun _ _ => decide_eq_true_iff)
      (fun _ _ _ h1 h2 => Rat.le_trans h2 h1) (fun _ _ => Rat.le_total) l).imp decide_eq_true
  · exact (Lists.pairwise_mergeSort_of_iff (keyLe key true) (fun a b => key a ≤ key b) (fun _ _ => decide_eq_true_iff)
      (fun _ _ _ => Rat.le_trans) (fun _ _ => Rat.le_total) l).imp decide_eq_true

theorem sortRowsBy_sorted (key : Row → Rat) (asc : Bool) (rows : List Row) :
    (sortRowsBy key asc rows).Perm rows ∧ (sortRowsBy key asc rows).Pairwise (fun a b => keyLe key asc a b = true) :=
  -- `sortRowsBy` sorts with `keyLe key asc`
  ⟨List.mergeSort_perm _ _, pairwise_mergeSort_keyLe key asc rows⟩

/-- **any two ascending arrangements of the same rows differ only inside groups of equal keys** -/
theorem sorted_perm_unique_up_to_ties_gen (key : α → Rat) (l₁ l₂ : List α) (hp : l₁.Perm l₂)
    (h₁ : l₁.Pairwise (fun a b => key a ≤ key b)) (h₂ : l₂.Pairwise (fun a b => key a ≤ key b)) :
    l₁.map key = l₂.map key ∧
    (∀ k : Rat, (l₁.filter (fun r => key r == k)).Perm (l₂.filter (fun r => key r == k))) ∧
    ((∀ a ∈ l₁, ∀ b ∈ l₁, key a = key b → a = b) → l₁ = l₂) := by
  refine ⟨?_, fun k => hp.filter _, ?_⟩
  · apply List.Perm.eq_of_pairwise (le := fun (x y : Rat) => x ≤ y)
    · intro a b _ _ hab hba; exact Rat.le_antisymm hab hba
    · exact List.Pairwise.map key (fun a b h => h) h₁
    · exact List.Pairwise.map key (fun a b h => h) h₂
    · exact hp.map key
  · intro hinj
    apply List.Perm.eq_of_pairwise (le := fun (a b : α) => key a ≤ key b) _ h₁ h₂ hp
    intro a b ha hb hab hba
    exact hinj a ha b (hp.symm.subset hb) (Rat.le_antisymm hab hba)

theorem map_zipIdx_of_fst {α β : Type} (f : α × Nat → β) (g : α → β) (h : ∀ p, f p = g p.1) (l : List α) (n : Nat) :
    (l.zipIdx n).map f = l.map g := by
  rw [show f = g ∘ Prod.fst from funext h, ← List.map_map, List.zipIdx_map_fst]

theorem wf_sort (m : Mdoc) (h : WF m) : WF (sortByTilt false m) := by
  -- the sorted table is a `mergeSort` of the rows
  have hp : (sortByTilt false m).rows.Perm m.rows := List.mergeSort_perm m.rows _
  exact ⟨h.info, h.infoNodup, h.titles, h.sid, h.colKeys, h.colNodup, h.hasTilt, fun r hr => h.rows r (hp.mem_iff.1 hr)⟩

theorem removeImages_some (idxs : List Int) (k : Bool) (m m' : Mdoc) :
    removeImages idxs k m = some m' ↔ ∃ ts, targets idxs k m.rows = some ts ∧
      m' = { m with rows := m.rows.zipIdx.map (fun p => if ts.contains p.2 then { p.1 with removed := true } else p.1) } := by
  unfold removeImages
  cases targets idxs k m.rows <;> simp [eq_comm]

theorem wf_remove (m m' : Mdoc) (idxs : List Int) (k : Bool) (h : WF m) (hr : removeImages idxs k m = some m') : WF m' := by
  obtain ⟨ts, _, rfl⟩ := (removeImages_some idxs k m m').1 hr
  refine ⟨h.info, h.infoNodup, h.titles, h.sid, h.colKeys, h.colNodup, h.hasTilt, fun r hr => ?_⟩
  obtain ⟨p, hp, rfl⟩ := List.mem_map.1 hr
  have hget : m.rows[p.2]? = some p.1 := List.mk_mem_zipIdx_iff_getElem?.1 (by cases p; exact hp)
  -- `goodRow` does not look at the flag
  split <;> exact h.rows p.1 (List.mem_of_getElem? hget)

theorem wf_applyOps : ∀ (ops : List Op) (m m' : Mdoc), WF m → applyOps ops m = some m' → WF m'
  | [], m, m', h, he => by
    simp only [applyOps, Option.some.injEq] at he
    subst he; exact h
  | o :: os, m, m', h, he => by
    rw [applyOps] at he
    obtain ⟨m1, ho, he⟩ := Option.bind_eq_some_iff.1 he
    refine wf_applyOps os m1 m' ?_ he
    cases o with
    | sort =>
      simp only [Op.apply, Option.some.injEq] at ho
      subst ho; exact wf_sort m h
    | remove idxs k => exact wf_remove m m1 idxs k h ho

end CryoCat.C17
