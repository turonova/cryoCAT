import CryoCat.Lemmas.C16_DftN
/-! C16 — a Fourier service with generic content satisfying `IsDFT`: the exact 2 × 3 discrete Fourier transform of
real images over `ℝ` (non-real coefficients, twiddle `e^{-2πi/3} = -1/2 - i√3/2` along `x`, `-1` along `y`, a
non-trivial Hermitian pair `u = 1 ↔ u = 2`).  Makes the image-level theorems of `Props/C16` non-vacuous beyond the
1 × 2 case, where every coefficient is real and every index is its own conjugate partner.

The twiddle tables are the components of the powers of `omegaN 3` and `omegaN 2`; with that, `dft23` is `dftN 2 3` written out
over `ℝ` (`dft23_eq_dftN`) and inherits its laws. -/
namespace CryoCat.C16

noncomputable def s3 : ℝ := Real.sqrt 3
theorem s3_sq : s3 ^ 2 = 3 := Real.sq_sqrt (by norm_num)

noncomputable def cos3 (m : Nat) : ℝ := if m % 3 = 0 then 1 else -1 / 2
noncomputable def sin3 (m : Nat) : ℝ := if m % 3 = 0 then 0 else if m % 3 = 1 then s3 / 2 else -(s3 / 2)
noncomputable def sgn2 (m : Nat) : ℝ := if m % 2 = 0 then 1 else -1

abbrev Img23 := Fin 2 → Fin 3 → ℝ

noncomputable def dft23 : FFT Img23 ℝ 2 3 :=
  { fft2 := fun x v u =>
      ⟨∑ y : Fin 2, ∑ i : Fin 3, sgn2 (v.val * y.val) * cos3 (u.val * i.val) * x y i,
       -∑ y : Fin 2, ∑ i : Fin 3, sgn2 (v.val * y.val) * sin3 (u.val * i.val) * x y i⟩
    ifft2re := fun S y i =>
      (∑ v : Fin 2, ∑ u : Fin 3,
        sgn2 (v.val * y.val) * ((S v u).re * cos3 (u.val * i.val) - (S v u).im * sin3 (u.val * i.val))) / 6 }

/-! the tables `cos3`, `sin3`, `sgn2` are the real and imaginary parts of the powers of the primitive roots of unity
`e^{2πi/3}` and `e^{2πi/2} = -1`: value at `1`, and the addition laws (so `(cos3 m, sin3 m) = (cos, sin)(2π m / 3)`). -/

theorem cos3_one : cos3 1 = Real.cos (2 * Real.pi / 3) := by
  rw [show 2 * Real.pi / 3 = Real.pi - Real.pi / 3 by ring, Real.cos_pi_sub, Real.cos_pi_div_three]
  simp [cos3]; norm_num

theorem sin3_one : sin3 1 = Real.sin (2 * Real.pi / 3) := by
  rw [show 2 * Real.pi / 3 = Real.pi - Real.pi / 3 by ring, Real.sin_pi_sub, Real.sin_pi_div_three]
  simp [sin3, s3]

theorem sgn2_eq_pow (m : Nat) : sgn2 m = (-1) ^ m := by
  unfold sgn2
  rw [neg_one_pow_eq_pow_mod_two]
  rcases Nat.mod_two_eq_zero_or_one m with h | h <;> simp [h]

theorem sgn2_add (a b : Nat) : sgn2 (a + b) = sgn2 a * sgn2 b := by
  simp only [sgn2_eq_pow, pow_add]

theorem omegaN_two_pow (m : Nat) : omegaN 2 ^ m = ((sgn2 m : ℝ) : ℂ) := by
  have h : omegaN 2 = -1 := by
    rw [omegaN, show 2 * (Real.pi : ℂ) * Complex.I / (2 : ℕ) = Real.pi * Complex.I by push_cast; ring,
      Complex.exp_pi_mul_I, inv_neg_one]
  rw [h, sgn2_eq_pow]
  simp only [Complex.ofReal_pow, Complex.ofReal_neg, Complex.ofReal_one]

theorem omegaN_three : omegaN 3 = ⟨cos3 1, -sin3 1⟩ := by
  rw [omegaN_eq, cos3_one, sin3_one, ← Real.cos_neg, ← Real.sin_neg,
    show -(2 * (Real.pi : ℂ) * Complex.I / (3 : ℕ)) = ((-(2 * Real.pi / 3) : ℝ) : ℂ) * Complex.I by push_cast; ring]
  exact Complex.ext (Complex.exp_ofReal_mul_I_re _) (Complex.exp_ofReal_mul_I_im _)

/-- only the residue of `m` matters because `ω₃³ = 1`, and the three residues are `1`, `ω₃`, `ω₃²` -/
theorem omegaN_three_pow (m : Nat) : omegaN 3 ^ m = ⟨cos3 m, -sin3 m⟩ := by
  have hm : m % 3 = 0 ∨ m % 3 = 1 ∨ m % 3 = 2 := by omega
  rw [pow_eq_pow_mod m (omegaN_pow_n (by decide : 0 < 3)), omegaN_three]
  unfold cos3 sin3
  rcases hm with h | h | h <;> rw [h]
  · apply Complex.ext <;> simp
  · apply Complex.ext <;> simp
  · apply Complex.ext <;> simp [sq]
    · linear_combination (-1 / 4) * s3_sq
    · ring

theorem cos3_sin3_add (a b : Nat) :
    cos3 (a + b) = cos3 a * cos3 b - sin3 a * sin3 b ∧ sin3 (a + b) = sin3 a * cos3 b + cos3 a * sin3 b := by
  have h : omegaN 3 ^ (a + b) = omegaN 3 ^ a * omegaN 3 ^ b := pow_add _ _ _
  rw [omegaN_three_pow, omegaN_three_pow, omegaN_three_pow] at h
  have hr := congrArg Complex.re h
  have hi := congrArg Complex.im h
  simp only [Complex.mul_re, Complex.mul_im] at hr hi
  constructor <;> linarith

theorem dft23_fft2 (x : Img23) (v : Fin 2) (u : Fin 3) : dft23.fft2 x v u = (dftN 2 3).fft2 x v u := by
  have t : ∀ (y : Fin 2) (i : Fin 3),
      (x y i : ℂ) * omegaN 2 ^ (y.val * v.val) * omegaN 3 ^ (i.val * u.val)
        = ⟨sgn2 (v.val * y.val) * cos3 (u.val * i.val) * x y i, -(sgn2 (v.val * y.val) * sin3 (u.val * i.val) * x y i)⟩ := by
    intro y i
    rw [omegaN_two_pow, omegaN_three_pow, mul_comm y.val, mul_comm i.val]
    apply Complex.ext <;> simp <;> ring
  simp only [dftN_fft2_eq, dft2_apply, t, ofC, Complex.re_sum, Complex.im_sum, Finset.sum_neg_distrib]
  rfl

theorem dft23_ifft2re (S : Spec ℝ 2 3) (y : Fin 2) (i : Fin 3) : dft23.ifft2re S y i = (dftN 2 3).ifft2re S y i := by
  have t : ∀ (v : Fin 2) (u : Fin 3),
      ((⟨(S v u).re, (S v u).im⟩ : ℂ) * (omegaN 2 ^ (v.val * y.val))⁻¹ * (omegaN 3 ^ (u.val * i.val))⁻¹).re
        = sgn2 (v.val * y.val) * ((S v u).re * cos3 (u.val * i.val) - (S v u).im * sin3 (u.val * i.val)) := by
    intro v u
    rw [omegaN_pow_inv, omegaN_pow_inv, omegaN_two_pow, omegaN_three_pow]
    simp
    ring
  have h6 : (((2 : ℕ) : ℂ) * ((3 : ℕ) : ℂ))⁻¹ = (((6 : ℝ)⁻¹ : ℝ) : ℂ) := by push_cast; norm_num
  rw [dftN_ifft2re_apply, h6, Complex.re_ofReal_mul]
  simp only [Complex.re_sum, t]
  exact div_eq_inv_mul _ _

theorem dft23_eq_dftN : dft23 = dftN 2 3 :=
  congrArg₂ FFT.mk (funext₃ dft23_fft2) (funext₃ dft23_ifft2re)

theorem dft23_isDFT : IsDFT dft23 := dft23_eq_dftN ▸ dftN_isDFT (by decide) (by decide)

end CryoCat.C16
