import CryoCat.Model.C11_Bytes
import CryoCat.Lemmas.C11
/-! C11 — the byte-level container model (core Lean only): words in a byte order and back; a header is `(List.range n).map f`, so byte
`i` is `f i` and the payload starts at `n`; what each decoder reads in a header (`MrcReads`, `EmReads`), that it decodes any bytes
with these reads, and that an encoded header has them. -/
namespace CryoCat.C11

theorem length_leBytes (w n : Nat) : (leBytes w n).length = w := by
  induction w generalizing n with
  | zero => rfl
  | succ w ih => simp [leBytes, ih]

theorem ofLe_leBytes (w n : Nat) (h : n < 256 ^ w) : ofLe (leBytes w n) = n := by
  induction w generalizing n with
  | zero => simp at h; subst h; rfl
  | succ w ih =>
    have h' : n / 256 < 256 ^ w := by
      apply Nat.div_lt_of_lt_mul
      rw [Nat.pow_succ, Nat.mul_comm] at h; exact h
    simp only [leBytes, ofLe, ih _ h', UInt8.toNat_ofNat']
    omega

theorem length_wordBytes (be : Bool) (w n : Nat) : (wordBytes be w n).length = w := by
  cases be <;> simp [wordBytes, length_leBytes]

theorem wordOf_wordBytes (be : Bool) (w n : Nat) (h : n < 256 ^ w) : wordOf be (wordBytes be w n) = n := by
  cases be <;> simp [wordOf, wordBytes, ofLe_leBytes w n h]

theorem length_encodeWords (be : Bool) (w : Nat) (ws : List Nat) : (encodeWords be w ws).length = ws.length * w :=
  Layout.length_flatMap_blocks fun x _ => length_wordBytes be w x

theorem encodeWords_chunk (be : Bool) (w : Nat) (ws : List Nat) (m : Nat) (hm : m < ws.length) :
    ((encodeWords be w ws).drop (m * w)).take w = wordBytes be w ws[m] :=
  Layout.take_drop_flatMap_blocks (fun x _ => length_wordBytes be w x) hm

/-! A header is `(List.range n).map f`: byte `i` is `f i`. -/

theorem byteAt_hdr (n : Nat) (f : Nat → UInt8) (p : List UInt8) (i : Nat) (h : i < n) :
    byteAt ((List.range n).map f ++ p).toArray i = f i := by
  simp only [byteAt, Array.getD, List.size_toArray, List.length_append, List.length_map, List.length_range]
  rw [dif_pos (by omega)]
  simp [List.getElem_append_left, h]

theorem size_hdr (n : Nat) (f : Nat → UInt8) (p : List UInt8) : ((List.range n).map f ++ p).toArray.size = n + p.length := by
  simp

theorem encodeWords_chunk_hdr (n : Nat) (f : Nat → UInt8) (be : Bool) (w : Nat) (ws : List Nat) (m : Nat) (hm : m < ws.length) :
    (((List.range n).map f ++ encodeWords be w ws).drop (n + m * w)).take w = wordBytes be w ws[m] := by
  rw [show n + m * w = ((List.range n).map f).length + m * w by rw [List.length_map, List.length_range],
    List.drop_length_add_append]
  exact encodeWords_chunk be w ws m hm

theorem decodeWords_hdr (n : Nat) (f : Nat → UInt8) (be : Bool) (w : Nat) (ws : List Nat) (hw : ∀ x ∈ ws, x < 256 ^ w) :
    decodeWords be w ws.length ((List.range n).map f ++ encodeWords be w ws).toArray n = ws := by
  apply List.ext_getElem
  · simp [decodeWords]
  · intro i h1 h2
    simp only [decodeWords, List.getElem_map, List.getElem_range, Array.toList_extract, List.extract_eq_drop_take']
    rw [List.drop_take, Nat.add_sub_cancel_left, encodeWords_chunk_hdr n f be w ws i h2,
      wordOf_wordBytes be w _ (hw _ (List.getElem_mem h2))]

theorem fieldBytes_eq (be : Bool) (off v : Nat) :
    [fieldByte be off v off, fieldByte be off v (off + 1), fieldByte be off v (off + 2), fieldByte be off v (off + 3)]
      = wordBytes be 4 v := by
  simp only [fieldByte, Nat.sub_self, Nat.add_sub_cancel_left]
  cases be <;> rfl

theorem i32At_hdr (be : Bool) (n : Nat) (f : Nat → UInt8) (p : List UInt8) (off v : Nat) (hv : v < 2 ^ 32) (ho : off + 3 < n)
    (h0 : f off = fieldByte be off v off) (h1 : f (off + 1) = fieldByte be off v (off + 1))
    (h2 : f (off + 2) = fieldByte be off v (off + 2)) (h3 : f (off + 3) = fieldByte be off v (off + 3)) :
    i32At be ((List.range n).map f ++ p).toArray off = v := by
  unfold i32At
  rw [byteAt_hdr n f p off (by omega), byteAt_hdr n f p (off + 1) (by omega), byteAt_hdr n f p (off + 2) (by omega),
    byteAt_hdr n f p (off + 3) (by omega), h0, h1, h2, h3, fieldBytes_eq]
  exact wordOf_wordBytes be 4 v hv

theorem fieldByte_zero (be : Bool) (off i : Nat) : fieldByte be off 0 i = 0 := by
  have hw : wordBytes be 4 0 = [0, 0, 0, 0] := by cases be <;> rfl
  rw [fieldByte, hw]
  match i - off with
  | 0 | 1 | 2 | 3 => rfl
  | k + 4 => rfl

theorem mrcMode_roundtrip (c : Code) (h : c.mrcMode? ≠ none) : Code.ofMrcMode? (c.mrcMode?.getD 0) = some c := by
  cases c <;> first | rfl | exact absurd rfl h

theorem emType_roundtrip (c : Code) (h : c.emType? ≠ none) :
    Code.ofEmType? (UInt8.ofNat (c.emType?.getD 0)).toNat = some c := by
  cases c <;> first | rfl | exact absurd rfl h

theorem dtype?_code (dt : DType) : dt.code.dtype? = some dt := by cases dt <;> rfl

theorem mrcMode_lt (c : Code) : c.mrcMode?.getD 0 < 2 ^ 32 := by cases c <;> decide

/-- the header fields `decodeMrc` looks at hold the fields of `r`: `nx ny nz mode`, `mapc mapr maps = 1 2 3`,
`nsymbt = 0`, `'MAP '`, the machine stamp -/
def MrcReads (A : Array UInt8) (r : Raw) : Prop :=
  i32At r.bigEndian A 0 = r.nx ∧ i32At r.bigEndian A 4 = r.ny ∧ i32At r.bigEndian A 8 = r.nz ∧
  i32At r.bigEndian A 12 = r.code.mrcMode?.getD 0 ∧
  i32At r.bigEndian A 64 = 1 ∧ i32At r.bigEndian A 68 = 2 ∧ i32At r.bigEndian A 72 = 3 ∧ i32At r.bigEndian A 92 = 0 ∧
  [byteAt A 208, byteAt A 209, byteAt A 210, byteAt A 211] = [77, 65, 80, 32] ∧
  mrcStamp? (byteAt A 212) (byteAt A 213) = some r.bigEndian

/-- the header fields `decodeEm` looks at hold the fields of `r`: the machine byte, the type code, `nx ny nz` -/
def EmReads (A : Array UInt8) (r : Raw) : Prop :=
  emMachine? (byteAt A 0) = some r.bigEndian ∧ byteAt A 3 = UInt8.ofNat (r.code.emType?.getD 0) ∧
  i32At r.bigEndian A 4 = r.nx ∧ i32At r.bigEndian A 8 = r.ny ∧ i32At r.bigEndian A 12 = r.nz

theorem decodeMrc_of_reads (A : Array UInt8) (r : Raw) (hk : r.kind = .mrc) (hc : r.code.mrcMode? ≠ none)
    (hx : r.nx < 2 ^ 31) (hy : r.ny < 2 ^ 31) (hz : r.nz < 2 ^ 31)
    (hsize : A.size = 1024 + r.nx * r.ny * r.nz * r.code.width) (hr : MrcReads A r)
    (fwords : decodeWords r.bigEndian r.code.width (r.nx * r.ny * r.nz) A 1024 = r.words) :
    decodeMrc A = some r := by
  obtain ⟨fnx, fny, fnz, fmode, fc, fr, fs, fsym, ftag, fstamp⟩ := hr
  have n1 : ¬ (1024 + r.nx * r.ny * r.nz * r.code.width < 1024) := by omega
  have n2 : ¬ (2 ^ 31 ≤ r.nx ∨ 2 ^ 31 ≤ r.ny ∨ 2 ^ 31 ≤ r.nz ∨ 2 ^ 31 ≤ 0) := by omega
  unfold decodeMrc
  simp only [ftag, fstamp, fnx, fny, fnz, fmode, mrcMode_roundtrip r.code hc, fc, fr, fs, fsym, hsize, mrcHeaderSize,
    Nat.add_zero, fwords, n1, n2, if_false, ne_eq, not_true_eq_false]
  cases r; cases hk; rfl

theorem decodeEm_of_reads (A : Array UInt8) (r : Raw) (hk : r.kind = .em) (hc : r.code.emType? ≠ none)
    (hx : r.nx < 2 ^ 31) (hy : r.ny < 2 ^ 31) (hz : r.nz < 2 ^ 31)
    (hsize : A.size = 512 + r.nx * r.ny * r.nz * r.code.width) (hr : EmReads A r)
    (fwords : decodeWords r.bigEndian r.code.width (r.nx * r.ny * r.nz) A 512 = r.words) :
    decodeEm A = some r := by
  obtain ⟨fmach, fcode, fnx, fny, fnz⟩ := hr
  have n1 : ¬ (512 + r.nx * r.ny * r.nz * r.code.width < 512) := by omega
  have n2 : ¬ (2 ^ 31 ≤ r.nx ∨ 2 ^ 31 ≤ r.ny ∨ 2 ^ 31 ≤ r.nz) := by omega
  unfold decodeEm
  simp only [fmach, fcode, emType_roundtrip r.code hc, fnx, fny, fnz, hsize, emHeaderSize, fwords, n1, n2, if_false, ne_eq,
    not_true_eq_false]
  cases r; cases hk; rfl

theorem decodeMrc_none_of_tag (A : Array UInt8) (h : byteAt A 208 ≠ 77) : decodeMrc A = none := by
  rw [decodeMrc]
  by_cases hs : A.size < mrcHeaderSize
  · rw [if_pos hs]
  · rw [if_neg hs, if_pos fun e => h (List.cons.inj e).1]

theorem decodeEm_none_of_code (A : Array UInt8)
    (h : emMachine? (byteAt A 0) = none ∨ Code.ofEmType? (byteAt A 3).toNat = none) : decodeEm A = none := by
  rw [decodeEm]
  by_cases hs : A.size < emHeaderSize
  · rw [if_pos hs]
  · rw [if_neg hs]
    rcases h with h | h
    · rw [h]
    · rw [h]; cases emMachine? (byteAt A 0) <;> rfl

/-! In the headers `encodeMrc` / `encodeEm` write the offsets are literals, so byte `i` evaluates (`rfl`) to the byte of
the field that covers it. -/

theorem encodeMrc_byteAt (r : Raw) (i : Nat) (h : i < 1024) : byteAt (encodeMrc r).toArray i = mrcHdrByte r i :=
  byteAt_hdr 1024 _ _ i h

theorem encodeEm_byteAt (r : Raw) (i : Nat) (h : i < 512) : byteAt (encodeEm r).toArray i = emHdrByte r i :=
  byteAt_hdr 512 _ _ i h

theorem encodeMrc_reads (r : Raw) (hx : r.nx < 2 ^ 32) (hy : r.ny < 2 ^ 32) (hz : r.nz < 2 ^ 32) :
    MrcReads (encodeMrc r).toArray r := by
  unfold MrcReads
  have F := i32At_hdr r.bigEndian 1024 (mrcHdrByte r) (encodeWords r.bigEndian r.code.width r.words)
  have Z := fun i => (fieldByte_zero r.bigEndian 92 i).symm
  refine ⟨F 0 _ hx (by decide) rfl rfl rfl rfl, F 4 _ hy (by decide) rfl rfl rfl rfl, F 8 _ hz (by decide) rfl rfl rfl rfl,
    F 12 _ (mrcMode_lt r.code) (by decide) rfl rfl rfl rfl, F 64 1 (by decide) (by decide) rfl rfl rfl rfl,
    F 68 2 (by decide) (by decide) rfl rfl rfl rfl, F 72 3 (by decide) (by decide) rfl rfl rfl rfl,
    F 92 0 (by decide) (by decide) (Z _) (Z _) (Z _) (Z _), ?_, ?_⟩
  · rw [encodeMrc_byteAt r 208 (by decide), encodeMrc_byteAt r 209 (by decide), encodeMrc_byteAt r 210 (by decide),
      encodeMrc_byteAt r 211 (by decide)]; rfl
  · rw [encodeMrc_byteAt r 212 (by decide), encodeMrc_byteAt r 213 (by decide)]
    obtain ⟨_, be, _, _, _, _, _⟩ := r
    cases be <;> rfl

theorem encodeEm_reads (r : Raw) (hx : r.nx < 2 ^ 32) (hy : r.ny < 2 ^ 32) (hz : r.nz < 2 ^ 32) :
    EmReads (encodeEm r).toArray r := by
  unfold EmReads
  have F := i32At_hdr r.bigEndian 512 (emHdrByte r) (encodeWords r.bigEndian r.code.width r.words)
  refine ⟨?_, encodeEm_byteAt r 3 (by decide), F 4 _ hx (by decide) rfl rfl rfl rfl, F 8 _ hy (by decide) rfl rfl rfl rfl,
    F 12 _ hz (by decide) rfl rfl rfl rfl⟩
  rw [encodeEm_byteAt r 0 (by decide)]
  obtain ⟨_, be, _, _, _, _, _⟩ := r
  cases be <;> rfl

theorem encodeMrc_size (r : Raw) : (encodeMrc r).toArray.size = 1024 + r.words.length * r.code.width := by
  rw [encodeMrc, size_hdr, length_encodeWords]; rfl

theorem encodeEm_size (r : Raw) : (encodeEm r).toArray.size = 512 + r.words.length * r.code.width := by
  rw [encodeEm, size_hdr, length_encodeWords]; rfl

end CryoCat.C11
