/-! The greedy pass behind C07 (`C07.suppress`: distance cleaning, peak extraction) and C20 (`C20.greedy`: one-to-one
assignment): walk a list, keep an item unless an already kept one blocks it. `Greedy.step near` is, by unfolding,
`C07.suppressStep near` and, for `near a c := a.s == c.s || a.t == c.t`, `C20.step`; the invariants of the fold are
proved here once, for every start list `kept`. Core Lean only. -/
namespace CryoCat.Greedy
variable {P : Type} (near : P → P → Bool)

def step (kept : List P) (c : P) : List P := if kept.any (fun a => near a c) then kept else kept ++ [c]

theorem step_append_sublist (kept : List P) (c : P) (l : List P) : (step near kept c ++ l).Sublist (kept ++ c :: l) := by
  unfold step
  split
  · exact (List.sublist_cons_self c l).append_left kept
  · simp

theorem step_mono (kept : List P) (c : P) : ∀ a ∈ kept, a ∈ step near kept c := by
  intro a ha; unfold step; split
  · exact ha
  · exact List.mem_append_left _ ha

theorem foldl_mono (l kept : List P) : ∀ a ∈ kept, a ∈ l.foldl (step near) kept := by
  induction l generalizing kept with
  | nil => exact fun a ha => ha
  | cons c cs ih => exact fun a ha => ih _ a (step_mono near kept c a ha)

theorem foldl_sublist (l kept : List P) : (l.foldl (step near) kept).Sublist (kept ++ l) := by
  induction l generalizing kept with
  | nil => simp
  | cons c cs ih => exact (ih _).trans (step_append_sublist near kept c cs)

theorem step_separated (kept : List P) (c : P) (h : kept.Pairwise (fun a b => near a b = false)) :
    (step near kept c).Pairwise (fun a b => near a b = false) := by
  unfold step
  split
  · exact h
  · rename_i hn
    rw [List.any_eq_true] at hn
    refine List.pairwise_append.2 ⟨h, List.pairwise_singleton _ _, fun a ha b hb => ?_⟩
    rw [List.mem_singleton.1 hb]
    exact Bool.eq_false_iff.2 fun e => hn ⟨a, ha, e⟩

theorem foldl_separated (l kept : List P) (h : kept.Pairwise (fun a b => near a b = false)) :
    (l.foldl (step near) kept).Pairwise (fun a b => near a b = false) := by
  induction l generalizing kept with
  | nil => exact h
  | cons c cs ih => exact ih _ (step_separated near kept c h)

/-- `R` is any relation that holds from earlier to later items, e.g. "has an equal or better score" -/
theorem foldl_dominated (R : P → P → Prop) (l kept : List P) (hR : (kept ++ l).Pairwise R) :
    ∀ c ∈ l, c ∈ l.foldl (step near) kept ∨ ∃ a ∈ l.foldl (step near) kept, near a c = true ∧ R a c := by
  induction l generalizing kept with
  | nil => exact fun c hc => nomatch hc
  | cons c0 cs ih =>
    intro c hc
    rcases List.mem_cons.1 hc with rfl | hc
    · by_cases hb : kept.any (fun a => near a c) = true
      · obtain ⟨a, ha, h⟩ := List.any_eq_true.1 hb
        exact Or.inr ⟨a, foldl_mono near cs _ a (step_mono near kept c a ha), h,
          (List.pairwise_append.1 hR).2.2 a ha c List.mem_cons_self⟩
      · exact Or.inl (foldl_mono near cs _ c (by rw [step, if_neg hb]; exact List.mem_append_right _ (List.mem_singleton_self c)))
    · exact ih _ (hR.sublist (step_append_sublist near kept c0 cs)) c hc

theorem foldl_of_separated (kept l : List P) (h : (kept ++ l).Pairwise (fun a b => near a b = false)) :
    l.foldl (step near) kept = kept ++ l := by
  induction l generalizing kept with
  | nil => simp
  | cons c cs ih =>
    have hc : ¬ kept.any (fun a => near a c) = true := by
      rw [List.any_eq_true]
      rintro ⟨a, ha, e⟩
      exact Bool.false_ne_true (((List.pairwise_append.1 h).2.2 a ha c List.mem_cons_self).symm.trans e)
    rw [List.foldl_cons, step, if_neg hc, ih _ (by rwa [List.append_assoc]), List.append_assoc]
    rfl

end CryoCat.Greedy
