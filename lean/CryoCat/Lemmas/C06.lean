import CryoCat.Model.C06
import CryoCat.Lemmas.M3
import Mathlib.Tactic.Ring
import Mathlib.Tactic.LinearCombination
import Mathlib.Tactic.Positivity
import Mathlib.Algebra.Order.Field.Basic
/-! C06 — the model without trigonometry: a table look-up, then the quaternion algebra over a commutative ring,
Cauchy–Schwarz with its equality case and the clamp over an ordered field. -/
namespace CryoCat.C06

/-- a `rotation_type` that labels no branch of the table raises -/
theorem compareRotations_eq_none {α : Type} (table : List (String × List String)) (t : String) (v : Prims α)
    (h : t ∉ table.map Prod.fst) : compareRotations table t v = none := by
  have hf : table.find? (fun e => e.1 == t) = none :=
    List.find?_eq_none.2 fun e he hk => h (List.mem_map.2 ⟨e, he, eq_of_beq hk⟩)
  rw [compareRotations, hf]

section ring
variable {α : Type} [CommRing α]

theorem qmul_def (p q : Q4 α) : p * q = qmul p q := rfl

theorem qnormSq_mul (p q : Q4 α) : qnormSq (p * q) = qnormSq p * qnormSq q := by
  simp only [qmul_def, qmul, qdot, qnormSq]; ring

theorem qmul_assoc (p q r : Q4 α) : p * q * r = p * (q * r) := by
  ext <;> simp only [qmul_def, qmul] <;> ring

theorem toM3_mul' (p q : Q4 α) : toM3 (p * q) = toM3 p * toM3 q := by
  ext <;> simp only [qmul_def, qmul, toM3, M3.mul_def, M3.mul] <;> ring

theorem toM3_conj (q : Q4 α) : toM3 (qconj q) = (toM3 q).transpose := by
  ext <;> simp only [qconj, toM3, M3.transpose] <;> ring

theorem toM3_neg (q : Q4 α) : toM3 (qneg q) = toM3 q := by
  ext <;> simp only [qneg, toM3] <;> ring

theorem conj_mul_w (p q : Q4 α) : (qconj p * q).w = qdot p q := by
  simp only [qmul_def, qmul, qconj, qdot]; ring

theorem conj_mul_self (q : Q4 α) : qconj q * q = ⟨0, 0, 0, qnormSq q⟩ := by
  ext <;> simp only [qmul_def, qmul, qconj, qdot, qnormSq] <;> ring

theorem toM3_real (w : α) : toM3 (⟨0, 0, 0, w⟩ : Q4 α) = ⟨w*w,0,0, 0,w*w,0, 0,0,w*w⟩ := by
  ext <;> simp only [toM3] <;> ring

theorem toM3_orth' (q : Q4 α) (h : qnormSq q = 1) : (toM3 q).Orth := by
  unfold M3.Orth
  rw [← toM3_conj, ← toM3_mul', conj_mul_self, h, toM3_real]
  ext <;> simp [M3.one]

theorem qnormSq_conj (p : Q4 α) : qnormSq (qconj p) = qnormSq p := by
  simp only [qnormSq, qdot, qconj]; ring

theorem trace_toM3 (q : Q4 α) : M3.trace (toM3 q) = 4 * (q.w * q.w) - qnormSq q := by
  simp only [M3.trace, toM3, qnormSq, qdot]; ring

theorem trace_rel' (p q : Q4 α) :
    M3.trace ((toM3 p).transpose * toM3 q) = 4 * (qdot p q * qdot p q) - qnormSq p * qnormSq q := by
  rw [← toM3_conj, ← toM3_mul', trace_toM3, conj_mul_w, qnormSq_mul, qnormSq_conj]

theorem lagrange4 (p q : Q4 α) :
    qnormSq p * qnormSq q - qdot p q * qdot p q
      = (p.x*q.y - p.y*q.x)^2 + (p.x*q.z - p.z*q.x)^2 + (p.x*q.w - p.w*q.x)^2
        + (p.y*q.z - p.z*q.y)^2 + (p.y*q.w - p.w*q.y)^2 + (p.z*q.w - p.w*q.z)^2 := by
  simp only [qnormSq, qdot]; ring

theorem toM3_qz (c s : α) (h : c*c + s*s = 1) : toM3 (qz c s) = rz (c*c - s*s) (2*c*s) := by
  ext <;> simp only [toM3, qz, rz, ← h] <;> ring
theorem toM3_qx (c s : α) (h : c*c + s*s = 1) : toM3 (qx c s) = rx (c*c - s*s) (2*c*s) := by
  ext <;> simp only [toM3, qx, rx, ← h] <;> ring

/-- `c`, `s` are cos and sin of the half angles: `cos 2h = c²−s²`, `sin 2h = 2cs` -/
theorem toM3_qzxz' (cp sp ct st cs ss : α) (hp : cp*cp + sp*sp = 1) (ht : ct*ct + st*st = 1) (hs : cs*cs + ss*ss = 1) :
    toM3 (qzxz cp sp ct st cs ss)
      = zxz (cp*cp - sp*sp) (2*cp*sp) (ct*ct - st*st) (2*ct*st) (cs*cs - ss*ss) (2*cs*ss) := by
  unfold qzxz zxz
  rw [toM3_mul', toM3_mul', toM3_qz _ _ hp, toM3_qx _ _ ht, toM3_qz _ _ hs]

theorem qnormSq_qz (c s : α) : qnormSq (qz c s) = c*c + s*s := by simp only [qnormSq, qdot, qz]; ring
theorem qnormSq_qx (c s : α) : qnormSq (qx c s) = c*c + s*s := by simp only [qnormSq, qdot, qx]; ring
theorem qnormSq_qzxz (cp sp ct st cs ss : α) (hp : cp*cp + sp*sp = 1) (ht : ct*ct + st*st = 1) (hs : cs*cs + ss*ss = 1) :
    qnormSq (qzxz cp sp ct st cs ss) = 1 := by
  unfold qzxz
  rw [qnormSq_mul, qnormSq_mul, qnormSq_qz, qnormSq_qx, qnormSq_qz, hp, ht, hs]; ring

theorem zaxisOfEuler_eq (cp sp ct st cs ss : α) :
    zaxisOfEuler cp sp ct st cs ss = ⟨ss * st, -(cs * st), ct⟩ := by
  rw [zaxisOfEuler, M3.apply_ez, zxz_col3]

theorem qdot_neg_left (p q : Q4 α) : qdot (qneg p) q = -qdot p q := by
  simp only [qdot, qneg]; ring

theorem qnormSq_neg (p : Q4 α) : qnormSq (qneg p) = qnormSq p := by
  simp only [qnormSq, qdot, qneg]; ring

end ring

theorem absv_eq_abs {α : Type} [AddGroup α] [LinearOrder α] (x : α) : absv x = |x| :=
  abs_eq_max_neg.symm

theorem angDist_congr {α : Type} [Field α] [LinearOrder α] (L : Libm α) {p q p' q' : Q4 α} (h : qdot p q = qdot p' q') :
    angDist L p q = angDist L p' q' := by
  simp only [angDist, angDistRad, absDot, h]

section field
variable {α : Type} [Field α] [LinearOrder α] [IsStrictOrderedRing α]

theorem qdot_sq_le (p q : Q4 α) : qdot p q * qdot p q ≤ qnormSq p * qnormSq q := by
  rw [← sub_nonneg, lagrange4]; positivity

theorem qdot_sq_le_one (p q : Q4 α) (hp : qnormSq p = 1) (hq : qnormSq q = 1) : qdot p q * qdot p q ≤ 1 := by
  have h := qdot_sq_le p q
  rwa [hp, hq, one_mul] at h

theorem qnormSq_eq_zero (r : Q4 α) (h : qnormSq r = 0) : r.x = 0 ∧ r.y = 0 ∧ r.z = 0 ∧ r.w = 0 := by
  have n2 : ∀ a b : α, 0 ≤ a * a + b * b := fun a b => add_nonneg (mul_self_nonneg a) (mul_self_nonneg b)
  rw [qnormSq, qdot, add_assoc, add_eq_zero_iff_of_nonneg (n2 _ _) (n2 _ _), mul_self_add_mul_self_eq_zero,
    mul_self_add_mul_self_eq_zero] at h
  exact ⟨h.1.1, h.1.2, h.2.1, h.2.2⟩

/-- `|q − p|² = |p|² + |q|² − 2 p·q` -/
theorem eq_of_qdot_eq_one (p q : Q4 α) (hp : qnormSq p = 1) (hq : qnormSq q = 1) (h : qdot p q = 1) : q = p := by
  have hd : qnormSq ⟨q.x - p.x, q.y - p.y, q.z - p.z, q.w - p.w⟩ = 0 := by
    simp only [qnormSq, qdot] at hp hq h ⊢
    linear_combination hp + hq - 2 * h
  obtain ⟨hx, hy, hz, hw⟩ := qnormSq_eq_zero _ hd
  exact Q4.ext' (sub_eq_zero.1 hx) (sub_eq_zero.1 hy) (sub_eq_zero.1 hz) (sub_eq_zero.1 hw)

/-- the case `p·q = −1` is the case `+1` at `−p` -/
theorem eq_or_neg_of_qdot_sq (p q : Q4 α) (hp : qnormSq p = 1) (hq : qnormSq q = 1)
    (h : qdot p q * qdot p q = 1) : q = p ∨ q = qneg p := by
  have hd : (qdot p q - 1) * (qdot p q + 1) = 0 := by linear_combination h
  rcases mul_eq_zero.1 hd with h1 | h1
  · exact Or.inl (eq_of_qdot_eq_one p q hp hq (sub_eq_zero.1 h1))
  · refine Or.inr (eq_of_qdot_eq_one (qneg p) q ((qnormSq_neg p).trans hp) hq ?_)
    rw [qdot_neg_left]; linear_combination -h1

/-- equal matrices: the relative rotation is the identity, of trace 3 = 4(p·q)² − 1 -/
theorem qdot_sq_of_toM3_eq (p q : Q4 α) (hp : qnormSq p = 1) (hq : qnormSq q = 1) (h : toM3 p = toM3 q) :
    qdot p q * qdot p q = 1 := by
  have t := trace_rel' p q
  rw [← h, (toM3_orth' p hp : (toM3 p).transpose * toM3 p = M3.one), hp, hq] at t
  simp only [M3.trace, M3.one] at t
  linear_combination -t / 4

theorem absDot_mem (p q : Q4 α) : 0 ≤ absDot p q ∧ absDot p q ≤ 1 := by
  simp only [absDot, absv_eq_abs]
  exact ⟨le_min (abs_nonneg _) zero_le_one, min_le_right _ _⟩

theorem absDot_eq_abs (p q : Q4 α) (h : qdot p q * qdot p q ≤ 1) : absDot p q = |qdot p q| := by
  simp only [absDot, absv_eq_abs]
  exact min_eq_left (abs_le_one_iff_mul_self_le_one.2 h)
end field
end CryoCat.C06
