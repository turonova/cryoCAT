import CryoCat.Lemmas.C15_ops
import CryoCat.Lemmas.Text
import Mathlib.Tactic.Ring
import Mathlib.Data.List.Forall2
import Mathlib.Tactic.Push
import Mathlib.Data.Rat.Defs
/-! C15 — helper lemmas about the tilt-angle sources: exact decimal parsing (`parseDec`), the rational order,
stability of the model's `argsort`. -/
namespace CryoCat.C15
variable {α β ι κ : Type}

theorem ratLe_trans (a b c : Rat) : ratLe a b = true → ratLe b c = true → ratLe a c = true := by
  simp only [ratLe, decide_eq_true_eq]; exact Rat.le_trans

theorem ratLe_total (a b : Rat) : (ratLe a b || ratLe b a) = true := by
  simp only [ratLe, Bool.or_eq_true, decide_eq_true_eq]; exact Rat.le_total

theorem ratLe_antisymm (a b : Rat) : ratLe a b = true → ratLe b a = true → a = b := by
  simp only [ratLe, decide_eq_true_eq]; exact fun h1 h2 => Rat.le_antisymm h1 h2

theorem parseAll_spec : ∀ (lines : List String) (keys : List Rat), parseAll lines = some keys →
    List.Forall₂ (fun s q => parseDec s = some q) lines keys
  | [], keys, h => by cases h; exact .nil
  | s :: t, keys, h => by
    unfold parseAll at h
    split at h
    · rename_i q qs hs ht
      cases h
      exact .cons hs (parseAll_spec t qs ht)
    · cases h

theorem parseAll_length (lines : List String) (keys : List Rat) (h : parseAll lines = some keys) :
    keys.length = lines.length := (parseAll_spec lines keys h).length_eq.symm

theorem parseAll_of_forall₂ : ∀ (lines : List String) (keys : List Rat),
    List.Forall₂ (fun s q => parseDec s = some q) lines keys → parseAll lines = some keys
  | _, _, .nil => rfl
  | _, _, .cons hs ht => by simp only [parseAll, hs, parseAll_of_forall₂ _ _ ht]

/-- `natOfDigits` unfolds to core's `Nat.ofDigitChars 10 · 0` -/
theorem natOfDigits_append (a b : List Char) :
    natOfDigits (a ++ b) = 10 ^ b.length * natOfDigits a + natOfDigits b := Text.ofDigitChars_append a b

theorem parseUnsigned_decimal (ip fp : List Char) (hip : ∀ c ∈ ip, c.isDigit = true) (hfp : ∀ c ∈ fp, c.isDigit = true)
    (hne : ip ≠ []) :
    parseUnsigned (ip ++ '.' :: fp) = some ((natOfDigits ip : Rat) + (natOfDigits fp : Rat) / (10 : Rat) ^ fp.length) := by
  obtain ⟨h1, h2⟩ := Text.span_run hip (Text.stops_cons (p := Char.isDigit) (x := '.') rfl fp)
  have hall : fp.all Char.isDigit = true := List.all_eq_true.2 hfp
  have hemp : ip.isEmpty = false := List.isEmpty_eq_false_iff.2 hne
  simp only [parseUnsigned, h1, h2, hall, hemp, Bool.false_and, Bool.not_false, Bool.and_self, if_true, Option.some.injEq]
  rw [natOfDigits_append, Rat.mkRat_eq_div]
  have h10 : ((10 : Rat) ^ fp.length) ≠ 0 := pow_ne_zero _ (by norm_num)
  push_cast
  rw [add_div, mul_div_cancel_left₀ _ h10]

theorem parseUnsigned_integer (ip : List Char) (hip : ∀ c ∈ ip, c.isDigit = true) (hne : ip ≠ []) :
    parseUnsigned ip = some (natOfDigits ip : Rat) := by
  obtain ⟨h1, h2⟩ := Text.span_all hip
  have hemp : ip.isEmpty = false := List.isEmpty_eq_false_iff.2 hne
  simp only [parseUnsigned, h1, h2, hemp, Bool.false_eq_true, if_false, Option.some.injEq]
  rw [Rat.mkRat_eq_div]; simp

theorem parseDecChars_of_digit {d : Char} (hd : d.isDigit = true) (rest : List Char) :
    parseDecChars (d :: rest) = parseUnsigned (d :: rest) := by
  unfold parseDecChars
  split
  · rename_i h; rw [(List.cons.inj h).1] at hd; exact absurd hd (by decide)
  · rename_i h; rw [(List.cons.inj h).1] at hd; exact absurd hd (by decide)
  · rfl

theorem tltColumn_append (a b : List (List Char)) : tltColumn (a ++ b) = tltColumn a ++ tltColumn b := by
  simp [tltColumn]

theorem mdocColumn_append (a b : List (List Char)) : mdocColumn (a ++ b) = mdocColumn a ++ mdocColumn b := by
  simp [mdocColumn]

theorem tltColumn_blank (l : List Char) (h : ∀ c ∈ l, isWs c = true) : tltColumn [l] = [] := by
  have : isBlank l = true := List.all_eq_true.2 h
  simp [tltColumn, this]

theorem tltColumn_line (pre tok post : List Char) (hpre : ∀ c ∈ pre, isWs c = true) (htok : ∀ c ∈ tok, isWs c = false)
    (hne : tok ≠ []) (hpost : post = [] ∨ ∃ w rest, post = w :: rest ∧ isWs w = true) :
    tltColumn [pre ++ tok ++ post] = [tok] := by
  obtain ⟨t, ts, rfl⟩ := List.exists_cons_of_ne_nil hne
  have ht : isWs t = false := htok t (by simp)
  have hnb : isBlank (pre ++ (t :: ts) ++ post) = false := by
    rw [Bool.eq_false_iff]; intro hb
    have := List.all_eq_true.1 hb t (by simp)
    rw [ht] at this; cases this
  have hdrop : (pre ++ (t :: ts) ++ post).dropWhile isWs = t :: ts ++ post := by
    rw [List.append_assoc, List.cons_append]
    exact (Text.span_run hpre (Text.stops_cons ht _)).2
  have htake : (t :: ts ++ post).takeWhile (fun c => !isWs c) = t :: ts := by
    rcases hpost with rfl | ⟨w, rest, rfl, hw⟩
    · rw [List.append_nil]; exact (Text.span_all (fun c hc => by simp [htok c hc])).1
    · exact (Text.span_run (fun c hc => by simp [htok c hc]) (Text.stops_cons (by simp [hw]) rest)).1
  unfold tltColumn
  rw [List.filter_cons_of_pos (by rw [hnb]; rfl)]
  simp only [List.filter_nil, List.map_cons, List.map_nil, firstField, hdrop, htake]

theorem mdocColumn_line (k v : List Char) (hk : ∀ c ∈ k, c ≠ '=') (hkey : trimChars k = "TiltAngle".toList)
    (hhead : (k ++ '=' :: v).head? ≠ some '[') : mdocColumn [k ++ '=' :: v] = [trimChars v] := by
  obtain ⟨h1, h2⟩ := Text.span_run (p := (· != '=')) (fun c hc => by simpa using hk c hc) (Text.stops_cons (x := '=') (by simp) v)
  have hkeyOf : keyOf (k ++ '=' :: v) = "TiltAngle".toList := by simp [keyOf, h1, hkey]
  have hval : valOf (k ++ '=' :: v) = trimChars v := by simp [valOf, h2]
  have hh : ((k ++ '=' :: v).head? != some '[') = true := by simpa using hhead
  unfold mdocColumn
  rw [List.filter_cons_of_pos (by rw [hkeyOf, hh]; rfl)]
  simp only [List.filter_nil, List.map_cons, List.map_nil, hval]

/-- mdoc section headers `[ZValue = k]`, lines with another key, blank lines -/
theorem mdocColumn_skip (l : List Char) (h : l.head? = some '[' ∨ keyOf l ≠ "TiltAngle".toList) : mdocColumn [l] = [] := by
  rcases h with h | h
  · simp [mdocColumn, h]
  · unfold mdocColumn
    rw [List.filter_cons_of_neg (by rw [beq_false_of_ne h, Bool.and_false]; exact Bool.false_ne_true)]
    rfl

theorem pair_sublist_of_lt (l : List β) (i j : Nat) (hij : i < j) (hj : j < l.length) :
    [l[i]'(by omega), l[j]].Sublist l :=
  List.map_getElem_sublist (l := l) (is := [⟨i, by omega⟩, ⟨j, hj⟩]) (by simp [hij])

theorem argsort_stable (le : κ → κ → Bool)
    (htrans : ∀ a b c, le a b = true → le b c = true → le a c = true) (htotal : ∀ a b, (le a b || le b a) = true)
    (angles : List κ) (i j : Nat) (hij : i < j) (hj : j < angles.length)
    (hle : le (angles[i]'(by omega)) angles[j] = true) : [i, j].Sublist (argsort le angles) := by
  unfold argsort
  have hj' : j < angles.zipIdx.length := by simpa using hj
  have hsub := pair_sublist_of_lt angles.zipIdx i j hij hj'
  simp only [List.getElem_zipIdx, Nat.zero_add] at hsub
  have := List.pair_sublist_mergeSort (le := fun (a b : κ × Nat) => le a.1 b.1)
    (fun a b c => htrans a.1 b.1 c.1) (fun a b => htotal a.1 b.1) hle hsub
  exact this.map (·.2)

end CryoCat.C15
