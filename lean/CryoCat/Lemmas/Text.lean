/-! Lists of characters, whatever the property: a Boolean test separates the characters it accepts from those it rejects;
a run of accepted characters is what `takeWhile` takes; stripping both ends; decimal digits (`Nat.toDigits 10`,
`Nat.ofDigitChars 10` of core, with zero padding). Core Lean only. -/
namespace CryoCat.Text
variable {α : Type} {p : α → Bool}

/-! ### a test separates -/

theorem ne_of_test {c x : α} (hc : p c = true) (hx : p x = false) : c ≠ x :=
  fun e => Bool.false_ne_true (hx.symm.trans (e ▸ hc))

theorem not_mem_of_test {s : List α} {x : α} (hs : ∀ c ∈ s, p c = true) (hx : p x = false) : x ∉ s :=
  fun h => ne_of_test (hs x h) hx rfl

/-! ### runs -/

/-- `e` does not begin with an accepted character -/
def Stops (p : α → Bool) (e : List α) : Prop := ∀ c, e.head? = some c → p c = false

theorem stops_nil : Stops p [] := fun _ h => nomatch h

theorem stops_cons {x : α} (hx : p x = false) (b : List α) : Stops p (x :: b) := fun _ h => Option.some.inj h ▸ hx

theorem stops_of_forall {e : List α} (h : ∀ c ∈ e, p c = false) : Stops p e := fun c hc => h c (List.mem_of_mem_head? hc)

theorem dropWhile_eq_self : ∀ {e : List α}, Stops p e → e.dropWhile p = e
  | [], _ => rfl
  | c :: _, h => List.dropWhile_cons_of_neg (by rw [h c rfl]; exact Bool.false_ne_true)

theorem takeWhile_eq_nil : ∀ {e : List α}, Stops p e → e.takeWhile p = []
  | [], _ => rfl
  | c :: _, h => List.takeWhile_cons_of_neg (by rw [h c rfl]; exact Bool.false_ne_true)

/-- a run of accepted characters, then something that stops it -/
theorem span_run {m e : List α} (hm : ∀ c ∈ m, p c = true) (he : Stops p e) :
    (m ++ e).takeWhile p = m ∧ (m ++ e).dropWhile p = e := by
  rw [List.takeWhile_append_of_pos hm, List.dropWhile_append_of_pos hm, takeWhile_eq_nil he, dropWhile_eq_self he,
    List.append_nil]
  exact ⟨rfl, rfl⟩

theorem span_all {m : List α} (hm : ∀ c ∈ m, p c = true) : m.takeWhile p = m ∧ m.dropWhile p = [] := by
  have := span_run hm (stops_nil (p := p))
  rwa [List.append_nil] at this

theorem stops_dropWhile (s : List α) : Stops p (s.dropWhile p) := fun c hc => by
  have := List.head?_dropWhile_not p s
  rwa [hc] at this

/-! ### stripping both ends -/

/-- drop the accepted characters at both ends (`str.strip`) -/
def strip (p : α → Bool) (s : List α) : List α := ((s.dropWhile p).reverse.dropWhile p).reverse

/-- `s` does not end with an accepted character -/
def StopsR (p : α → Bool) (s : List α) : Prop := ∀ c, s.getLast? = some c → p c = false

theorem stops_reverse {s : List α} : Stops p s.reverse ↔ StopsR p s := by
  simp only [Stops, StopsR, List.head?_reverse]

theorem strip_eq_self {s : List α} (hh : Stops p s) (hl : StopsR p s) : strip p s = s := by
  rw [strip, dropWhile_eq_self hh, dropWhile_eq_self (stops_reverse.2 hl), List.reverse_reverse]

theorem strip_of_forall {s : List α} (h : ∀ c ∈ s, p c = false) : strip p s = s :=
  strip_eq_self (stops_of_forall h) fun c hc => h c (List.mem_of_getLast? hc)

theorem strip_infix (s : List α) : strip p s <:+: s :=
  (List.reverse_prefix.2 (List.dropWhile_suffix p)).isInfix.trans
    (by rw [List.reverse_reverse]; exact (List.dropWhile_suffix p).isInfix)

theorem mem_of_mem_strip {s : List α} {c : α} (h : c ∈ strip p s) : c ∈ s := (strip_infix s).subset h

theorem stopsR_strip (s : List α) : StopsR p (strip p s) := stops_reverse.1 (by
  rw [strip, List.reverse_reverse]; exact stops_dropWhile _)

theorem stops_strip (s : List α) : Stops p (strip p s) := fun c hc => by
  -- the head of a non-empty prefix of `s.dropWhile p` is the head of `s.dropWhile p`
  have hpre : strip p s <+: s.dropWhile p := by
    have := List.reverse_prefix.2 (List.dropWhile_suffix (l := (s.dropWhile p).reverse) p)
    rwa [List.reverse_reverse] at this
  obtain ⟨t, ht⟩ := hpre
  refine stops_dropWhile (p := p) s c ?_
  rw [← ht]
  cases h : strip p s with
  | nil => rw [h] at hc; cases hc
  | cons x r => rw [h] at hc; exact hc

theorem strip_eq_self_iff {s : List α} : strip p s = s ↔ Stops p s ∧ StopsR p s :=
  ⟨fun h => ⟨h ▸ stops_strip s, h ▸ stopsR_strip s⟩, fun h => strip_eq_self h.1 h.2⟩

theorem strip_strip (s : List α) : strip p (strip p s) = strip p s := strip_eq_self (stops_strip s) (stopsR_strip s)

theorem strip_cons_of_pos {x : α} (hx : p x = true) (s : List α) : strip p (x :: s) = strip p s := by
  rw [strip, List.dropWhile_cons_of_pos hx, strip]

theorem strip_append_of_forall {r : List α} (hr : ∀ c ∈ r, p c = true) {s : List α} (hs : strip p s = s) :
    strip p (s ++ r) = s := by
  obtain ⟨hh, hl⟩ := strip_eq_self_iff.1 hs
  cases s with
  | nil => rw [List.nil_append, strip, (span_all hr).2]; rfl
  | cons x t =>
    rw [strip, List.cons_append, dropWhile_eq_self (stops_cons (hh x rfl) _), ← List.cons_append, List.reverse_append,
      List.dropWhile_append_of_pos (fun c hc => hr c (List.mem_reverse.1 hc)),
      dropWhile_eq_self (stops_reverse.2 hl), List.reverse_reverse]

theorem strip_between {a b : List α} (w : List α) (ha : strip p a = a) (hb : strip p b = b) (hna : a ≠ []) (hnb : b ≠ []) :
    strip p (a ++ w ++ b) = a ++ w ++ b := by
  obtain ⟨x, t, rfl⟩ := List.exists_cons_of_ne_nil hna
  refine strip_eq_self (stops_cons ((strip_eq_self_iff.1 ha).1 x rfl) _) fun c hc => ?_
  have hy := List.getLast?_eq_some_getLast hnb
  rw [List.getLast?_append, hy] at hc
  exact (strip_eq_self_iff.1 hb).2 c (hy.trans hc)

theorem dropWhile_eq_nil_iff : ∀ {s : List α}, s.dropWhile p = [] ↔ ∀ c ∈ s, p c = true
  | [] => by simp
  | x :: s => by
    by_cases hx : p x = true
    · simp [hx, dropWhile_eq_nil_iff (s := s)]
    · simp [hx]

theorem strip_eq_nil_iff {s : List α} : strip p s = [] ↔ ∀ c ∈ s, p c = true := by
  rw [strip, List.reverse_eq_nil_iff, dropWhile_eq_nil_iff]
  constructor
  · intro h
    -- dropping twice is dropping once
    rw [← dropWhile_eq_nil_iff, ← dropWhile_eq_self (stops_dropWhile s), dropWhile_eq_nil_iff]
    exact fun c hc => h c (List.mem_reverse.2 hc)
  · exact fun h c hc => h c ((List.dropWhile_sublist p).subset (List.mem_reverse.1 hc))

/-! ### decimal digits -/

theorem isDigit_toDigits (n : Nat) : ∀ c ∈ Nat.toDigits 10 n, c.isDigit = true :=
  fun _ hc => Nat.isDigit_of_mem_toDigits (by decide) (by decide) hc

/-- zero padding of a digit string is a digit string -/
theorem isDigit_pad {z : Nat} {ds : List Char} (h : ∀ c ∈ ds, c.isDigit = true) :
    ∀ c ∈ List.replicate z '0' ++ ds, c.isDigit = true := fun c hc =>
  (List.mem_append.1 hc).elim (fun h0 => (List.mem_replicate.1 h0).2 ▸ rfl) (h c)

/-- leading zeros do not count -/
theorem ofDigitChars_pad (z : Nat) (ds : List Char) :
    Nat.ofDigitChars 10 (List.replicate z '0' ++ ds) 0 = Nat.ofDigitChars 10 ds 0 := by
  rw [Nat.ofDigitChars_append, Nat.ofDigitChars_replicate_zero, Nat.mul_zero]

/-- `int(str(n).zfill(k)) = n` -/
theorem ofDigitChars_pad_toDigits (z n : Nat) :
    Nat.ofDigitChars 10 (List.replicate z '0' ++ Nat.toDigits 10 n) 0 = n := by
  rw [ofDigitChars_pad, Nat.ofDigitChars_ten_toDigits]

theorem ofDigitChars_append (a b : List Char) :
    Nat.ofDigitChars 10 (a ++ b) 0 = 10 ^ b.length * Nat.ofDigitChars 10 a 0 + Nat.ofDigitChars 10 b 0 := by
  rw [Nat.ofDigitChars_append, Nat.ofDigitChars_eq_ofDigitChars_zero]

end CryoCat.Text
