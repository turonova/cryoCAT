import CryoCat.Model.C13
import CryoCat.Lemmas.Layout
import Mathlib.Algebra.Order.Ring.Defs
/-! C13 — arrays: numpy's C-order layout of `render`, the in-place accumulation loop voxel by voxel, and what the loop
leaves on one voxel of binary masks (clipped sum, product, difference) over any linearly ordered ring (ℚ, ℝ …). -/
namespace CryoCat.C13

theorem render_length {β : Type} (nx ny nz : Nat) (f : Nat → Nat → Nat → β) :
    (render nx ny nz f).length = nx * (ny * nz) := by
  unfold render
  rw [Layout.length_flatMap_blocks fun i _ => (Layout.length_flatMap_blocks fun j _ => List.length_map _), List.length_range,
    List.length_range, List.length_range]

theorem render_getElem? {β : Type} (nx ny nz : Nat) (f : Nat → Nat → Nat → β) (i j k : Nat)
    (hi : i < nx) (hj : j < ny) (hk : k < nz) :
    (render nx ny nz f)[(i * ny + j) * nz + k]? = some (f i j k) := by
  unfold render
  -- row `i` is a block of `ny * nz`, in it row `j` a block of `nz`
  rw [Nat.add_mul, Nat.mul_assoc, Nat.add_assoc,
    Layout.getElem?_flatMap_blocks (m := ny * nz) (fun i _ => by
      rw [Layout.length_flatMap_blocks fun j _ => List.length_map _, List.length_range, List.length_range]) i
      (Layout.digit_lt hj hk),
    List.getElem?_range hi, Option.bind_some, Layout.getElem?_flatMap_blocks (fun j _ => by rw [List.length_map, List.length_range]) j hk,
    List.getElem?_range hj, Option.bind_some, List.getElem?_map, List.getElem?_range hk, Option.map_some]

section Accumulate
variable {α : Type}

theorem accumulate_spec (op : α → α → α) (d : α) (ms : List (List α)) (init : List α)
    (h : ∀ m ∈ ms, m.length = init.length) :
    (accumulate op init ms).length = init.length ∧ ∀ p, p < init.length →
      (accumulate op init ms)[p]? = some ((ms.map fun m => m.getD p d).foldl op (init.getD p d)) := by
  induction ms generalizing init with
  | nil => exact ⟨rfl, fun p hp => by simp [accumulate, List.getD, List.getElem?_eq_getElem hp]⟩
  | cons m ms ih =>
    have hm : m.length = init.length := h m (by simp)
    have hz : (List.zipWith op init m).length = init.length := by simp [hm]
    obtain ⟨hl, hg⟩ := ih (List.zipWith op init m) (fun m' hm' => by rw [hz]; exact h m' (by simp [hm']))
    refine ⟨hl.trans hz, fun p hp => ?_⟩
    have hpm : p < m.length := by omega
    rw [show accumulate op init (m :: ms) = accumulate op (List.zipWith op init m) ms from rfl, hg p (by omega)]
    simp [List.getD, List.getElem?_zipWith, List.getElem?_eq_getElem hp, List.getElem?_eq_getElem hpm]

theorem sameShape_spec (ms : List (List α)) (h : sameShape ms = true) :
    ∀ m ∈ ms, m.length = (ms.headD []).length := by
  intro m hm
  simp only [sameShape, List.all_eq_true] at h
  simpa using h m hm

end Accumulate

section
set_option linter.unusedSectionVars false
variable {α : Type} [CommRing α] [LinearOrder α] [IsStrictOrderedRing α]

def b2r (b : Bool) : α := if b then 1 else 0

theorem clip01_of_mem (x : α) (h0 : 0 ≤ x) (h1 : x ≤ 1) : clip01 x = x := by
  unfold clip01; rw [max_eq_left h0, min_eq_left h1]

theorem clip01_of_nonpos (x : α) (h : x ≤ 0) : clip01 x = 0 := by
  unfold clip01; rw [max_eq_right h, min_eq_left zero_le_one]

theorem clip01_of_one_le (x : α) (h : 1 ≤ x) : clip01 x = 1 := by
  unfold clip01; rw [max_eq_left (le_trans zero_le_one h), min_eq_right h]

theorem clip01_b2r (b : Bool) : clip01 (b2r b : α) = b2r b := by
  cases b <;> simp [b2r, clip01_of_mem]

theorem foldl_sub_eq_sum (l : List α) (a : α) : l.foldl (· - ·) a = a - l.sum := by
  induction l generalizing a with
  | nil => simp
  | cons x l ih => rw [List.foldl_cons, ih, List.sum_cons, sub_sub]

theorem foldl_mul_b2r (bs : List Bool) (a : α) :
    (bs.map b2r).foldl (· * ·) a = a * b2r (bs.all id) := by
  induction bs generalizing a with
  | nil => simp [b2r]
  | cons b bs ih =>
    simp only [List.map_cons, List.foldl_cons, ih]
    cases b <;> simp [b2r]

theorem sum_b2r_cases (bs : List Bool) :
    (bs.any id = false ∧ (bs.map (b2r : Bool → α)).sum = 0) ∨ (bs.any id = true ∧ (1 : α) ≤ (bs.map b2r).sum) := by
  induction bs with
  | nil => exact Or.inl ⟨rfl, rfl⟩
  | cons b bs ih =>
    cases b
    · simpa [b2r] using ih
    · refine Or.inr ⟨rfl, ?_⟩
      rw [List.map_cons, List.sum_cons, show (b2r true : α) = 1 from rfl]
      rcases ih with ⟨_, h⟩ | ⟨_, h⟩
      · rw [h, add_zero]
      · exact le_add_of_nonneg_right (zero_le_one.trans h)

end
end CryoCat.C13
