import CryoCat.Model.C16_Fourier
import Mathlib.Analysis.SpecialFunctions.Pow.Real
/-! C16 — the conjugate-partner index by cases, the laws of the Fourier service under which the image-level clauses follow, and a
first instance (1 × 2).  Depends only on `Model/C16_Fourier` (not on the regenerated constants). -/
namespace CryoCat.C16

theorem negIdx_zero (n : Nat) : negIdx n 0 = 0 := by
  rw [negIdx, Nat.sub_zero, Nat.mod_self]

theorem negIdx_of_pos {n k : Nat} (h0 : 0 < k) (hk : k < n) : negIdx n k = n - k :=
  Nat.mod_eq_of_lt (by omega)

theorem negIdx_negIdx {n k : Nat} (hk : k < n) : negIdx n (negIdx n k) = k := by
  rcases Nat.eq_zero_or_pos k with rfl | h0
  · rw [negIdx_zero, negIdx_zero]
  · rw [negIdx_of_pos h0 hk, negIdx_of_pos (by omega) (by omega)]
    omega

theorem negFin_negFin {n : Nat} (k : Fin n) : negFin (negFin k) = k :=
  Fin.ext (negIdx_negIdx k.isLt)

/-- What the image-level clauses need from `np.fft.fft2` / `np.fft.ifft2(·).real` on real `H × W` images (all are
theorems of the discrete Fourier transform; the harness probes them on numpy on every run):
inversion, linearity of both directions, and: a Hermitian-even real multiplier applied to the spectrum of a real
image is again the spectrum of a real image (so `.real` loses nothing). -/
structure IsDFT {Img : Type} [Add Img] [SMul ℝ Img] {H W : Nat} (fft : FFT Img ℝ H W) : Prop where
  inv_left : ∀ x, fft.ifft2re (fft.fft2 x) = x
  even_mult : ∀ (M : Fin H → Fin W → ℝ), (∀ v u, M (negFin v) (negFin u) = M v u) → ∀ x,
      fft.fft2 (fft.ifft2re (fun v u => Cx.smul (M v u) (fft.fft2 x v u))) = fun v u => Cx.smul (M v u) (fft.fft2 x v u)
  fft_add : ∀ x y, fft.fft2 (x + y) = fun v u => Cx.add (fft.fft2 x v u) (fft.fft2 y v u)
  fft_smul : ∀ (c : ℝ) x, fft.fft2 (c • x) = fun v u => Cx.smul c (fft.fft2 x v u)
  ifft_add : ∀ s t, fft.ifft2re (fun v u => Cx.add (s v u) (t v u)) = fft.ifft2re s + fft.ifft2re t
  ifft_smul : ∀ (c : ℝ) s, fft.ifft2re (fun v u => Cx.smul c (s v u)) = c • fft.ifft2re s

/-- the 1 × 2 DFT `(a, b) ↦ (a + b, a − b)` -/
noncomputable def dft12 : FFT (ℝ × ℝ) ℝ 1 2 :=
  { fft2 := fun x _ u => if u.val = 0 then ⟨x.1 + x.2, 0⟩ else ⟨x.1 - x.2, 0⟩
    ifft2re := fun s => (((s 0 0).re + (s 0 1).re) / 2, ((s 0 0).re - (s 0 1).re) / 2) }

theorem dft12_fft2_zero (x : ℝ × ℝ) (v : Fin 1) : dft12.fft2 x v 0 = ⟨x.1 + x.2, 0⟩ := rfl
theorem dft12_fft2_one (x : ℝ × ℝ) (v : Fin 1) : dft12.fft2 x v 1 = ⟨x.1 - x.2, 0⟩ := rfl
theorem dft12_ifft2re (s : Spec ℝ 1 2) :
    dft12.ifft2re s = (((s 0 0).re + (s 0 1).re) / 2, ((s 0 0).re - (s 0 1).re) / 2) := rfl

theorem dft12_isDFT : IsDFT dft12 := by
  have fin2 : ∀ u : Fin 2, u = 0 ∨ u = 1 := by decide
  refine ⟨?_, ?_, ?_, ?_, ?_, ?_⟩
  · intro x
    rw [dft12_ifft2re, dft12_fft2_zero, dft12_fft2_one, add_add_sub_cancel, add_sub_sub_cancel]
    ext <;> simp
  · intro M _ x
    funext v u
    obtain rfl : v = 0 := Subsingleton.elim _ _
    rcases fin2 u with rfl | rfl <;>
      simp only [dft12_ifft2re, dft12_fft2_zero, dft12_fft2_one, Cx.smul, mul_zero, Cx.mk.injEq, and_true] <;> ring
  · intro x y; funext v u
    rcases fin2 u with rfl | rfl <;>
      simp only [dft12_fft2_zero, dft12_fft2_one, Cx.add, Prod.fst_add, Prod.snd_add, add_zero, Cx.mk.injEq, and_true] <;> ring
  · intro c x; funext v u
    rcases fin2 u with rfl | rfl <;>
      simp only [dft12_fft2_zero, dft12_fft2_one, Cx.smul, Prod.smul_fst, Prod.smul_snd, smul_eq_mul, mul_zero, Cx.mk.injEq, and_true] <;> ring
  · intro s t
    simp only [dft12_ifft2re, Cx.add, Prod.mk_add_mk, Prod.mk.injEq]
    constructor <;> ring
  · intro c s
    simp only [dft12_ifft2re, Cx.smul, Prod.smul_mk, smul_eq_mul, Prod.mk.injEq]
    constructor <;> ring

end CryoCat.C16
