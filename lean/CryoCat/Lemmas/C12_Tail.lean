import CryoCat.Lemmas.C12
import CryoCat.Lemmas.Euclid3
/-! The soft-edge margins: how far an (edge-clamped) kernel offset can move a voxel, the
square-root-free triangle inequalities `√A + √m ≤ r` / `√A > r + √m`, and the bound of a blurred
`[0,1]` array by the kernel's tail weight `tail3`. -/
namespace CryoCat.C12

/-- `mode='nearest'` never lengthens an offset -/
theorem clampI_off_sq (n : Nat) (x q : Int) (hx : 0 ≤ x ∧ x < (n : Int)) :
    (clampI n (x + q) - x) * (clampI n (x + q) - x) ≤ q * q :=
  Layout.sq_le_of_between (by unfold clampI; split_ifs <;> omega)

/-- `√A + √m ≤ r` without square roots: a point of squared radius `≤ A`, moved by an offset of squared
length `≤ m`, stays within `r` when `A + m ≤ r²` and `4·A·m ≤ (r² − A − m)²` -/
theorem reach_inside (a b c qa qb qc A m r : Int) (hA : a * a + b * b + c * c ≤ A) (hm : qa * qa + qb * qb + qc * qc ≤ m)
    (h1 : A + m ≤ r * r) (h2 : 4 * (A * m) ≤ (r * r - A - m) * (r * r - A - m)) :
    (a + qa) * (a + qa) + (b + qb) * (b + qb) + (c + qc) * (c + qc) ≤ r * r :=
  V3.normSq_add_le ⟨a, b, c⟩ ⟨qa, qb, qc⟩ A m _ hA hm h1 h2

/-- `√A > r + √m` without square roots: a point of squared radius `≥ A`, moved by an offset of squared
length `≤ m`, stays strictly outside `r` when `r² + m < A` and `4·r²·m < (A − r² − m)²` -/
theorem reach_outside (a b c qa qb qc A m r : Int) (hA : A ≤ a * a + b * b + c * c) (hm : qa * qa + qb * qb + qc * qc ≤ m)
    (h1 : r * r + m < A) (h2 : 4 * (r * r * m) < (A - r * r - m) * (A - r * r - m)) :
    ¬ ((a + qa) * (a + qa) + (b + qb) * (b + qb) + (c + qc) * (c + qc) ≤ r * r) :=
  not_le.2 (V3.lt_normSq_of_add ⟨a, b, c⟩ ⟨qa, qb, qc⟩ A m _ hA hm h1 h2)

/-- the voxel a kernel offset `q` reads at bin `(j,k,l)` (edge-clamped) lies at frequency `freq + a` with `|a| ≤ |q|` per axis -/
theorem clamped_dist2 (d : Dims) (hd : 0 < d.nx ∧ 0 < d.ny ∧ 0 < d.nz) (j k l qx qy qz : Int) :
    ∃ a b c : Int, a * a + b * b + c * c ≤ qx * qx + qy * qy + qz * qz ∧
      dist2 d (clampI d.nx (shiftIdx d.nx j + qx)) (clampI d.ny (shiftIdx d.ny k + qy)) (clampI d.nz (shiftIdx d.nz l + qz))
        = (freq d.nx j + a) * (freq d.nx j + a) + (freq d.ny k + b) * (freq d.ny k + b) + (freq d.nz l + c) * (freq d.nz l + c) :=
  ⟨_, _, _, add_le_add (add_le_add (clampI_off_sq d.nx _ qx (shiftIdx_range _ hd.1 j)) (clampI_off_sq d.ny _ qy (shiftIdx_range _ hd.2.1 k)))
      (clampI_off_sq d.nz _ qz (shiftIdx_range _ hd.2.2 l)),
    by unfold dist2 freq; ring⟩

section tail
set_option linter.unusedSectionVars false
variable {K : Type} [Field K] [LinearOrder K] [IsStrictOrderedRing K]

theorem blur3_le_tail (ker : List (Int × K)) (hn : KerNonneg ker) (d : Dims) (g : Vol K) (x y z : Int) (m : Int)
    (h1 : ∀ a b c, g a b c ≤ 1)
    (h0 : ∀ qx qy qz : Int, qx * qx + qy * qy + qz * qz ≤ m →
      g (clampI d.nx (x + qx)) (clampI d.ny (y + qy)) (clampI d.nz (z + qz)) ≤ 0) :
    blur3Fn ker d g x y z ≤ tail3 ker m := by
  refine wsum3_mono ker hn _ _ fun pz _ py _ px _ => ?_
  by_cases h : m < px.1 * px.1 + py.1 * py.1 + pz.1 * pz.1
  · rw [if_pos h]; exact h1 _ _ _
  · rw [if_neg h]; exact h0 _ _ _ (not_lt.1 h)

theorem tail3_nonneg (ker : List (Int × K)) (hn : KerNonneg ker) (m : Int) : 0 ≤ tail3 ker m := by
  have h := wsum3_mono ker hn (fun _ _ _ => 0) (fun qx qy qz => if m < qx * qx + qy * qy + qz * qz then 1 else 0)
    fun _ _ _ _ _ _ => by split_ifs; exact zero_le_one; exact le_refl _
  simp only [wsum_const, mul_zero] at h
  exact h

theorem tail3_le_one (ker : List (Int × K)) (hn : KerNonneg ker) (hu : ksum ker = 1) (m : Int) : tail3 ker m ≤ 1 := by
  have h := wsum3_mono ker hn (fun qx qy qz => if m < qx * qx + qy * qy + qz * qz then 1 else 0) (fun _ _ _ => 1)
    fun _ _ _ _ _ _ => by split_ifs; exact le_refl _; exact zero_le_one
  simp only [wsum_const, hu, mul_one] at h
  exact h

theorem tail3_antitone (ker : List (Int × K)) (hn : KerNonneg ker) (m m' : Int) (h : m ≤ m') : tail3 ker m' ≤ tail3 ker m := by
  refine wsum3_mono ker hn _ _ fun pz _ py _ px _ => ?_
  by_cases h1 : m' < px.1 * px.1 + py.1 * py.1 + pz.1 * pz.1
  · rw [if_pos h1, if_pos (by omega)]
  · rw [if_neg h1]; split_ifs
    · exact zero_le_one
    · exact le_refl _

/-- the kernel cube reaches no further than `√3·t`: beyond that the tail is exactly 0 -/
theorem tail3_zero (ker : List (Int × K)) (t : Nat) (hw : KerWithin t ker) (m : Int) (h : 3 * ((t : Int) * (t : Int)) ≤ m) :
    tail3 ker m = 0 := by
  have h0 : (0 : K) = wsum ker (fun _ => wsum ker (fun _ => wsum ker (fun _ => (0 : K)))) := by
    simp only [wsum_const, mul_zero]
  rw [h0]
  unfold tail3
  apply wsum_congr; intro pz hz
  apply wsum_congr; intro py hy
  apply wsum_congr; intro px hx
  have bx := hw px hx
  have by' := hw py hy
  have bz := hw pz hz
  have h1 : px.1 * px.1 ≤ (t : Int) * t := abs_le_iff_mul_self_le.1 ((abs_le.2 bx).trans (le_abs_self _))
  have h2 : py.1 * py.1 ≤ (t : Int) * t := abs_le_iff_mul_self_le.1 ((abs_le.2 by').trans (le_abs_self _))
  have h3 : pz.1 * pz.1 ≤ (t : Int) * t := abs_le_iff_mul_self_le.1 ((abs_le.2 bz).trans (le_abs_self _))
  rw [if_neg (by omega)]

end tail
end CryoCat.C12
