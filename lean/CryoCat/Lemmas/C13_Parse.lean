import CryoCat.Model.C13
import CryoCat.Lemmas.Text
/-! C13 — `parse_shape_string`: parsing the name written for a shape gives the shape back.  One pattern reads back what it
wrote (`parseFields_formatFields`); in a table whose patterns are pairwise incompatible (first labels that differ at a position
both have) no other pattern matches that name (`parseWith_format`).  Core Lean only. -/
namespace CryoCat.C13

/-- `int(str(n)) = n`: `valDigits` unfolds to core's `Nat.ofDigitChars 10 · 0` -/
theorem valDigits_toDigits (n : Nat) : valDigits (Nat.toDigits 10 n) = n := Nat.ofDigitChars_ten_toDigits

theorem stripPrefix_append (l s : List Char) : stripPrefix l (l ++ s) = some s := by
  induction l with
  | nil => cases s <;> simp [stripPrefix]
  | cons a l ih => simp [stripPrefix, ih]

/-- so that the pattern's `\d+` stops where the next label starts -/
def GoodLabels (ls : List (List Char)) : Prop := ∀ l ∈ ls, ∃ c cs, l = c :: cs ∧ c.isDigit = false

theorem formatFields_head (ls : List (List Char)) (ns : List Nat) (h : GoodLabels ls) :
    Text.Stops Char.isDigit (formatFields ls ns) := by
  cases ls with
  | nil => exact Text.stops_nil
  | cons l ls =>
    cases ns with
    | nil => exact Text.stops_nil
    | cons n ns =>
      obtain ⟨c, cs, rfl, hc⟩ := h l (List.mem_cons_self ..)
      exact Text.stops_cons hc _

theorem parseFields_formatFields (ls : List (List Char)) (ns : List Nat) (h : GoodLabels ls) (hlen : ls.length = ns.length) :
    parseFields ls (formatFields ls ns) = some ns := by
  induction ls generalizing ns with
  | nil => cases ns <;> simp_all [formatFields, parseFields]
  | cons l ls ih =>
    cases ns with
    | nil => simp at hlen
    | cons n ns =>
      have hg : GoodLabels ls := fun l' hl' => h l' (List.mem_cons_of_mem _ hl')
      obtain ⟨ht, hdw⟩ := Text.span_run (Text.isDigit_toDigits n) (formatFields_head ls ns hg)
      have hne : (Nat.toDigits 10 n).isEmpty = false := by
        cases hx : Nat.toDigits 10 n with
        | nil => exact absurd hx Nat.toDigits_ne_nil
        | cons _ _ => rfl
      simp only [formatFields, parseFields, List.append_assoc, stripPrefix_append, ht, hdw, hne,
        ih ns hg (by simpa using hlen), valDigits_toDigits]
      simp

theorem mem_formatFields (ls : List (List Char)) (ns : List Nat) (c : Char) (hc : c ∈ formatFields ls ns) :
    (∃ l ∈ ls, c ∈ l) ∨ c.isDigit = true := by
  induction ls generalizing ns with
  | nil => simp [formatFields] at hc
  | cons l ls ih =>
    cases ns with
    | nil => simp [formatFields] at hc
    | cons n ns =>
      simp only [formatFields, List.mem_append] at hc
      rcases hc with (hc | hc) | hc
      · exact Or.inl ⟨l, List.mem_cons_self .., hc⟩
      · exact Or.inr (Text.isDigit_toDigits n c hc)
      · rcases ih ns hc with ⟨l', hl', h'⟩ | h'
        · exact Or.inl ⟨l', List.mem_cons_of_mem _ hl', h'⟩
        · exact Or.inr h'

/-- the table of `cryomask.parse_shape_string` as documented (`Props/C13.lean: labels_documented` shows that the
table compiled from the source is this one) -/
def docLabels : List (String × List (List Char)) :=
  [("sphere", [['s', 'p', 'h', 'e', 'r', 'e', '_', 'r']]),
   ("cylinder", [['c', 'y', 'l', 'i', 'n', 'd', 'e', 'r', '_', 'r'], ['_', 'h']]),
   ("s_shell", [['s', '_', 's', 'h', 'e', 'l', 'l', '_', 'r'], ['_', 's']]),
   ("ellipsoid", [['e', 'l', 'l', 'i', 'p', 's', 'o', 'i', 'd', '_', 'r', 'x'], ['_', 'r', 'y'], ['_', 'r', 'z']]),
   ("e_shell", [['e', '_', 's', 'h', 'e', 'l', 'l', '_', 'r', 'x'], ['_', 'r', 'y'], ['_', 'r', 'z'], ['_', 's']])]

/-- number of dimensions in the name of each shape -/
def arity : Kind → Nat
  | .sphere => 1 | .cylinder => 2 | .sshell => 2 | .ellipsoid => 3 | .eshell => 4

theorem goodLabels_of (ls : List (List Char)) (h : ls.all (fun l => match l with | [] => false | c :: _ => !c.isDigit) = true) :
    GoodLabels ls := by
  intro l hl
  have := List.all_eq_true.1 h l hl
  cases l with
  | nil => simp at this
  | cons c cs => exact ⟨c, cs, rfl, by simpa using this⟩

theorem parseWith_cons_none (e : String × List (List Char)) (tbl : List (String × List (List Char))) (s : List Char)
    (h : parseFields e.2 s = none) : parseWith (e :: tbl) s = parseWith tbl s := by
  simp only [parseWith, List.findSome?_cons, h]
  cases kindOfName e.1 <;> rfl

theorem parseWith_cons_some (name : String) (ls : List (List Char)) (tbl : List (String × List (List Char))) (s : List Char)
    (k : Kind) (ns : List Nat) (hk : kindOfName name = some k) (h : parseFields ls s = some ns) :
    parseWith ((name, ls) :: tbl) s = some (k, ns) := by
  simp only [parseWith, List.findSome?_cons, hk, h]

/-- two labels that differ at a position both have: a string that starts with one does not start with the other -/
theorem stripPrefix_append_none (l' l s : List Char) (h1 : stripPrefix l' l = none) (h2 : stripPrefix l l' = none) :
    stripPrefix l' (l ++ s) = none := by
  induction l' generalizing l with
  | nil => cases l <;> cases h1
  | cons c l' ih =>
    cases l with
    | nil => cases h2
    | cons d l =>
      simp only [stripPrefix, List.cons_append] at h1 h2 ⊢
      split
      · rename_i hcd
        rw [if_pos hcd] at h1
        rw [if_pos hcd.symm] at h2
        exact ih l h1 h2
      · rfl

/-- the first labels of two patterns differ at a position both have -/
def incompat : List (List Char) → List (List Char) → Bool
  | l' :: _, l :: _ => (stripPrefix l' l).isNone && (stripPrefix l l').isNone
  | _, _ => false

theorem parseFields_of_incompat (ls' ls : List (List Char)) (ns : List Nat) (h : incompat ls' ls = true)
    (hlen : ls.length = ns.length) : parseFields ls' (formatFields ls ns) = none := by
  match ls', ls, ns with
  | l' :: _, l :: _, n :: _ =>
    simp only [incompat, Bool.and_eq_true, Option.isNone_iff_eq_none] at h
    simp only [formatFields, parseFields, List.append_assoc, stripPrefix_append_none l' l _ h.1 h.2]
  | _ :: _, _ :: _, [] => simp at hlen
  | [], _, _ => simp [incompat] at h
  | _ :: _, [], _ => simp [incompat] at h

/-- in a table whose patterns are pairwise incompatible, the name written from an entry is parsed by that entry and no other -/
theorem parseWith_format (table : List (String × List (List Char)))
    (hfree : table.Pairwise fun e e' => incompat e.2 e'.2 = true)
    (name : String) (ls : List (List Char)) (k : Kind) (ns : List Nat) (hmem : (name, ls) ∈ table)
    (hk : kindOfName name = some k) (hg : GoodLabels ls) (hlen : ls.length = ns.length) :
    parseWith table (formatFields ls ns) = some (k, ns) := by
  induction table with
  | nil => cases hmem
  | cons e tbl ih =>
    obtain ⟨hhead, htail⟩ := List.pairwise_cons.1 hfree
    rcases List.mem_cons.1 hmem with rfl | hmem
    · exact parseWith_cons_some _ _ _ _ _ _ hk (parseFields_formatFields ls ns hg hlen)
    · rw [parseWith_cons_none _ _ _ (parseFields_of_incompat _ _ ns (hhead _ hmem) hlen)]
      exact ih htail hmem

/-- Python's `$` also matches before a final newline: a formatted name has none to skip -/
theorem formatFields_getLast_ne_newline (ls : List (List Char)) (ns : List Nat) (hnl : ∀ l ∈ ls, '\n' ∉ l) :
    ¬ (formatFields ls ns).getLast? = some '\n' := by
  intro hc
  rcases mem_formatFields ls ns '\n' (List.mem_of_getLast? hc) with ⟨l, hl, hin⟩ | hd
  · exact hnl l hl hin
  · exact absurd hd (by decide)

end CryoCat.C13
