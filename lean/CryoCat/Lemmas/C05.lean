import CryoCat.Model.C05
import CryoCat.Lemmas.Rot
import CryoCat.Lemmas.Round
import Mathlib.Tactic.Ring
import Mathlib.Tactic.Linarith
import Mathlib.Tactic.Push
import Mathlib.Tactic.NormNum
import Mathlib.Data.Rat.Floor
/-! C05 — helper lemmas: `roundHalfUp` is `Round.roundAway`, the checker's tests as propositions; `IsRot` is `M3.IsRot` of
`Lemmas/Rot`; what `flip_handedness` does to the stored angles, and twice on a whole record; fixtures of the examples. -/
namespace CryoCat.C05

/-- `roundHalfUp` is `Round.roundAway` on ℚ -/
theorem roundHalfUp_eq (q : Rat) : roundHalfUp q = Round.roundAway q := (Round.roundAway_eq_floor' q).symm

theorem absR_eq_abs (q : Rat) : absR q = |q| := by
  unfold absR
  split
  · rw [abs_of_nonneg]; assumption
  · rw [abs_of_neg]; linarith

theorem isInt_iff (q : Rat) : isInt q = true ↔ ∃ n : Int, q = (n : Rat) := by
  constructor
  · intro h
    exact ⟨q.num, ((Rat.den_eq_one_iff q).1 (by simpa [isInt] using h)).symm⟩
  · rintro ⟨n, rfl⟩
    simp [isInt]

section rot
variable {α : Type} [CommRing α]

def IsRot (m : M3 α) : Prop := m.Orth ∧ m.det = 1

theorem IsRot.rot {m : M3 α} (h : IsRot m) : m.IsRot := h

theorem IsRot.cofactor {m : M3 α} (h : IsRot m) :
    m.a11 = m.a22 * m.a33 - m.a23 * m.a32 ∧ m.a12 = m.a23 * m.a31 - m.a21 * m.a33 ∧ m.a13 = m.a21 * m.a32 - m.a22 * m.a31 ∧
    m.a21 = m.a13 * m.a32 - m.a12 * m.a33 ∧ m.a22 = m.a11 * m.a33 - m.a13 * m.a31 ∧ m.a23 = m.a12 * m.a31 - m.a11 * m.a32 ∧
    m.a31 = m.a12 * m.a23 - m.a13 * m.a22 ∧ m.a32 = m.a13 * m.a21 - m.a11 * m.a23 ∧ m.a33 = m.a11 * m.a22 - m.a12 * m.a21 :=
  h.rot.cofactor

end rot

section ordered
variable {α : Type} [_root_.Field α] [LinearOrder α] [IsStrictOrderedRing α]

/-- the middle point has non-negative sine: theta in [0°, 180°], as scipy returns it -/
theorem exists_zxz_of_rot {m : M3 α} (h : IsRot m) (hsq : ∃ s : α, 0 ≤ s ∧ s * s = 1 - m.a33 * m.a33) :
    ∃ cp sp ct st cs ss : α, cp * cp + sp * sp = 1 ∧ ct * ct + st * st = 1 ∧ cs * cs + ss * ss = 1 ∧ 0 ≤ st ∧
      zxz cp sp ct st cs ss = m :=
  h.rot.exists_zxz hsq

end ordered

section flip
variable {α : Type} [CommRing α] [DecidableEq α]

theorem flipP_tomo (d : Dims α) (p : Particle α) : (flipP d p).tomo_id = p.tomo_id := by
  unfold flipP; split <;> rfl

theorem flipP_angles (d : Dims α) (p : Particle α) :
    (flipP d p).phi = p.phi ∧ (flipP d p).theta = -p.theta ∧ (flipP d p).psi = p.psi := by
  unfold flipP; split <;> exact ⟨rfl, rfl, rfl⟩

theorem flipP_flipP (d : Dims α) (p : Particle α) : flipP d (flipP d p) = p := by
  cases h : dimOf d p.tomo_id with
  | none => unfold flipP; simp only [h, neg_neg]
  | some dz => unfold flipP; simp only [h, neg_neg, sub_sub_cancel]

end flip

/-! fixtures for the non-vacuity examples of `Props/C05` -/

/-- exact quarter-turn services on `Rat`: cos/sin of multiples of 90°, Euler triples of the two matrices used -/
def exS : Svc Rat where
  cs a := if a = 90 then (0, 1) else if a = -90 then (0, -1) else if a = 180 ∨ a = -180 then (-1, 0) else (1, 0)
  euler m := if m = rz 0 1 then (90, 0, 0) else if m = rx 0 1 * rz 0 1 then (90, 90, 0) else (0, 0, 0)
  rnd := roundHalfUp

/-- a particle with half-integer ties of both signs, non-zero shifts and a non-trivial orientation -/
def exP : Particle Rat :=
  { (default : Particle Rat) with x := 5, y := -7, z := 3, shift_x := 1/2, shift_y := -5/2, shift_z := 1/4,
                                  phi := 0, theta := 90, psi := 0, tomo_id := 2 }

end CryoCat.C05
