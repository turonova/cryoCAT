import CryoCat.Model.C08_Cell
import Mathlib.Algebra.Order.Ring.Rat
import Mathlib.Tactic.NormNum
/-! C08 — the executed instance of the checkers, `Cell` = `Rat`: its cell comparison is lawful, its filling idempotent,
its naturals injective; and a small number type with a missing value (`W`) on which the witnesses of the open known
findings C08-K2 / C08-K3 are computed. -/
namespace CryoCat.C08
open CryoCat
set_option linter.unusedSectionVars false

theorem eqvQ_lawful : ∀ a b : Cell, eqvQ a b = true ↔ a = b := by
  intro a b; unfold eqvQ; exact beq_iff_eq

theorem missingQ_ne_zero : (0 : Rat) ≠ missingQ := by
  unfold missingQ; norm_num

theorem fillQ_idem : ∀ v : Cell, fillQ (fillQ v) = fillQ v := by
  intro v
  unfold fillQ
  by_cases h : v = missingQ
  · subst h
    simp [missingQ_ne_zero]
  · simp [h]

theorem natQ_inj : ∀ i j : Nat, natQ i = natQ j → i = j := by
  intro i j h
  unfold natQ at h
  exact_mod_cast h

/-! A number type with a missing value, IEEE-like: `nan` is `==` to nothing (not even itself), below and
above nothing, and absorbs `+` / `-`.  Used ONLY for the concrete witnesses of C08-K2 / C08-K3. -/
inductive W
  | n (i : Int)
  | nan
deriving DecidableEq, Repr

namespace W
instance : BEq W := ⟨fun a b => match a, b with | n i, n j => i == j | _, _ => false⟩
instance : LT W := ⟨fun a b => match a, b with | n i, n j => i < j | _, _ => False⟩
instance : DecidableLT W := fun a b => match a, b with
  | n i, n j => inferInstanceAs (Decidable (i < j))
  | n _, nan => isFalse (fun h => h)
  | nan, n _ => isFalse (fun h => h)
  | nan, nan => isFalse (fun h => h)
instance : Add W := ⟨fun a b => match a, b with | n i, n j => n (i + j) | _, _ => nan⟩
instance : Sub W := ⟨fun a b => match a, b with | n i, n j => n (i - j) | _, _ => nan⟩
instance : OfNat W 0 := ⟨n 0⟩
instance : OfNat W 1 := ⟨n 1⟩
/-- the same cell (a missing value is the same cell as a missing value) -/
def same (a b : W) : Bool := decide (a = b)
def isNan : W → Bool
  | nan => true
  | _ => false
def row (id obj score : W) : Particle W :=
  ((Particle.ofFn (fun _ => n 0)).set .subtomo_id id |>.set .object_id obj).set .score score
end W

/-- pandas' `DataFrame.drop_duplicates(subset=f)` AS IT IS: `duplicated` treats two missing ids as THE SAME id
(`same`), unlike `==` — the as-is rendering behind the open known finding C08-K2 (the model's `firstPer` compares
with `==` and keeps every row without an id) -/
def firstPerSame {α : Type} (same : α → α → Bool) (f : Field) : Motl α → Motl α
  | [] => []
  | p :: l => p :: (firstPerSame same f l).filter (fun q => !(same (q.get f) (p.get f)))

end CryoCat.C08
