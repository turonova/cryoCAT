import CryoCat.Model.C02_Layout
import CryoCat.Model.C02_Comments
import CryoCat.Lemmas.Text
import CryoCat.Lemmas.List
/-! C02 — the tokenizer: characters → tokens of one line; lines ↔ text; CRLF line ends (a CR before the line break is white
space at the end of the line, or the last character of a comment, removed by `strip`, so the tokens of the CRLF form of a text
are the tokens of the text). Core Lean only. -/
namespace CryoCat.C02
open Text

theorem hash_eq : hash = '#' := rfl
theorem nl_eq : nl = '\n' := rfl
theorem loopKw_eq : Gen.C02.loopKw = ['l', 'o', 'o', 'p', '_'] := rfl
theorem propPrefix_eq : Gen.C02.propPrefix = '_' := rfl

theorem isWs_iff (c : Char) :
    isWs c = true ↔ (c.toNat = 0x09 ∨ (0x0B ≤ c.toNat ∧ c.toNat ≤ 0x0D) ∨ (0x1C ≤ c.toNat ∧ c.toNat ≤ 0x20) ∨ c.toNat = 0x85 ∨
      c.toNat = 0xA0 ∨ c.toNat = 0x1680 ∨ (0x2000 ≤ c.toNat ∧ c.toNat ≤ 0x200A) ∨ (0x2028 ≤ c.toNat ∧ c.toNat ≤ 0x2029) ∨
      c.toNat = 0x202F ∨ c.toNat = 0x205F ∨ c.toNat = 0x3000) := by
  have one (a n : Nat) : (a ≤ n ∧ n ≤ a) ↔ n = a := by omega
  simp only [isWs, wsRanges, List.any_cons, List.any_nil, Bool.or_false, Bool.or_eq_true, Bool.and_eq_true, decide_eq_true_eq, one]

theorem ws_ne_hash {c : Char} (h : isWs c = true) : c ≠ '#' := ne_of_test h rfl

theorem ws_ne_nl {c : Char} (h : isWs c = true) : c ≠ '\n' := ne_of_test h rfl

theorem go_word (w : Word) (cur acc rest) (hw : ∀ c ∈ w, isWs c = false ∧ c ≠ '#' ∧ c ≠ '\n') :
    go cur acc (w ++ rest) = go (w.reverse ++ cur) acc rest := by
  induction w generalizing cur with
  | nil => simp
  | cons c w ih =>
    have hc := hw c (by simp)
    simp only [List.cons_append, go, hash_eq, hc.2.1, if_false, hc.1]
    rw [ih (c :: cur) (fun d hd => hw d (by simp [hd]))]
    simp

theorem go_pad (s : List Char) (acc rest) (hs : PadOk s) :
    go [] acc (s ++ rest) = go [] acc rest := by
  induction s with
  | nil => simp
  | cons c s ih =>
    have hc := hs c (by simp)
    have := ws_ne_hash hc
    simp only [List.cons_append, go, hash_eq, this, if_false, hc, if_true, flush]
    simpa using ih (fun d hd => hs d (by simp [hd]))

theorem go_sep (s : List Char) (cur acc rest) (hs : PadOk s) (hne : s ≠ []) :
    go cur acc (s ++ rest) = go [] (flush cur acc) rest := by
  cases s with
  | nil => exact absurd rfl hne
  | cons c s =>
    have hc := hs c (by simp)
    have := ws_ne_hash hc
    simp only [List.cons_append, go, hash_eq, this, if_false, hc, if_true]
    exact go_pad s _ rest (fun d hd => hs d (by simp [hd]))

theorem go_tail (cur acc tl) (ht : Tail tl) : go cur acc tl = finish (flush cur acc) tl := by
  rcases ht with rfl | ⟨c, rfl, _⟩ <;> simp [go, finish, hash_eq]

theorem sepsOk_cons_iff (p : Word × List Char) (items : List (Word × List Char)) :
    SepsOk (p :: items) ↔ (items = [] ∨ p.2 ≠ []) ∧ SepsOk items := by
  cases items <;> simp [SepsOk]

theorem go_render (items : List (Word × List Char)) (acc tl)
    (hw : ∀ p ∈ items, WordOk p.1 ∧ PadOk p.2) (hs : SepsOk items) (ht : Tail tl) :
    go [] acc (render items ++ tl) = finish ((items.map (·.1)).reverse ++ acc) tl := by
  induction items generalizing acc with
  | nil => simpa [render, flush] using go_tail [] acc tl ht
  | cons p rest ih =>
    obtain ⟨w, s⟩ := p
    have hp := hw (w, s) (by simp)
    obtain ⟨hlast, hs'⟩ := (sepsOk_cons_iff _ _).1 hs
    have hwne : w.reverse ≠ [] := by simpa using hp.1.1
    simp only [render, List.append_assoc]
    rw [go_word w [] acc _ hp.1.2, List.append_nil]
    by_cases hsne : s = []
    · -- no blank after the word: it is the last one
      obtain rfl : rest = [] := hlast.resolve_right (not_not_intro hsne)
      subst hsne
      simp only [List.nil_append, render]
      rw [go_tail _ _ _ ht]; simp [flush, hwne]
    · rw [go_sep s _ _ _ hp.2 hsne, ih _ (fun q hq => hw q (by simp [hq])) hs']
      simp [flush, hwne]

theorem tokenizeLine_line (l : Line) (h : l.Ok) : tokenizeLine l.text = finish l.words.reverse l.tail := by
  obtain ⟨hl, hw, hs, ht⟩ := h
  unfold tokenizeLine Line.text
  rw [go_pad l.lead [] _ hl, go_render l.items [] l.tail hw hs ht]; simp [Line.words]

theorem lineToks_line (l : Line) (h : l.Ok) : lineToks l.text = l.toks := by
  unfold lineToks
  rw [tokenizeLine_line l h]
  unfold Line.toks
  cases htl : l.tail <;> simp [finish, commentToks]

theorem render_no_nl (items : List (Word × List Char)) (hw : ∀ p ∈ items, WordOk p.1 ∧ PadOk p.2) :
    '\n' ∉ render items := by
  induction items with
  | nil => simp [render]
  | cons p rest ih =>
    obtain ⟨w, s⟩ := p
    have hp := hw (w, s) (by simp)
    simp only [render, List.mem_append, not_or]
    refine ⟨⟨fun h => (hp.1.2 _ h).2.2 rfl, fun h => ws_ne_nl (hp.2 _ h) rfl⟩, ih (fun q hq => hw q (by simp [hq]))⟩

theorem line_no_nl (l : Line) (h : l.Ok) : '\n' ∉ l.text := by
  obtain ⟨hl, hw, _, ht⟩ := h
  simp only [Line.text, List.mem_append, not_or]
  refine ⟨fun hh => ws_ne_nl (hl _ hh) rfl, render_no_nl _ hw, ?_⟩
  rcases ht with h0 | ⟨c, hc, hn⟩
  · simp [h0]
  · rw [hc]; simp only [List.mem_cons, not_or]; exact ⟨by decide, hn⟩

theorem splitGo_append (l cur r : List Char) (h : '\n' ∉ l) : splitGo cur (l ++ r) = splitGo (l.reverse ++ cur) r := by
  induction l generalizing cur with
  | nil => rfl
  | cons c l ih =>
    have hc : c ≠ '\n' := fun e => h (by simp [e])
    simp only [List.cons_append, splitGo, nl_eq, hc, if_false]
    rw [ih (c :: cur) (fun hh => h (by simp [hh]))]; simp

theorem splitGo_line (l cur rest) (h : '\n' ∉ l) :
    splitGo cur (l ++ '\n' :: rest) = (cur.reverse ++ l) :: splitGo [] rest := by
  rw [splitGo_append l cur _ h]; simp [splitGo, nl_eq]

theorem splitGo_last (l cur) (h : '\n' ∉ l) : splitGo cur l = [cur.reverse ++ l] := by
  simpa [splitGo] using splitGo_append l cur [] h

theorem splitLines_join (ls : List (List Char)) (hne : ls ≠ []) (h : ∀ l ∈ ls, '\n' ∉ l) :
    splitLines (joinLines ls) = ls := by
  unfold splitLines
  induction ls with
  | nil => exact absurd rfl hne
  | cons l ls ih =>
    cases ls with
    | nil => simpa [joinLines] using splitGo_last l [] (h l (by simp))
    | cons l' ls =>
      simp only [joinLines]
      rw [splitGo_line l [] _ (h l (by simp))]
      simp only [List.reverse_nil, List.nil_append]
      rw [ih (by simp) (fun x hx => h x (by simp [hx]))]

theorem tokenize_lines (ls : List Line) (hne : ls ≠ []) (h : ∀ l ∈ ls, l.Ok) :
    tokenize (joinLines (ls.map Line.text)) = ls.flatMap Line.toks := by
  unfold tokenize
  rw [splitLines_join _ (by simpa using hne) (by
    intro x hx
    obtain ⟨l, hl, rfl⟩ := List.mem_map.1 hx
    exact line_no_nl l (h l hl)), List.flatMap_map]
  exact Lists.flatMap_congr fun l hl => lineToks_line l (h l hl)

/-! ### CRLF line ends -/

theorem cr_ws : isWs '\r' = true := by decide
theorem cr_ne_hash : '\r' ≠ hash := by decide

theorem flush_nil (acc : List Word) : flush [] acc = acc := rfl

theorem go_cr (l : List Char) (cur : List Char) (acc : List Word) :
    go cur acc (l ++ ['\r']) = ((go cur acc l).1, (go cur acc l).2.map (· ++ ['\r'])) := by
  induction l generalizing cur acc with
  | nil =>
    simp only [List.nil_append, go, cr_ne_hash, if_false, cr_ws, if_true, flush_nil, Option.map_none]
  | cons c l ih =>
    simp only [List.cons_append, go]
    by_cases h1 : c = hash
    · simp [h1]
    · simp only [h1, if_false]
      by_cases h2 : isWs c = true
      · simp only [h2, if_true]; exact ih _ _
      · simp only [h2]; exact ih _ _

theorem rstripWs_cr (c : List Char) : rstripWs (c ++ ['\r']) = rstripWs c := by
  simp [rstripWs, cr_ws]

theorem stripWs_cr (c : List Char) : stripWs (c ++ ['\r']) = stripWs c := by
  simp [stripWs, rstripWs_cr]

theorem lineToks_cr (l : List Char) : lineToks (l ++ ['\r']) = lineToks l := by
  unfold lineToks tokenizeLine
  rw [go_cr]
  cases h : (go [] [] l).2 with
  | none => simp [h]
  | some c => simp [h, stripWs_cr]

def addCR : List (List Char) → List (List Char)
  | [] => []
  | [l] => [l]
  | l :: l' :: ls => (l ++ ['\r']) :: addCR (l' :: ls)

theorem splitGo_ne_nil (cur : List Char) (txt : List Char) : splitGo cur txt ≠ [] := by
  induction txt generalizing cur with
  | nil => simp [splitGo]
  | cons c cs ih =>
    simp only [splitGo]
    split
    · simp
    · exact ih _

theorem splitGo_crlf (cur : List Char) (txt : List Char) : splitGo cur (toCRLF txt) = addCR (splitGo cur txt) := by
  induction txt generalizing cur with
  | nil => simp [toCRLF, splitGo, addCR]
  | cons c cs ih =>
    by_cases hc : c = '\n'
    · subst hc
      simp only [toCRLF, if_true]
      have h1 : splitGo cur ('\r' :: '\n' :: toCRLF cs) = (cur.reverse ++ ['\r']) :: splitGo [] (toCRLF cs) := by
        simp [splitGo, nl, Gen.C02.lineSep]
      have h2 : splitGo cur ('\n' :: cs) = cur.reverse :: splitGo [] cs := by
        simp [splitGo, nl, Gen.C02.lineSep]
      rw [h1, h2, ih]
      obtain ⟨x, xs, hx⟩ := List.exists_cons_of_ne_nil (splitGo_ne_nil [] cs)
      rw [hx]; rfl
    · have hc' : c ≠ nl := by simpa [nl, Gen.C02.lineSep] using hc
      simp only [toCRLF, hc, if_false, splitGo, hc']
      exact ih _

theorem flatMap_addCR (ls : List (List Char)) : (addCR ls).flatMap lineToks = ls.flatMap lineToks := by
  induction ls with
  | nil => rfl
  | cons l ls ih =>
    cases ls with
    | nil => rfl
    | cons l' ls' =>
      simp only [addCR, List.flatMap_cons, lineToks_cr] at ih ⊢
      rw [ih]

theorem tokenize_crlf (txt : List Char) : tokenize (toCRLF txt) = tokenize txt := by
  unfold tokenize splitLines
  rw [splitGo_crlf, flatMap_addCR]

end CryoCat.C02
