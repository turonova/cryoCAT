import CryoCat.Model.C12_Dft
import CryoCat.Lemmas.DftCore
import Mathlib.Algebra.Module.Pi
import Mathlib.Algebra.Field.Rat
import Mathlib.Algebra.Algebra.Basic
/-! What the operator theorems of `Props/C12` assume of the transform pair (`Transform`), and the model's separable DFT
(`Model/C12_Dft`) over a field with primitive roots of unity meeting it: linear, and `idft3` a two-sided inverse of `dft3` (on the
axis range the 1-D pair is the one of `Lemmas/DftCore`, off it both maps pass their argument through). So those theorems hold for
the transform the driver executes, not only for an abstract pair. -/
namespace CryoCat.C12

/-- The algebraic facts about `numpy.fft.fftn / ifftn` and `np.real` that the operator theorems use, as a structure of
hypotheses (recorded assumptions, probed numerically by the harness). -/
structure Transform (R : Type) {C : Type} [Field R] [AddCommGroup C] [Module R C]
    (F Finv : (Idx → C) → (Idx → C)) (re : C → C) : Prop where
  F_add : ∀ x y, F (x + y) = F x + F y
  F_smul : ∀ (a : R) x, F (a • x) = a • F x
  Finv_add : ∀ x y, Finv (x + y) = Finv x + Finv y
  Finv_smul : ∀ (a : R) x, Finv (a • x) = a • Finv x
  left_inv : ∀ x, Finv (F x) = x
  right_inv : ∀ y, F (Finv y) = y
  re_add : ∀ a b, re (a + b) = re a + re b
  re_smul : ∀ (a : R) c, re (a • c) = a • re c
  re_idem : ∀ c, re (re c) = re c

section
variable {R C : Type} [Field R] [AddCommGroup C] [Module R C] {F Finv : (Idx → C) → (Idx → C)} {re : C → C}

theorem Transform.Finv_sub (T : Transform R F Finv re) (x y : Idx → C) : Finv (x - y) = Finv x - Finv y := by
  have h := T.Finv_add (x - y) y
  rw [sub_add_cancel] at h
  rw [h, add_sub_cancel_right]

theorem Transform.re_sub (T : Transform R F Finv re) (a b : C) : re (a - b) = re a - re b := by
  have h := T.re_add (a - b) b
  rw [sub_add_cancel] at h
  rw [h, add_sub_cancel_right]

end

/-- the hypotheses are consistent: the identity transform on `C = R` satisfies them -/
example : Transform Rat (C := Rat) id id id :=
  ⟨fun _ _ => rfl, fun _ _ => rfl, fun _ _ => rfl, fun _ _ => rfl, fun _ => rfl, fun _ => rfl, fun _ _ => rfl, fun _ _ => rfl, fun _ => rfl⟩

open Finset

section one
variable {C : Type} [Field C]

theorem sumN_eq (n : Nat) (f : Nat → C) : sumN n f = ∑ j ∈ range n, f j := by
  induction n with
  | zero => simp [sumN]
  | succ n ih => rw [sumN, ih, sum_range_succ]

structure Root (n : Nat) (ω : C) : Prop where
  prim : IsPrimitiveRoot ω n
  pos : 0 < n
  ne : (n : C) ≠ 0

variable {n : Nat} {ω : C}

theorem Root.pow_n (h : Root n ω) : ω ^ n = 1 := h.prim.pow_eq_one
theorem Root.ne_zero (h : Root n ω) : ω ≠ 0 := h.prim.ne_zero (Nat.pos_iff_ne_zero.1 h.pos)
theorem Root.tw_mod (h : Root n ω) (m : Nat) : ω ^ (m % n) = ω ^ m := (pow_eq_pow_mod m h.pow_n).symm
theorem Root.tw_inv (h : Root n ω) (m : Nat) : ω ^ ((n - m % n) % n) = (ω ^ m)⁻¹ := by
  rw [Dft.pow_sub_mod h.pow_n (Nat.mod_lt m h.pos).le, h.tw_mod]

theorem dft1_apply (h : Root n ω) (x : Int → C) (k : Nat) (hk : k < n) :
    dft1 n (fun m => ω ^ m) x (k : Int) = ∑ j ∈ range n, ω ^ (j * k) * x (j : Int) := by
  unfold dft1
  rw [if_pos ⟨by omega, by exact_mod_cast hk⟩, sumN_eq]
  apply sum_congr rfl; intro j _
  simp only [Int.toNat_natCast]
  rw [h.tw_mod]

theorem idft1_apply (h : Root n ω) (y : Int → C) (i : Nat) (hi : i < n) :
    idft1 n (fun m => ω ^ m) (n : C)⁻¹ y (i : Int) = (n : C)⁻¹ * ∑ k ∈ range n, (ω ^ (k * i))⁻¹ * y (k : Int) := by
  unfold idft1
  rw [if_pos ⟨by omega, by exact_mod_cast hi⟩, sumN_eq]
  congr 1
  apply sum_congr rfl; intro k _
  simp only [Int.toNat_natCast]
  rw [h.tw_inv]

theorem int_of_range (n : Nat) (i : Int) (h : 0 ≤ i ∧ i < (n : Int)) : ∃ a : Nat, a < n ∧ i = (a : Int) :=
  ⟨i.toNat, by omega, by omega⟩

/-- On all of `Int → C`: off the axis both maps pass their argument through. -/
theorem dft1_left_inv (h : Root n ω) (x : Int → C) :
    idft1 n (fun m => ω ^ m) (n : C)⁻¹ (dft1 n (fun m => ω ^ m) x) = x := by
  funext i
  by_cases hi : 0 ≤ i ∧ i < (n : Int)
  · obtain ⟨a, ha, rfl⟩ := int_of_range n i hi
    rw [idft1_apply h _ a ha, sum_range]
    simp only [fun k : Fin n => dft1_apply h x k.val k.isLt, sum_range]
    exact Dft.inversion h.prim h.ne (fun j => x j.val) ⟨a, ha⟩
  · unfold idft1 dft1
    rw [if_neg hi, if_neg hi]

theorem dft1_right_inv (h : Root n ω) (y : Int → C) :
    dft1 n (fun m => ω ^ m) (idft1 n (fun m => ω ^ m) (n : C)⁻¹ y) = y := by
  funext i
  by_cases hi : 0 ≤ i ∧ i < (n : Int)
  · obtain ⟨a, ha, rfl⟩ := int_of_range n i hi
    rw [dft1_apply h _ a ha, sum_range]
    simp only [fun j : Fin n => idft1_apply h y j.val j.isLt, sum_range]
    exact Dft.inversion' h.prim h.ne (fun m => y m.val) ⟨a, ha⟩
  · unfold dft1 idft1
    rw [if_neg hi, if_neg hi]

end one

section lin
set_option linter.unusedSectionVars false
variable {R C : Type} [Field R] [Field C] [Algebra R C]

theorem dft1_add (n : Nat) (tw : Nat → C) (f g : Int → C) (k : Int) :
    dft1 n tw (fun u => f u + g u) k = dft1 n tw f k + dft1 n tw g k := by
  simp only [dft1]
  split_ifs
  · rw [sumN_eq, sumN_eq, sumN_eq, ← sum_add_distrib]
    apply sum_congr rfl; intro j _; ring
  · rfl

theorem dft1_smul (n : Nat) (tw : Nat → C) (a : R) (f : Int → C) (k : Int) :
    dft1 n tw (fun u => a • f u) k = a • dft1 n tw f k := by
  simp only [dft1]
  split_ifs
  · rw [sumN_eq, sumN_eq, smul_sum]
    apply sum_congr rfl; intro j _; rw [mul_smul_comm]
  · rfl

theorem idft1_add (n : Nat) (tw : Nat → C) (c : C) (f g : Int → C) (k : Int) :
    idft1 n tw c (fun u => f u + g u) k = idft1 n tw c f k + idft1 n tw c g k := by
  simp only [idft1]
  split_ifs
  · rw [sumN_eq, sumN_eq, sumN_eq, ← mul_add, ← sum_add_distrib]
    congr 1
    apply sum_congr rfl; intro j _; ring
  · rfl

theorem idft1_smul (n : Nat) (tw : Nat → C) (c : C) (a : R) (f : Int → C) (k : Int) :
    idft1 n tw c (fun u => a • f u) k = a • idft1 n tw c f k := by
  simp only [idft1]
  split_ifs
  · rw [sumN_eq, sumN_eq, ← mul_smul_comm, smul_sum]
    congr 1
    apply sum_congr rfl; intro j _; rw [mul_smul_comm]
  · rfl

theorem alongX_inv (T Ti : (Int → C) → (Int → C)) (h : ∀ f, Ti (T f) = f) (x : Idx → C) : alongX Ti (alongX T x) = x :=
  funext fun i => congrFun (h (fun a => x (a, i.2.1, i.2.2))) i.1
theorem alongY_inv (T Ti : (Int → C) → (Int → C)) (h : ∀ f, Ti (T f) = f) (x : Idx → C) : alongY Ti (alongY T x) = x :=
  funext fun i => congrFun (h (fun b => x (i.1, b, i.2.2))) i.2.1
theorem alongZ_inv (T Ti : (Int → C) → (Int → C)) (h : ∀ f, Ti (T f) = f) (x : Idx → C) : alongZ Ti (alongZ T x) = x :=
  funext fun i => congrFun (h (fun c => x (i.1, i.2.1, c))) i.2.2

/-- what the operator theorems use of `np.real` -/
structure RealPart (R : Type) {C : Type} [Field R] [Field C] [Algebra R C] (re : C → C) : Prop where
  re_add : ∀ a b, re (a + b) = re a + re b
  re_smul : ∀ (a : R) c, re (a • c) = a • re c
  re_idem : ∀ c, re (re c) = re c

theorem dft3_transform (d : Dims) (ωx ωy ωz : C) (hx : Root d.nx ωx) (hy : Root d.ny ωy) (hz : Root d.nz ωz)
    (re : C → C) (hre : RealPart R re) :
    Transform R (dft3 d (fun m => ωx ^ m) (fun m => ωy ^ m) (fun m => ωz ^ m))
      (idft3 d (fun m => ωx ^ m) (fun m => ωy ^ m) (fun m => ωz ^ m) (d.nx : C)⁻¹ (d.ny : C)⁻¹ (d.nz : C)⁻¹) re where
  F_add x y := by
    funext i
    simp only [dft3, alongX, alongY, alongZ, Pi.add_apply, dft1_add]
  F_smul a x := by
    funext i
    simp only [dft3, alongX, alongY, alongZ, Pi.smul_apply, dft1_smul]
  Finv_add x y := by
    funext i
    simp only [idft3, alongX, alongY, alongZ, Pi.add_apply, idft1_add]
  Finv_smul a x := by
    funext i
    simp only [idft3, alongX, alongY, alongZ, Pi.smul_apply, idft1_smul]
  left_inv x := by
    unfold dft3 idft3
    rw [alongZ_inv _ _ (dft1_left_inv hz), alongY_inv _ _ (dft1_left_inv hy), alongX_inv _ _ (dft1_left_inv hx)]
  right_inv y := by
    unfold dft3 idft3
    rw [alongX_inv _ _ (dft1_right_inv hx), alongY_inv _ _ (dft1_right_inv hy), alongZ_inv _ _ (dft1_right_inv hz)]
  re_add := hre.re_add
  re_smul := hre.re_smul
  re_idem := hre.re_idem

end lin
end CryoCat.C12
