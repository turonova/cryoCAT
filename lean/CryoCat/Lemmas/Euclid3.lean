import CryoCat.Model.M3
import Mathlib.Tactic.Ring
import Mathlib.Tactic.Linarith
import Mathlib.Algebra.Order.Ring.Abs
/-! Euclidean 3-space over an ordered ring (ℤ, ℚ, ℝ …): sums of three squares, Cauchy–Schwarz and the triangle inequality
without square roots. -/
namespace CryoCat

section
variable {R : Type} [Ring R] [LinearOrder R] [IsStrictOrderedRing R]

theorem sq3_nonneg (a b c : R) : 0 ≤ a * a + b * b + c * c :=
  add_nonneg (add_nonneg (mul_self_nonneg a) (mul_self_nonneg b)) (mul_self_nonneg c)

theorem sq3_eq_zero {a b c : R} (h : a * a + b * b + c * c = 0) : a = 0 ∧ b = 0 ∧ c = 0 := by
  obtain ⟨h12, h3⟩ := (add_eq_zero_iff_of_nonneg (add_nonneg (mul_self_nonneg a) (mul_self_nonneg b)) (mul_self_nonneg c)).1 h
  obtain ⟨h1, h2⟩ := (add_eq_zero_iff_of_nonneg (mul_self_nonneg a) (mul_self_nonneg b)).1 h12
  exact ⟨mul_self_eq_zero.1 h1, mul_self_eq_zero.1 h2, mul_self_eq_zero.1 h3⟩
end

end CryoCat

namespace CryoCat.V3
variable {α : Type} [CommRing α]

/-- Lagrange's identity: Cauchy–Schwarz as an equation -/
theorem lagrange (u v : V3 α) : normSq u * normSq v - dot u v * dot u v = normSq (cross u v) := by
  simp only [normSq, dot, cross]; ring

theorem normSq_add (u v : V3 α) : normSq (u + v) = normSq u + 2 * dot u v + normSq v := by
  show normSq (add u v) = _
  simp only [normSq, dot, add]; ring

variable [LinearOrder α] [IsStrictOrderedRing α]

theorem normSq_nonneg (u : V3 α) : 0 ≤ normSq u := sq3_nonneg _ _ _

theorem dot_sq_le (u v : V3 α) : dot u v * dot u v ≤ normSq u * normSq v := by
  rw [← sub_nonneg, lagrange]; exact normSq_nonneg _

/-- `√A + √m ≤ r` without square roots: a point of squared length `≤ A` moved by an offset of squared length `≤ m` stays within
squared length `B` when `A + m ≤ B` and `4·A·m ≤ (B − A − m)²` -/
theorem normSq_add_le (u v : V3 α) (A m B : α) (hA : normSq u ≤ A) (hm : normSq v ≤ m) (h1 : A + m ≤ B)
    (h2 : 4 * (A * m) ≤ (B - A - m) * (B - A - m)) : normSq (u + v) ≤ B := by
  have hd : dot u v * dot u v ≤ A * m :=
    (dot_sq_le u v).trans (mul_le_mul hA hm (normSq_nonneg v) ((normSq_nonneg u).trans hA))
  -- `(2 u·v)² ≤ 4·A·m ≤ (B − A − m)²`, so `2 u·v ≤ B − A − m`
  have h3 : |2 * dot u v| ≤ |B - A - m| := abs_le_iff_mul_self_le.2 (by linarith only [hd, h2])
  rw [abs_of_nonneg (by linarith only [h1] : 0 ≤ B - A - m)] at h3
  rw [normSq_add]
  linarith only [(abs_le.1 h3).2, hA, hm]

/-- `√A > r + √m` without square roots -/
theorem lt_normSq_of_add (u v : V3 α) (A m B : α) (hA : A ≤ normSq u) (hm : normSq v ≤ m) (h1 : B + m < A)
    (h2 : 4 * (B * m) < (A - B - m) * (A - B - m)) : B < normSq (u + v) := by
  by_contra h
  rw [not_lt] at h
  -- with `p = u + v` inside `B`: `|u|² = |p|² − 2 p·v + |v|² < B + (A − B − m) + m`
  have hd : dot (u + v) v * dot (u + v) v ≤ B * m :=
    (dot_sq_le _ v).trans (mul_le_mul h hm (normSq_nonneg v) ((normSq_nonneg _).trans h))
  have h3 : |2 * dot (u + v) v| < |A - B - m| := abs_lt_iff_mul_self_lt.2 (by linarith only [hd, h2])
  rw [abs_of_nonneg (by linarith only [h1] : 0 ≤ A - B - m)] at h3
  have e : normSq u = normSq (u + v) - 2 * dot (u + v) v + normSq v := by
    show _ = normSq (add u v) - 2 * dot (add u v) v + _
    simp only [normSq, dot, add]; ring
  linarith only [(abs_lt.1 h3).1, hA, hm, h, e]

end CryoCat.V3
