import CryoCat.Lemmas.C02_Num
/-! C02 — the cells the writer prints for numbers: they are tokens of the number grammar (and well-formed cells), text cells
outside the grammar are not; `str(n)` of an integer is an integer token, the `repr` of a float never is; numeric and integer
typing of written columns. Core Lean only. -/
namespace CryoCat.C02
open Text

def signOf (neg : Bool) : Sign := if neg then .minus else .none

theorem signText_eq (neg : Bool) : signText neg = (signOf neg).text := by cases neg <;> rfl

theorem expDigits_ok (e : Nat) : expDigits e ≠ [] ∧ AllDigits (expDigits e) := by
  unfold expDigits
  split
  · refine ⟨by simp, ?_⟩
    intro c hc
    simp only [List.mem_cons] at hc
    rcases hc with rfl | hc
    · decide
    · exact natDigits_all e c hc
  · exact ⟨natDigits_ne e, natDigits_all e⟩

def intDec : Int → Dec
  | .ofNat k => ⟨.none, natDigits k, none, none⟩
  | .negSucc k => ⟨.minus, natDigits (k + 1), none, none⟩

theorem intDec_spec (n : Int) : (intDec n).Ok ∧ intStr n = (intDec n).text := by
  cases n with
  | ofNat k =>
    exact ⟨⟨natDigits_all k, by simp [intDec], Or.inl (natDigits_ne k), by simp [intDec]⟩,
      by simp [intStr, intDec, Dec.text, Sign.text, fracText, expText]⟩
  | negSucc k =>
    exact ⟨⟨natDigits_all _, by simp [intDec], Or.inl (natDigits_ne _), by simp [intDec]⟩,
      by simp [intStr, intDec, Dec.text, Sign.text, fracText, expText]⟩

theorem intStr_dec (n : Int) : DecTok (intStr n) := ⟨intDec n, intDec_spec n⟩

/-- the four forms of `floatBody`: exponent form, `0.000ddd`, `ddd000.0`, `dd.ddd` -/
def floatMag (ds : Word) (decpt : Int) : Dec :=
  if decpt > 16 ∨ decpt < -3 then
    ⟨.none, ds.take 1, if ds.length > 1 then some (ds.drop 1) else none,
      some ('e', if decpt - 1 < 0 then .minus else .plus, expDigits (decpt - 1).natAbs)⟩
  else if decpt ≤ 0 then ⟨.none, ['0'], some (zeros (-decpt).toNat ++ ds), none⟩
  else if ds.length ≤ decpt.toNat then ⟨.none, ds ++ zeros (decpt.toNat - ds.length), some ['0'], none⟩
  else ⟨.none, ds.take decpt.toNat, some (ds.drop decpt.toNat), none⟩

def floatDec (s : Sign) (ds : Word) (decpt : Int) : Dec := { floatMag ds decpt with sign := s }

theorem floatDec_sign (s : Sign) (ds : Word) (decpt : Int) : (floatDec s ds decpt).sign = s := rfl

theorem floatDec_spec (s : Sign) (ds : Word) (decpt : Int) (hne : ds ≠ []) (hd : AllDigits ds) :
    (floatDec s ds decpt).Ok ∧ s.text ++ floatBody ds decpt = (floatDec s ds decpt).text := by
  by_cases h1 : decpt > 16 ∨ decpt < -3
  · -- exponent form
    have he := expDigits_ok (decpt - 1).natAbs
    simp only [floatDec, floatMag, floatBody, h1, if_true]
    refine ⟨⟨allDigits_take 1 hd, ?_, Or.inl (by obtain ⟨c, r, rfl⟩ := List.exists_cons_of_ne_nil hne; simp), ?_⟩, ?_⟩
    · intro fp e
      split at e
      · cases e; exact allDigits_drop 1 hd
      · cases e
    · intro c s' x e; cases e; exact ⟨Or.inl rfl, he.1, he.2⟩
    · by_cases hl : ds.length > 1 <;> simp only [Dec.text, fracText, expText, hl, if_true, if_false] <;> split <;> simp [Sign.text]
  · by_cases h2 : decpt ≤ 0
    · -- 0.000ddd
      simp only [floatDec, floatMag, floatBody, h1, h2, if_true, if_false]
      refine ⟨⟨by intro c hc; simp at hc; rw [hc]; decide, ?_, Or.inl (by simp), by simp⟩, ?_⟩
      · intro fp e; cases e; exact allDigits_append (zeros_all _) hd
      · simp [Dec.text, fracText, expText]
    · by_cases h3 : ds.length ≤ decpt.toNat
      · -- ddd000.0
        simp only [floatDec, floatMag, floatBody, h1, h2, h3, if_true, if_false]
        refine ⟨⟨allDigits_append hd (zeros_all _), ?_, Or.inr ⟨['0'], rfl, by simp⟩, by simp⟩, ?_⟩
        · intro fp e; cases e; intro c hc; simp at hc; rw [hc]; decide
        · simp [Dec.text, fracText, expText]
      · -- dd.ddd
        simp only [floatDec, floatMag, floatBody, h1, h2, h3, if_false]
        refine ⟨⟨allDigits_take _ hd, ?_, Or.inr ⟨ds.drop decpt.toNat, rfl, ?_⟩, by simp⟩, ?_⟩
        · intro fp e; cases e; exact allDigits_drop _ hd
        · intro h0
          have := congrArg List.length h0
          simp only [List.length_drop, List.length_nil] at this
          omega
        · simp [Dec.text, fracText, expText]

theorem floatRepr_dec (neg : Bool) (ds : Word) (decpt : Int) (hne : ds ≠ []) (hd : AllDigits ds) :
    DecTok (floatRepr neg ds decpt) := by
  unfold floatRepr
  rw [signText_eq]
  exact ⟨floatDec _ ds decpt, floatDec_spec _ ds decpt hne hd⟩

theorem infStr_inf (neg : Bool) : InfTok (floatStr (.inf neg)) :=
  ⟨signOf neg, ['i', 'n', 'f'], by decide, by simp [floatStr, signText_eq]⟩

def numChar (c : Char) : Bool :=
  isDigit c || c == '+' || c == '-' || c == '.' || c == 'e' || c == 'E' || infLetter c

theorem numChar_of_digit {c : Char} (h : isDigit c = true) : numChar c = true := by simp [numChar, h]

theorem sign_chars (s : Sign) : ∀ c ∈ s.text, numChar c = true := by
  cases s <;> simp [Sign.text] <;> decide

theorem dec_chars (d : Dec) (h : d.Ok) : ∀ c ∈ d.text, numChar c = true := by
  obtain ⟨hip, hfp, _, hexp⟩ := h
  intro c hc
  simp only [Dec.text, List.mem_append] at hc
  rcases hc with hc | ⟨hc | hc⟩ | hc
  · exact sign_chars _ c hc
  · exact numChar_of_digit (hip c hc)
  · cases hf : d.frac with
    | none => simp [hf, fracText] at hc
    | some fp =>
      simp only [hf, fracText, List.mem_cons] at hc
      rcases hc with rfl | hc
      · decide
      · exact numChar_of_digit (hfp fp hf c hc)
  · cases he : d.exp with
    | none => simp [he, expText] at hc
    | some t =>
      obtain ⟨c', s, x⟩ := t
      obtain ⟨hc', _, hx⟩ := hexp c' s x he
      simp only [he, expText, List.mem_cons, List.mem_append] at hc
      rcases hc with rfl | hc | hc
      · rcases hc' with rfl | rfl <;> decide
      · exact sign_chars _ c hc
      · exact numChar_of_digit (hx c hc)

theorem numTok_chars (w : Word) (h : NumTok w) : ∀ c ∈ w, numChar c = true := by
  rcases h with ⟨d, hd, rfl⟩ | ⟨s, b, hb, rfl⟩
  · exact dec_chars d hd
  · intro c hc
    rcases List.mem_append.1 hc with h | h
    · exact sign_chars _ c h
    · simp [numChar, (infBody_letters b hb).2 c h]

theorem numTok_ne_nil (w : Word) (h : NumTok w) : w ≠ [] := by
  rcases h with ⟨d, hd, rfl⟩ | ⟨s, b, hb, rfl⟩
  · obtain ⟨c, r, hcr, _⟩ := mantissa_head d.ip d.frac hd.1 hd.2.2.1 (expText d.exp)
    simp [Dec.text, hcr]
  · simp [(infBody_letters b hb).1]

theorem numChar_plain {c : Char} (h : numChar c = true) :
    isWs c = false ∧ c ≠ '#' ∧ c ≠ '\n' ∧ c ≠ '_' ∧ c ≠ 'l' := by
  refine ⟨?_, ne_of_test h rfl, ne_of_test h rfl, ne_of_test h rfl, ne_of_test h rfl⟩
  -- a digit lies between `'0'` and `'9'`, hence in the printable ASCII range; the other characters are sixteen given ones
  simp only [numChar, infLetter, isDigit, Bool.or_eq_true, Bool.and_eq_true, beq_iff_eq, decide_eq_true_eq] at h
  rcases h with ((((((h | h) | h) | h) | h) | h) | h)
  · have h1 : 48 ≤ c.val.toNat := by simpa [Char.le_def, UInt32.le_iff_toNat_le] using h.1
    have h2 : c.val.toNat ≤ 57 := by simpa [Char.le_def, UInt32.le_iff_toNat_le] using h.2
    exact isWs_false_of_ascii (show 0x20 < c.val.toNat by omega) (show c.val.toNat < 0x85 by omega)
  all_goals first
    | (subst h; decide)
    | (rcases h with (((((((((h | h) | h) | h) | h) | h) | h) | h) | h) | h) <;> (subst h; decide))

theorem numTok_cellOk (w : Word) (h : NumTok w) : CellOk w := by
  have hc := numTok_chars w h
  have hne := numTok_ne_nil w h
  refine ⟨⟨hne, fun c hcw => ⟨(numChar_plain (hc c hcw)).1, (numChar_plain (hc c hcw)).2.1, (numChar_plain (hc c hcw)).2.2.1⟩⟩, ?_, ?_⟩
  · obtain ⟨c, r, rfl⟩ := List.exists_cons_of_ne_nil hne
    simp only [List.head?_cons, ne_eq, Option.some.injEq]
    exact (numChar_plain (hc c (by simp))).2.2.2.1
  · intro e
    have := hc 'l' (by rw [e]; simp)
    exact (numChar_plain this).2.2.2.2 rfl

theorem not_numTok_of_char (w : Word) (c : Char) (hc : c ∈ w) (h : numChar c = false) : ¬ NumTok w := by
  intro hn
  rw [numTok_chars w hn c hc] at h
  cases h

/-- cells the writer is given: any integer, a float with a non-empty digit string, a text cell of the
property's quantifier -/
def CellWF : Cell → Prop
  | .int _ => True
  | .flt (.fin _ ds _) => ds ≠ [] ∧ AllDigits ds
  | .flt _ => True
  | .txt w => CellOk w

/-- written from a number (`nan` is a float that is *not* a number for the reader) -/
def Cell.isNumber : Cell → Bool
  | .int _ => true
  | .flt (.fin _ _ _) => true
  | .flt (.inf _) => true
  | .flt .nan => false
  | .txt w => isNumTok w

theorem cell_numeric_iff (c : Cell) (h : CellWF c) : isNumTok (cellText c) = true ↔ c.isNumber = true := by
  cases c with
  | int n => simp [cellText, Cell.isNumber, (isNumTok_iff _).2 (Or.inl (intStr_dec n))]
  | flt f =>
    cases f with
    | fin neg ds decpt => simp [cellText, floatStr, Cell.isNumber, (isNumTok_iff _).2 (Or.inl (floatRepr_dec neg ds decpt h.1 h.2))]
    | inf neg => simp [cellText, Cell.isNumber, (isNumTok_iff _).2 (Or.inr (infStr_inf neg))]
    | nan => decide
  | txt w => simp [cellText, Cell.isNumber]

theorem cellText_ok (c : Cell) (h : CellWF c) : CellOk (cellText c) := by
  cases c with
  | int n => exact numTok_cellOk _ (Or.inl (intStr_dec n))
  | flt f =>
    cases f with
    | fin neg ds decpt => exact numTok_cellOk _ (Or.inl (floatRepr_dec neg ds decpt h.1 h.2))
    | inf neg => exact numTok_cellOk _ (Or.inr (infStr_inf neg))
    | nan => exact (by decide : CellOk ['n', 'a', 'n'])
  | txt w => exact h

/-- typed tables the round trip is claimed for -/
def TBlockOk (b : TBlock) : Prop :=
  CellOk b.name ∧ b.cols ≠ [] ∧ (∀ c ∈ b.cols, ColNameOk c) ∧
  ∀ r ∈ b.rows, r.length = b.cols.length ∧ ∀ c ∈ r, CellWF c

theorem texts_ok (b : TBlock) (h : TBlockOk b) : BlockOk b.texts := by
  obtain ⟨hn, hc, hcn, hr⟩ := h
  refine ⟨hn, hc, hcn, ?_⟩
  intro r hr'
  simp only [TBlock.texts, List.mem_map] at hr'
  obtain ⟨r0, hr0, rfl⟩ := hr'
  refine ⟨by simpa [TBlock.texts] using (hr r0 hr0).1, ?_⟩
  intro w hw
  obtain ⟨c, hc', rfl⟩ := List.mem_map.1 hw
  exact cellText_ok c ((hr r0 hr0).2 c hc')

theorem isIntTok_false_of_char (w : Word) (c : Char) (hc : c ∈ w) (hd : isDigit c = false) (hp : c ≠ '+') (hm : c ≠ '-') :
    isIntTok w = false := by
  -- `c` is not in the sign, so it is among the characters tested for digits
  obtain ⟨s, hs⟩ := dropSign_spec w
  have hmem : c ∈ dropSign w := by
    rw [hs] at hc
    rcases List.mem_append.1 hc with h | h
    · cases s with
      | none => simp [Sign.text] at h
      | plus => exact absurd (by simpa [Sign.text] using h) hp
      | minus => exact absurd (by simpa [Sign.text] using h) hm
    · exact h
  have hall : (dropSign w).all isDigit = false := by
    rw [Bool.eq_false_iff]; intro h
    have := List.all_eq_true.1 h c hmem
    rw [hd] at this; cases this
  simp [isIntTok, allDigits, hall]

theorem natDigits_allDigits (k : Nat) : allDigits (natDigits k) = true := by
  simp [allDigits, natDigits_ne k, all_of_allDigits (natDigits_all k)]

theorem natDigits_head_not_sign (k : Nat) : dropSign (natDigits k) = natDigits k := by
  obtain ⟨a, r, h⟩ := List.exists_cons_of_ne_nil (natDigits_ne k)
  have ha := natDigits_all k a (by simp [h])
  rw [h]; exact dropSign_text .none a r (not_sign (Or.inl ha))

theorem intStr_isInt (n : Int) : isIntTok (intStr n) = true := by
  unfold isIntTok
  cases n with
  | ofNat k => simp only [intStr]; rw [natDigits_head_not_sign]; exact natDigits_allDigits k
  | negSucc k => simp only [intStr, dropSign]; exact natDigits_allDigits (k + 1)

theorem floatBody_has_point (ds : Word) (decpt : Int) : '.' ∈ floatBody ds decpt ∨ 'e' ∈ floatBody ds decpt := by
  unfold floatBody
  split
  · right; simp
  · split
    · left; simp
    · split
      · left; simp
      · left; simp

theorem floatStr_not_int (f : FloatVal) : isIntTok (floatStr f) = false := by
  cases f with
  | fin neg ds decpt =>
    simp only [floatStr, floatRepr]
    rcases floatBody_has_point ds decpt with h | h
    · exact isIntTok_false_of_char _ '.' (List.mem_append_right _ h) (by decide) (by decide) (by decide)
    · exact isIntTok_false_of_char _ 'e' (List.mem_append_right _ h) (by decide) (by decide) (by decide)
  | inf neg => exact isIntTok_false_of_char _ 'i' (by simp [floatStr]) (by decide) (by decide) (by decide)
  | nan => decide

/-- written from an integer (a text cell counts if it is itself an integer token) -/
def Cell.isInteger : Cell → Bool
  | .int _ => true
  | .flt _ => false
  | .txt w => isIntTok w

theorem cell_int_iff (c : Cell) : isIntTok (cellText c) = true ↔ c.isInteger = true := by
  cases c with
  | int n => simp [cellText, Cell.isInteger, intStr_isInt]
  | flt f => simp [cellText, Cell.isInteger, floatStr_not_int]
  | txt w => simp [cellText, Cell.isInteger]

theorem typed_column_gen (p : Word → Bool) (q : Cell → Bool) (rows : List (List Cell)) (j : Nat) (hj : ∀ r ∈ rows, j < r.length)
    (hpq : ∀ r ∈ rows, ∀ c ∈ r, (p (cellText c) = true ↔ q c = true)) :
    colNumeric p (rows.map (fun r => r.map cellText)) j = true ↔
      rows ≠ [] ∧ ∀ r ∈ rows, ∀ c, r[j]? = some c → q c = true := by
  simp only [colNumeric, column, Bool.and_eq_true, Bool.not_eq_eq_eq_not, Bool.not_true, List.isEmpty_eq_false_iff,
    List.all_eq_true, List.map_map, List.forall_mem_map, Function.comp, ne_eq, List.map_eq_nil_iff]
  refine and_congr_right fun _ => forall₂_congr fun r hr => ?_
  -- the cell at position `j` exists: both sides speak of `r[j]`
  have hlt := hj r hr
  simp only [List.getD_eq_getElem?_getD, List.getElem?_map, List.getElem?_eq_getElem hlt, Option.map_some, Option.getD_some,
    Option.some.injEq, forall_eq']
  exact hpq r hr _ (List.getElem_mem hlt)

theorem typed_column (rows : List (List Cell)) (j : Nat) (hj : ∀ r ∈ rows, j < r.length)
    (hwf : ∀ r ∈ rows, ∀ c ∈ r, CellWF c) :
    colNumeric isNumTok (rows.map (fun r => r.map cellText)) j = true ↔
      rows ≠ [] ∧ ∀ r ∈ rows, ∀ c, r[j]? = some c → c.isNumber = true :=
  typed_column_gen isNumTok Cell.isNumber rows j hj (fun r hr c hc => cell_numeric_iff c (hwf r hr c hc))

end CryoCat.C02
