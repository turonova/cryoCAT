import Mathlib.Algebra.Order.Field.Basic
import Mathlib.Algebra.Order.BigOperators.Group.List
import Mathlib.Algebra.Order.BigOperators.Ring.List
import Mathlib.Algebra.BigOperators.Group.List.Basic
import Mathlib.Algebra.BigOperators.Ring.List
import Mathlib.Tactic.Linarith
/-! C13 — soft edges: a weighted mean with non-negative weights `w q` of total 1 (what a Gaussian filter
computes at one voxel; `q` ranges over the list of kernel offsets, `x q` is the hard mask value seen at
offset `q`, boundary handling included) stays in `[0,1]` and falls short of the total weight by at most the
weight that lands on values other than 1, and by at least the weight that lands on 0.  About variables only (any index
type, any list, any ordered field): no definition of the model is mentioned; `Lemmas/C13_Blur.lean` has the model's kernel. -/
namespace CryoCat.C13

section
variable {ι α : Type} [Field α] [LinearOrder α] [IsStrictOrderedRing α]

theorem list_conv_nonneg (l : List ι) (w x : ι → α) (hw : ∀ q ∈ l, 0 ≤ w q) (hx : ∀ q ∈ l, 0 ≤ x q) :
    0 ≤ (l.map fun q => w q * x q).sum := by
  apply List.sum_nonneg
  intro y hy
  obtain ⟨q, hq, rfl⟩ := List.mem_map.mp hy
  exact mul_nonneg (hw q hq) (hx q hq)

theorem list_conv_le (l : List ι) (w x : ι → α) (hw : ∀ q ∈ l, 0 ≤ w q) (hx : ∀ q ∈ l, x q ≤ 1) :
    (l.map fun q => w q * x q).sum ≤ (l.map w).sum :=
  List.sum_le_sum fun q hq => mul_le_of_le_one_right (hw q hq) (hx q hq)

omit [LinearOrder α] [IsStrictOrderedRing α] in
theorem sum_filter_map (l : List ι) (p : ι → Bool) (f : ι → α) :
    ((l.filter p).map f).sum = (l.map fun q => if p q then f q else 0).sum := by
  induction l with
  | nil => rfl
  | cons a l ih => cases h : p a <;> simp [h, ih]

theorem list_deficit (l : List ι) (w x : ι → α) (bad : ι → Bool) (hw : ∀ q ∈ l, 0 ≤ w q)
    (hx : ∀ q ∈ l, 0 ≤ x q) (hbad : ∀ q ∈ l, bad q = false → x q = 1) :
    (l.map w).sum - (l.map fun q => w q * x q).sum ≤ ((l.filter bad).map w).sum := by
  rw [sub_le_iff_le_add, sum_filter_map, ← List.sum_map_add]
  refine List.sum_le_sum fun q hq => ?_
  cases hb : bad q
  · simp [hbad q hq hb]
  · simpa using mul_nonneg (hw q hq) (hx q hq)

theorem list_deficit_ge (l : List ι) (w x : ι → α) (P : ι → Bool) (hw : ∀ q ∈ l, 0 ≤ w q)
    (hx : ∀ q ∈ l, x q ≤ 1) (hP : ∀ q ∈ l, P q = true → x q = 0) :
    ((l.filter P).map w).sum ≤ (l.map w).sum - (l.map fun q => w q * x q).sum := by
  rw [le_sub_iff_add_le, sum_filter_map, ← List.sum_map_add]
  refine List.sum_le_sum fun q hq => ?_
  cases hb : P q
  · simpa using mul_le_of_le_one_right (hw q hq) (hx q hq)
  · simp [hP q hq hb]

theorem sum_filter_le_length (l : List ι) (p : ι → Bool) (f : ι → α) (c : α) (hc : 0 ≤ c)
    (h : ∀ x ∈ l, p x = true → f x ≤ c) : ((l.filter p).map f).sum ≤ c * l.length := by
  calc ((l.filter p).map f).sum ≤ ((l.filter p).map f).length • c :=
        List.sum_le_card_nsmul _ c (by
          simp only [List.mem_map, List.mem_filter]
          rintro _ ⟨x, ⟨hx, hp⟩, rfl⟩
          exact h x hx hp)
    _ ≤ c * l.length := by
        rw [nsmul_eq_mul, List.length_map, mul_comm]
        exact mul_le_mul_of_nonneg_left (by exact_mod_cast List.length_filter_le p l) hc

theorem sum_filter_ge_length (l : List ι) (p : ι → Bool) (f : ι → α) (c : α)
    (h : ∀ x ∈ l, p x = true → c ≤ f x) : c * (l.filter p).length ≤ ((l.filter p).map f).sum := by
  have := List.card_nsmul_le_sum ((l.filter p).map f) c (by
    simp only [List.mem_map, List.mem_filter]
    rintro _ ⟨x, ⟨hx, hp⟩, rfl⟩
    exact h x hx hp)
  rwa [nsmul_eq_mul, List.length_map, mul_comm] at this

end

end CryoCat.C13
