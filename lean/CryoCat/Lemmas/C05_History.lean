import CryoCat.Model.C05
import CryoCat.Lemmas.C05
import CryoCat.Lemmas.M3
import Mathlib.Tactic.Ring
/-! C05 — histories with `flip_handedness` calls: normal form with the flips moved to the end.

At the level of the STATEMENT (`specOp`/`specRun` on abstract poses): a flip followed by a shift / rotation /
update equals the z-mirrored shift / rotation / update followed by the flip (`spec_flip_conj`), two flips
with the same mirror plane cancel, hence a whole history (without `scale_coordinates`, all flips using the
same plane for the particle's tomogram) equals the flip-free history `pushFlips false ops` followed by ONE
flip iff the number of flips is odd (`specRun_flips_to_end`). `scale_coordinates` is excluded because the
mirror plane `z = (dz+1)/2` does not scale with the coordinates (`spec_flip_scale_counterexample` in `Props/C05`).

At the level of the MODEL (whole 20-field records, no hypothesis): adjacent equal flips cancel anywhere in
a history. -/
namespace CryoCat.C05
open CryoCat
set_option linter.unusedSectionVars false

section defs
variable {α : Type}

def mzV [Neg α] (v : V3 α) : V3 α := ⟨v.x, v.y, -v.z⟩

/-- the operation whose effect on the mirrored pose is the mirror image of the operation's effect -/
def conjOp [OfNat α 0] [OfNat α 1] [Neg α] [Add α] [Mul α] : Op α → Op α
  | .shift v => .shift (mzV v)
  | .rotate q => .rotate (Mz * q * Mz)
  | .update => .update
  | .scale f => .scale f
  | .flip d => .flip d

def isFlip : Op α → Bool
  | .flip _ => true
  | _ => false

def isScale : Op α → Bool
  | .scale _ => true
  | _ => false

def flipCount (ops : List (Op α)) : Nat := ops.countP isFlip

/-- the flip-free normal form: flips removed, every other operation conjugated (`conjOp`) iff an odd
number of flips precede it (`par` = parity of the flips already passed) -/
def pushFlips [OfNat α 0] [OfNat α 1] [Neg α] [Add α] [Mul α] : Bool → List (Op α) → List (Op α)
  | _, [] => []
  | par, .flip _ :: ops => pushFlips (!par) ops
  | par, .update :: ops => (if par then conjOp .update else .update) :: pushFlips par ops
  | par, .scale f :: ops => (if par then conjOp (.scale f) else .scale f) :: pushFlips par ops
  | par, .shift v :: ops => (if par then conjOp (.shift v) else .shift v) :: pushFlips par ops
  | par, .rotate q :: ops => (if par then conjOp (.rotate q) else .rotate q) :: pushFlips par ops

/-- what the statement says a covered flip with mirror-plane parameter `dz` does to a pose -/
def mirrorPose [OfNat α 0] [OfNat α 1] [Neg α] [Add α] [Sub α] [Mul α] (dz : α) (P : Pose α) : Pose α :=
  { P with pos := ⟨P.pos.x, P.pos.y, dz + 1 - P.pos.z⟩, R := Mz * P.R * Mz }

def condMirror [OfNat α 0] [OfNat α 1] [Neg α] [Add α] [Sub α] [Mul α] (dz : α) (b : Bool) (P : Pose α) : Pose α :=
  if b then mirrorPose dz P else P

def parAfter (par : Bool) (ops : List (Op α)) : Bool := decide ((flipCount ops + par.toNat) % 2 = 1)

end defs

section ring
variable {α : Type} [CommRing α] [DecidableEq α]

theorem mzV_eq_apply (v : V3 α) : mzV v = (Mz : M3 α).apply v := by
  ext <;> simp only [mzV, Mz, M3.apply, one_mul, zero_mul, add_zero, zero_add, neg_one_mul]

theorem mzV_mzV (v : V3 α) : mzV (mzV v) = v := by
  ext <;> simp only [mzV, neg_neg]

theorem Mz_conj_apply (R : M3 α) (v : V3 α) : (Mz * R * Mz).apply v = mzV (R.apply (mzV v)) := by
  rw [M3.apply_mul, M3.apply_mul, ← mzV_eq_apply, ← mzV_eq_apply]

theorem conjOp_conjOp (op : Op α) : conjOp (conjOp op) = op := by
  cases op with
  | shift v => simp only [conjOp, mzV_mzV]
  | rotate q => simp only [conjOp, conj_conj Mz_Mz]
  | _ => rfl

theorem isFlip_conjOp (op : Op α) : isFlip (conjOp op) = isFlip op := by cases op <;> rfl

theorem isScale_conjOp (op : Op α) : isScale (conjOp op) = isScale op := by cases op <;> rfl

theorem pushFlips_cons_flip (par : Bool) (d : Dims α) (ops : List (Op α)) :
    pushFlips par (.flip d :: ops) = pushFlips (!par) ops := rfl

theorem pushFlips_cons_of_not_flip (par : Bool) (op : Op α) (ops : List (Op α)) (h : isFlip op = false) :
    pushFlips par (op :: ops) = (if par then conjOp op else op) :: pushFlips par ops := by
  cases op with
  | flip d => cases h
  | _ => rfl

theorem flipCount_nil : flipCount ([] : List (Op α)) = 0 := rfl

theorem flipCount_cons_flip (d : Dims α) (ops : List (Op α)) : flipCount (.flip d :: ops) = flipCount ops + 1 :=
  List.countP_cons_of_pos rfl

theorem flipCount_cons_of_not_flip (op : Op α) (ops : List (Op α)) (h : isFlip op = false) :
    flipCount (op :: ops) = flipCount ops :=
  List.countP_cons_of_neg (by rw [h]; exact Bool.false_ne_true)

theorem flipCount_pushFlips (par : Bool) (ops : List (Op α)) : flipCount (pushFlips par ops) = 0 := by
  induction ops generalizing par with
  | nil => rfl
  | cons op ops ih =>
    cases op with
    | flip d => exact ih _
    | _ =>
      rw [pushFlips_cons_of_not_flip _ _ _ rfl, flipCount_cons_of_not_flip _ _ ?_, ih]
      cases par <;> rfl

theorem parAfter_nil (par : Bool) : parAfter par ([] : List (Op α)) = par := by
  cases par <;> rfl

theorem parAfter_cons_flip (par : Bool) (d : Dims α) (ops : List (Op α)) :
    parAfter par (.flip d :: ops) = parAfter (!par) ops := by
  unfold parAfter
  rw [flipCount_cons_flip]
  cases par
  · rfl
  · show decide ((flipCount ops + 2) % 2 = 1) = decide (flipCount ops % 2 = 1)
    rw [Nat.add_mod_right]

theorem parAfter_cons_of_not_flip (par : Bool) (op : Op α) (ops : List (Op α)) (h : isFlip op = false) :
    parAfter par (op :: ops) = parAfter par ops := by
  simp only [parAfter, flipCount_cons_of_not_flip op ops h]

theorem specRun_cons (op : Op α) (ops : List (Op α)) (P : Pose α) :
    specRun (op :: ops) P = (specOp op P).bind (specRun ops) := by
  simp only [specRun]
  cases specOp op P <;> rfl

theorem hist_specRun_nil (P : Pose α) : specRun ([] : List (Op α)) P = some P := rfl

theorem hist_specRun_append (a b : List (Op α)) (P : Pose α) :
    specRun (a ++ b) P = (specRun a P).bind (specRun b) := by
  induction a generalizing P with
  | nil => rfl
  | cons op a ih =>
    rw [List.cons_append, specRun_cons, specRun_cons]
    cases specOp op P with
    | none => rfl
    | some P' => exact ih P'

theorem specOp_flip (d : Dims α) (P : Pose α) :
    specOp (.flip d) P = (specDim d P.tomo).map (fun dz => mirrorPose dz P) := by
  simp only [specOp]
  cases specDim d P.tomo <;> rfl

theorem specOp_tomo (op : Op α) (P P' : Pose α) (h : specOp op P = some P') : P'.tomo = P.tomo := by
  cases op with
  | flip d =>
    rw [specOp_flip] at h
    obtain ⟨dz, _, rfl⟩ := Option.map_eq_some_iff.1 h
    rfl
  | _ => cases h; rfl

/-- only a flip can fall outside the quantifier -/
theorem specOp_isSome_of_not_flip (op : Op α) (P : Pose α) (hf : isFlip op = false) : ∃ P', specOp op P = some P' := by
  cases op with
  | flip d => cases hf
  | _ => exact ⟨_, rfl⟩

theorem specRun_tomo (ops : List (Op α)) (P P' : Pose α) (h : specRun ops P = some P') : P'.tomo = P.tomo := by
  induction ops generalizing P with
  | nil => cases h; rfl
  | cons op ops ih =>
    rw [specRun_cons] at h
    obtain ⟨P1, h1, h2⟩ := Option.bind_eq_some_iff.1 h
    rw [ih P1 h2, specOp_tomo op P P1 h1]

theorem mirrorPose_mirrorPose (dz : α) (P : Pose α) : mirrorPose dz (mirrorPose dz P) = P := by
  simp only [mirrorPose, conj_conj Mz_Mz, sub_sub_cancel]

theorem mirrorPose_condMirror (dz : α) (b : Bool) (P : Pose α) :
    mirrorPose dz (condMirror dz b P) = condMirror dz (!b) P := by
  cases b
  · rfl
  · exact mirrorPose_mirrorPose dz P

/-- the mirrored pose moves by
`Mz·R·Mz·v = mzV (R·mzV v)`, and `Mz·(R·(Mz·Q·Mz))·Mz = (Mz·R·Mz)·Q` -/
theorem specOp_mirror (dz : α) (op : Op α) (P : Pose α) (hf : isFlip op = false) (hs : isScale op = false) :
    specOp op (mirrorPose dz P) = (specOp (conjOp op) P).map (mirrorPose dz) := by
  cases op with
  | flip d => cases hf
  | scale f => cases hs
  | update => rfl
  | shift v =>
    simp only [specOp, conjOp, Option.map_some, mirrorPose, Mz_conj_apply, Option.some.injEq, Pose.mk.injEq, and_true]
    ext
    · rfl
    · rfl
    · simp only [V3.add_def, V3.add, mzV]; ring
  | rotate q =>
    simp only [specOp, conjOp, Option.map_some, mirrorPose]
    rw [conj_mul Mz_Mz, conj_conj Mz_Mz]

theorem specOp_condMirror (dz : α) (par : Bool) (op : Op α) (P : Pose α) (hf : isFlip op = false)
    (hs : isScale op = false) :
    specOp op (condMirror dz par P) = (specOp (if par then conjOp op else op) P).map (condMirror dz par) := by
  cases par with
  | false =>
    show specOp op P = (specOp op P).map (fun Q => Q)
    cases specOp op P <;> rfl
  | true => exact specOp_mirror dz op P hf hs

/-- no hypothesis on the dimensions: where the statement is silent about the flip both sides are `none` -/
theorem spec_flip_conj (d : Dims α) (op : Op α) (P : Pose α) (hf : isFlip op = false) (hs : isScale op = false) :
    (specOp (.flip d) P).bind (specOp op) = (specOp (conjOp op) P).bind (specOp (.flip d)) := by
  obtain ⟨P1, h1⟩ := specOp_isSome_of_not_flip (conjOp op) P ((isFlip_conjOp op).trans hf)
  rw [h1, Option.bind_some, specOp_flip, specOp_flip, specOp_tomo _ _ _ h1]
  cases specDim d P.tomo with
  | none => rfl
  | some dz => rw [Option.map_some, Option.bind_some, specOp_mirror dz op P hf hs, h1]; rfl

theorem spec_conj_flip (d : Dims α) (op : Op α) (P : Pose α) (hf : isFlip op = false) (hs : isScale op = false) :
    (specOp op P).bind (specOp (.flip d)) = (specOp (.flip d) P).bind (specOp (conjOp op)) := by
  have := spec_flip_conj d (conjOp op) P ((isFlip_conjOp op).trans hf) ((isScale_conjOp op).trans hs)
  rw [conjOp_conjOp] at this
  exact this.symm

/-- the two flips may be given by different `dims` arguments, as long as the plane is the same -/
theorem hist_spec_flip_flip (d d' : Dims α) (P : Pose α) (dz : α) (h : specDim d P.tomo = some dz)
    (h' : specDim d' P.tomo = some dz) : (specOp (.flip d) P).bind (specOp (.flip d')) = some P := by
  rw [specOp_flip, h, Option.map_some, Option.bind_some, specOp_flip]
  show (specDim d' P.tomo).map _ = _
  rw [h', Option.map_some, mirrorPose_mirrorPose]

/-- the induction carries the parity `par` of the flips already passed: mirror iff `par`, then the history
= the normal form entered with `par`, then mirror iff the parity after the history is odd -/
theorem specRun_pushFlips_gen (t dz : α) (ops : List (Op α))
    (hflip : ∀ d', Op.flip d' ∈ ops → specDim d' t = some dz) (hns : ∀ op ∈ ops, isScale op = false)
    (par : Bool) (P : Pose α) (hP : P.tomo = t) :
    specRun ops (condMirror dz par P) = (specRun (pushFlips par ops) P).map (condMirror dz (parAfter par ops)) := by
  induction ops generalizing par P with
  | nil => rw [parAfter_nil]; rfl
  | cons op ops ih =>
    have hflip' : ∀ d', Op.flip d' ∈ ops → specDim d' t = some dz := fun d' h => hflip d' (List.mem_cons_of_mem _ h)
    have hns' : ∀ o ∈ ops, isScale o = false := fun o h => hns o (List.mem_cons_of_mem _ h)
    cases hf : isFlip op with
    | true =>
      cases op with
      | flip d' =>
        have hd : specDim d' (condMirror dz par P).tomo = some dz := by
          cases par <;> exact hP ▸ hflip d' (List.mem_cons_self ..)
        rw [specRun_cons, specOp_flip, hd, Option.map_some, Option.bind_some, mirrorPose_condMirror,
          pushFlips_cons_flip, parAfter_cons_flip]
        exact ih hflip' hns' (!par) P hP
      | _ => cases hf
    | false =>
      have hs : isScale op = false := hns op (List.mem_cons_self ..)
      rw [specRun_cons, specOp_condMirror dz par op P hf hs, pushFlips_cons_of_not_flip par op ops hf,
        specRun_cons, parAfter_cons_of_not_flip par op ops hf]
      cases h1 : specOp (if par then conjOp op else op) P with
      | none => rfl
      | some P1 => exact ih hflip' hns' par P1 (by rw [specOp_tomo _ _ _ h1, hP])

/-- For a history without `scale_coordinates` in which every `flip_handedness` call uses the same mirror plane
`dz` for this particle's tomogram (`hflip`): the statement folded over the history equals the statement folded
over the flip-free normal form, followed by ONE flip iff the number of flips is odd. Under `hflip` no flip of
`ops` is outside the quantifier. -/
theorem specRun_flips_to_end (ops : List (Op α)) (P : Pose α) (dz : α)
    (hflip : ∀ d', Op.flip d' ∈ ops → specDim d' P.tomo = some dz) (hns : ∀ op ∈ ops, isScale op = false)
    (d : Dims α) (hd : specDim d P.tomo = some dz) :
    specRun ops P = (specRun (pushFlips false ops) P).bind
      (fun P' => if flipCount ops % 2 = 0 then some P' else specOp (.flip d) P') := by
  have h : specRun ops P = _ := specRun_pushFlips_gen P.tomo dz ops hflip hns false P rfl
  rw [h]
  cases h1 : specRun (pushFlips false ops) P with
  | none => rfl
  | some P' =>
    simp only [Option.map_some, Option.bind_some, parAfter, Bool.toNat_false, Nat.add_zero]
    rcases Nat.mod_two_eq_zero_or_one (flipCount ops) with he | he <;> simp only [he]
    · rfl
    · rw [specOp_flip, specRun_tomo _ _ _ h1, hd]; rfl

theorem specRun_even_flips (ops : List (Op α)) (P : Pose α) (dz : α)
    (hflip : ∀ d', Op.flip d' ∈ ops → specDim d' P.tomo = some dz) (hns : ∀ op ∈ ops, isScale op = false)
    (he : flipCount ops % 2 = 0) :
    specRun ops P = specRun (pushFlips false ops) P := by
  rw [specRun_flips_to_end ops P dz hflip hns (.single dz) rfl]
  simp only [he, if_true]
  cases specRun (pushFlips false ops) P <;> rfl

theorem specRun_odd_flips (ops : List (Op α)) (P : Pose α) (dz : α)
    (hflip : ∀ d', Op.flip d' ∈ ops → specDim d' P.tomo = some dz) (hns : ∀ op ∈ ops, isScale op = false)
    (d : Dims α) (hd : specDim d P.tomo = some dz) (ho : flipCount ops % 2 = 1) :
    specRun ops P = (specRun (pushFlips false ops) P).bind (specOp (.flip d)) := by
  rw [specRun_flips_to_end ops P dz hflip hns d hd]
  have : ¬ (flipCount ops % 2 = 0) := by omega
  simp only [this, if_false]

theorem pushFlips_only_flips (par : Bool) (ops : List (Op α)) (h : ∀ op ∈ ops, isFlip op = true) :
    pushFlips par ops = [] := by
  induction ops generalizing par with
  | nil => rfl
  | cons op ops ih =>
    cases op with
    | flip d => exact ih _ (fun o ho => h o (List.mem_cons_of_mem _ ho))
    | _ => cases h _ (List.mem_cons_self ..)

theorem specRun_only_flips (ops : List (Op α)) (P : Pose α) (dz : α)
    (hall : ∀ op ∈ ops, isFlip op = true)
    (hflip : ∀ d', Op.flip d' ∈ ops → specDim d' P.tomo = some dz)
    (d : Dims α) (hd : specDim d P.tomo = some dz) :
    specRun ops P = if ops.length % 2 = 0 then some P else specOp (.flip d) P := by
  have hns : ∀ op ∈ ops, isScale op = false := by
    intro op hop
    have := hall op hop
    cases op <;> first | rfl | cases this
  rw [specRun_flips_to_end ops P dz hflip hns d hd, pushFlips_only_flips false ops hall,
    show flipCount ops = ops.length from List.countP_eq_length.2 hall]
  rfl

theorem specRun_replicate_flip (n : Nat) (d : Dims α) (P : Pose α) (dz : α) (hd : specDim d P.tomo = some dz) :
    specRun (List.replicate n (Op.flip d)) P = if n % 2 = 0 then some P else specOp (.flip d) P := by
  have h := specRun_only_flips (List.replicate n (Op.flip d)) P dz
    (fun op hop => by rw [List.eq_of_mem_replicate hop]; rfl)
    (fun d' hd' => by rw [Op.flip.inj (List.eq_of_mem_replicate hd')]; exact hd) d hd
  rwa [List.length_replicate] at h

variable (S : Svc α)

theorem runOpsP_append (a b : List (Op α)) (p : Particle α) :
    runOpsP S (a ++ b) p = runOpsP S b (runOpsP S a p) := List.foldl_append ..

theorem runOpsP_flip_flip_cancel (a b : List (Op α)) (d : Dims α) (p : Particle α) :
    runOpsP S (a ++ Op.flip d :: Op.flip d :: b) p = runOpsP S (a ++ b) p := by
  rw [runOpsP_append, runOpsP_append]
  show runOpsP S b (flipP d (flipP d _)) = _
  rw [flipP_flipP]

end ring

/-! non-vacuity: a concrete history over `Rat` with two flips (given by different dims arguments with the
same plane for tomogram 2), a shift, a rotation and an update; and one with three flips -/

def exHist : List (Op Rat) :=
  [.flip (.single 40), .shift ⟨1, 2, 3⟩, .rotate (rz 0 1), .flip (.table [(1, 50), (2, 40)]), .update, .shift ⟨0, 1, 5⟩]

theorem exHist_flips (d' : Dims Rat) (h : Op.flip d' ∈ exHist) : specDim d' 2 = some 40 := by
  simp only [exHist, List.mem_cons, Op.flip.injEq, reduceCtorEq, List.not_mem_nil, or_false, false_or] at h
  rcases h with rfl | rfl <;> decide +kernel

/-- the hypotheses of `specRun_flips_to_end` hold for `exHist` and the pose of `exP` -/
example : (∀ d', Op.flip d' ∈ exHist → specDim d' (absPose exS exP).tomo = some 40) ∧
    (∀ op ∈ exHist, isScale op = false) ∧ specDim (.single 40) (absPose exS exP).tomo = some (40 : Rat) :=
  ⟨exHist_flips, by decide +kernel, by decide +kernel⟩

example : flipCount exHist = 2 ∧
    pushFlips false exHist = [.shift ⟨1, 2, -3⟩, .rotate (Mz * rz 0 1 * Mz), .update, .shift ⟨0, 1, 5⟩] :=
  ⟨by decide +kernel, rfl⟩

/-- the conclusion on the example, both sides defined (an instance of `specRun_even_flips`) -/
example : specRun exHist (absPose exS exP) = specRun (pushFlips false exHist) (absPose exS exP) ∧
    (specRun exHist (absPose exS exP)).isSome = true := by decide +kernel

/-- three flips: the normal form followed by one flip (an instance of `specRun_odd_flips`) -/
example : specRun (.flip (.single 40) :: exHist) (absPose exS exP) =
    (specRun (pushFlips false (.flip (.single 40) :: exHist)) (absPose exS exP)).bind (specOp (.flip (.single 40))) ∧
    (specRun (.flip (.single 40) :: exHist) (absPose exS exP)).isSome = true ∧
    flipCount (.flip (.single 40) :: exHist) = 3 := by decide +kernel

/-- model level: the two flips of a history cancel on the whole records -/
example : runOps exS ([.update] ++ Op.flip (.single 40) :: Op.flip (.single 40) :: [.shift ⟨1, 2, 3⟩]) [exP] =
    runOps exS ([.update] ++ [.shift ⟨1, 2, 3⟩]) [exP] :=
  congrArg (fun p => [p]) (runOpsP_flip_flip_cancel exS [.update] [.shift ⟨1, 2, 3⟩] (.single 40) exP)

end CryoCat.C05
