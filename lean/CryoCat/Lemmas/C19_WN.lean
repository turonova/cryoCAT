import CryoCat.Lemmas.C19
import CryoCat.Lemmas.List
/-! C19 — the invariant `ChainsWellNumbered` (`WN`) of the traced table and the link invariant `DL`, with what the
branch proofs need of them: relabellings (`WN.map`, `DL.map`), `maxOrd`, the chain `mkChainFrom` and the chain
operations on it, a fresh chain appended, the order numbers of one object (core Lean only).

`WN l K cc`: every row's object id lies in `[1, cc)`; inside every object the order numbers are
exactly `1..K obj`, without duplicates (`inj`) and without gaps (`surj`).
`DL o c l`: whenever `r'` follows `r` in a chain, `r.dist` is the exit→entry (squared) distance of
the pair and that distance passed the filter of `get_nn_dist`. -/
namespace CryoCat.C19
set_option linter.unusedSectionVars false
variable {α : Type} [LE α] [LT α] [DecidableLE α] [DecidableLT α] [DecidableEq α]

structure WN (l : List (Row α)) (K : Int → Int) (cc : Int) : Prop where
  rng : ∀ r ∈ l, 1 ≤ r.obj ∧ r.obj < cc
  ordA : ∀ r ∈ l, 1 ≤ r.ord ∧ r.ord ≤ K r.obj
  inj : ∀ r ∈ l, ∀ r' ∈ l, r.obj = r'.obj → r.ord = r'.ord → r.idx = r'.idx
  surj : ∀ r ∈ l, ∀ k, 1 ≤ k → k ≤ K r.obj → ∃ r' ∈ l, r'.obj = r.obj ∧ r'.ord = k

def ChainsWellNumbered (l : List (Row α)) : Prop := ∃ K cc, WN l K cc

def DL (o : Opts) (c : Cfg α) (l : List (Row α)) : Prop :=
  ∀ r ∈ l, ∀ r' ∈ l, r.obj = r'.obj → r'.ord = r.ord + 1 →
    r.dist = c.d r.idx r'.idx ∧ inWin o c (c.d r.idx r'.idx) = true

def Traced (o : Opts) (c : Cfg α) (l : List (Row α)) (cc : Int) : Prop := ∃ K, WN l K cc ∧ DL o c l

theorem WN.nil (K : Int → Int) (cc : Int) : WN ([] : List (Row α)) K cc :=
  ⟨by simp, by simp, by simp, by simp⟩

theorem WN.mono {l : List (Row α)} {K : Int → Int} {cc : Int} (h : WN l K cc) (cc' : Int) (hc : cc ≤ cc') :
    WN l K cc' :=
  ⟨fun r hr => ⟨(h.rng r hr).1, by have := (h.rng r hr).2; omega⟩, h.ordA, h.inj, h.surj⟩

theorem WN.congrK {l : List (Row α)} {K K' : Int → Int} {cc : Int} (h : WN l K cc) (e : ∀ r ∈ l, K' r.obj = K r.obj) :
    WN l K' cc :=
  ⟨h.rng, fun r hr => by rw [e r hr]; exact h.ordA r hr, h.inj,
   fun r hr k h1 h2 => h.surj r hr k h1 (by rw [← e r hr]; exact h2)⟩

/-- a relabelling of a well-numbered table is well numbered if every position `1..K'` of a new object is
the image of exactly one numbered position `(obj, ord)` of the table -/
theorem WN.map {T : List (Row α)} {K : Int → Int} {cc : Int} (hT : WN T K cc) (F : Row α → Row α)
    (K' : Int → Int) (cc' : Int) (hidx : ∀ r, (F r).idx = r.idx)
    (h1 : ∀ r ∈ T, (1 ≤ (F r).obj ∧ (F r).obj < cc') ∧ 1 ≤ (F r).ord ∧ (F r).ord ≤ K' (F r).obj)
    (h2 : ∀ r ∈ T, ∀ k, 1 ≤ k → k ≤ K' (F r).obj → ∃ t ∈ T, ∃ j, 1 ≤ j ∧ j ≤ K t.obj ∧
      ∀ r0 ∈ T, ((F r0).obj = (F r).obj ∧ (F r0).ord = k ↔ r0.obj = t.obj ∧ r0.ord = j)) :
    WN (T.map F) K' cc' := by
  refine ⟨List.forall_mem_map.2 fun r hr => (h1 r hr).1, List.forall_mem_map.2 fun r hr => (h1 r hr).2, ?_, ?_⟩
  · intro a ha b hb hab hk
    obtain ⟨r, hr, rfl⟩ := List.mem_map.1 ha
    obtain ⟨r', hr', rfl⟩ := List.mem_map.1 hb
    rw [hidx, hidx]
    -- both rows sit at the one old position behind the new position of `r`
    obtain ⟨t, _, j, _, _, h⟩ := h2 r hr (F r).ord (h1 r hr).2.1 (h1 r hr).2.2
    have e := (h r hr).1 ⟨rfl, rfl⟩
    have e' := (h r' hr').1 ⟨hab.symm, hk.symm⟩
    exact hT.inj r hr r' hr' (e.1.trans e'.1.symm) (e.2.trans e'.2.symm)
  · intro a ha k hk1 hk2
    obtain ⟨r, hr, rfl⟩ := List.mem_map.1 ha
    obtain ⟨t, ht, j, hj1, hj2, h⟩ := h2 r hr k hk1 hk2
    obtain ⟨r0, hr0, e⟩ := hT.surj t ht j hj1 hj2
    exact ⟨F r0, List.mem_map.2 ⟨r0, hr0, rfl⟩, (h r0 hr0).2 e⟩

theorem DL.map {o : Opts} {c : Cfg α} {T : List (Row α)} (F : Row α → Row α) (hidx : ∀ r, (F r).idx = r.idx)
    (h : ∀ r ∈ T, ∀ r' ∈ T, (F r).obj = (F r').obj → (F r').ord = (F r).ord + 1 →
      (F r).dist = c.d r.idx r'.idx ∧ inWin o c (c.d r.idx r'.idx) = true) :
    DL o c (T.map F) := by
  intro a ha b hb hab hk
  obtain ⟨r, hr, rfl⟩ := List.mem_map.1 ha
  obtain ⟨r', hr', rfl⟩ := List.mem_map.1 hb
  rw [hidx, hidx]
  exact h r hr r' hr' hab hk

theorem maxOrd_spec (p : Row α → Bool) (l : List (Row α)) (init : Int) :
    init ≤ maxOrd init p l ∧ (∀ r ∈ l, p r = true → r.ord ≤ maxOrd init p l) ∧
      (maxOrd init p l = init ∨ ∃ r ∈ l, p r = true ∧ r.ord = maxOrd init p l) := by
  -- the running maximum of the selected order numbers, started at `init`
  have e : ((l.filter p).map (·.ord)).foldl (fun m y => if m < y then y else m) init = maxOrd init p l := by
    rw [List.foldl_map, List.foldl_filter]
    exact congrArg (fun f => l.foldl f init) (funext fun m => funext fun r => by cases p r <;> simp)
  obtain ⟨hm, hall⟩ := Lists.foldl_pick_spec (fun a b : Int => b ≤ a) (fun y m => m < y) Int.le_refl
    (fun _ _ _ h1 h2 => Int.le_trans h2 h1) (fun _ _ h => Int.le_of_lt h) (fun _ _ h => Int.not_lt.1 h)
    ((l.filter p).map (·.ord)) init
  rw [e] at hm hall
  refine ⟨hall _ List.mem_cons_self,
    fun r hr hp => hall _ (List.mem_cons_of_mem _ (List.mem_map.2 ⟨r, List.mem_filter.2 ⟨hr, hp⟩, rfl⟩)), ?_⟩
  rcases List.mem_cons.1 hm with h | h
  · exact Or.inl h
  · obtain ⟨r, hr, e⟩ := List.mem_map.1 h
    exact Or.inr ⟨r, (List.mem_filter.1 hr).1, (List.mem_filter.1 hr).2, e⟩

theorem WN.maxOrd_eq {T : List (Row α)} {K : Int → Int} {cc : Int} (hT : WN T K cc) (t : Row α) (ht : t ∈ T)
    (init : Int) (hi : init ≤ K t.obj) : maxOrd init (fun r => r.obj == t.obj) T = K t.obj := by
  obtain ⟨h1, h2, h3⟩ := maxOrd_spec (fun r : Row α => r.obj == t.obj) T init
  have hK := hT.ordA t ht
  obtain ⟨r', hr', ho, hk⟩ := hT.surj t ht (K t.obj) (by omega) (Int.le_refl _)
  have := h2 r' hr' (by simp [ho])
  rcases h3 with h3 | ⟨r, hr, hp, he⟩
  · omega
  · have := hT.ordA r hr
    simp only [beq_iff_eq] at hp
    rw [hp] at this
    omega

/-- `df.loc[mask, col] = ..` with an empty mask -/
theorem map_unselected (p : Row α → Bool) (f : Row α → Row α) (l : List (Row α)) (h : ∀ r ∈ l, p r = false) :
    l.map (fun r => if p r then f r else r) = l := by
  refine (List.map_congr_left (fun r hr => ?_)).trans (List.map_id l)
  simp only [h r hr, Bool.false_eq_true, if_false, id]

theorem rowOf_some {l : List (Row α)} {j : Nat} {t : Row α} (h : rowOf l j = some t) : t ∈ l ∧ t.idx = j := by
  unfold rowOf at h
  have h2 := List.find?_some h
  exact ⟨List.mem_of_find?_eq_some h, by simpa using h2⟩

theorem rowOf_map (F : Row α → Row α) (hF : ∀ r, (F r).idx = r.idx) (l : List (Row α)) (j : Nat) :
    rowOf (l.map F) j = (rowOf l j).map F := by
  unfold rowOf
  rw [List.find?_map]
  exact congrArg (fun p => (l.find? p).map F) (funext fun r => by simp only [Function.comp, hF])

theorem idx_inj_of_nodup {l : List (Row α)} (h : (ids l).Nodup) {a b : Row α} (ha : a ∈ l) (hb : b ∈ l)
    (e : a.idx = b.idx) : a = b :=
  Lists.eq_of_nodup_map (fun r : Row α => r.idx) h ha hb e

/-- in a well-numbered table of distinct particles a row is known by its position as well as by its particle -/
theorem WN.pos {T : List (Row α)} {K : Int → Int} {cc : Int} (hT : WN T K cc) (hnd : (ids T).Nodup) {r r' : Row α}
    (hr : r ∈ T) (hr' : r' ∈ T) : r.idx = r'.idx ↔ r.obj = r'.obj ∧ r.ord = r'.ord :=
  ⟨fun e => by rw [idx_inj_of_nodup hnd hr hr' e]; exact ⟨rfl, rfl⟩, fun e => hT.inj r hr r' hr' e.1 e.2⟩

theorem mkChainFrom_mem (cls : Int) (ms : List (Nat × α)) (k : Int) (r : Row α) (hr : r ∈ mkChainFrom cls k ms) :
    r.obj = cls ∧ k ≤ r.ord ∧ r.ord < k + ms.length := by
  obtain ⟨ho, n, hk, hn⟩ := (mem_mkChainFrom cls k ms r).1 hr
  have := (List.getElem?_eq_some_iff.1 hn).1
  exact ⟨ho, by omega, by omega⟩

def lastOf (ms : List (Nat × α)) (i : Nat) : Nat := match ms.getLast? with | some (p, _) => p | none => i

theorem mkChainFrom_last (cls : Int) (ms : List (Nat × α)) (k : Int) (i : Nat) (hne : ms ≠ []) :
    ∃ r ∈ mkChainFrom cls k ms, r.ord = k + ms.length - 1 ∧ r.idx = lastOf ms i := by
  have h := List.getLast?_eq_some_getLast hne
  have := List.length_pos_iff.2 hne
  refine ⟨⟨(ms.getLast hne).1, cls, k + (ms.length - 1 : Nat), (ms.getLast hne).2⟩,
    (mem_mkChainFrom ..).2 ⟨rfl, _, rfl, ?_⟩, by simp only; omega, by simp only [lastOf, h]⟩
  rw [← h, List.getLast?_eq_getElem?]

/-! The chain operations of the merge on a chain in the form `mkChainFrom`. -/

theorem relabelChain_mkChainFrom (a b g k : Int) (ms : List (Nat × α)) :
    relabelChain a b (mkChainFrom g k ms) = mkChainFrom a (k + b) ms := by
  induction ms generalizing k with
  | nil => rfl
  | cons m ms ih =>
    have := ih (k + 1)
    rw [Int.add_right_comm] at this
    simp only [mkChainFrom, relabelChain, List.map_cons] at this ⊢
    rw [this]

theorem setObjChain_mkChainFrom (a g k : Int) (ms : List (Nat × α)) :
    setObjChain a (mkChainFrom g k ms) = mkChainFrom a k ms := by
  induction ms generalizing k with
  | nil => rfl
  | cons m ms ih => simp only [mkChainFrom, setObjChain, List.map_cons] at ih ⊢; rw [ih]

/-- the last row of a chain is the one with the highest order number -/
theorem setLastDist_mkChainFrom (v : α) (g : Int) : ∀ (ms : List (Nat × α)) (k : Int),
    setLastDist v (mkChainFrom g k ms) =
      (mkChainFrom g k ms).map (fun r => if r.ord = k + ms.length - 1 then { r with dist := v } else r)
  | [], _ => rfl
  | [m], k => by simp [mkChainFrom, setLastDist]
  | m :: m' :: ms, k => by
    have ih := setLastDist_mkChainFrom v g (m' :: ms) (k + 1)
    have e : k + 1 + ((m' :: ms).length : Int) - 1 = k + ((m :: m' :: ms).length : Int) - 1 := by
      simp only [List.length_cons]; omega
    rw [e] at ih
    have hne : k ≠ k + ((m :: m' :: ms).length : Int) - 1 := by simp only [List.length_cons]; omega
    simp only [mkChainFrom, setLastDist, List.map_cons, if_neg hne] at ih ⊢
    rw [ih]

theorem WN.append_fresh {nfm : List (Row α)} {K : Int → Int} {cls : Int} (h : WN nfm K cls) (hcls : 1 ≤ cls)
    (ms : List (Nat × α)) :
    WN (nfm ++ mkChainFrom cls 1 ms) (fun g => if g = cls then (ms.length : Int) else K g) (cls + 1) := by
  have old : ∀ r ∈ nfm, r.obj ≠ cls := fun r hr => by have := h.rng r hr; omega
  have new : ∀ r ∈ mkChainFrom cls 1 ms, r.obj = cls ∧ ∃ n : Nat, r.ord = 1 + n ∧ ms[n]? = some (r.idx, r.dist) :=
    fun r hr => (mem_mkChainFrom cls 1 ms r).1 hr
  refine ⟨?_, ?_, ?_, ?_⟩ <;> simp only [List.mem_append]
  · rintro r (hr | hr)
    · have := h.rng r hr; omega
    · have := (new r hr).1; omega
  · rintro r (hr | hr)
    · simp only [if_neg (old r hr)]; exact h.ordA r hr
    · obtain ⟨e, n, hk, hn⟩ := new r hr
      have := (List.getElem?_eq_some_iff.1 hn).1
      simp only [e, if_true]; omega
  · rintro r (hr | hr) r' (hr' | hr') ho hk
    · exact h.inj r hr r' hr' ho hk
    · exact absurd (ho.trans (new r' hr').1) (old r hr)
    · exact absurd (ho.symm.trans (new r hr).1) (old r' hr')
    · -- two rows of the new chain with one order number sit at one place of `ms`
      obtain ⟨_, n, e, hn⟩ := new r hr
      obtain ⟨_, n', e', hn'⟩ := new r' hr'
      obtain rfl : n = n' := by omega
      exact congrArg Prod.fst (Option.some.inj (hn.symm.trans hn'))
  · rintro r (hr | hr) k hk1 hk2
    · simp only [if_neg (old r hr)] at hk2
      obtain ⟨r', hr', e⟩ := h.surj r hr k hk1 hk2
      exact ⟨r', Or.inl hr', e⟩
    · simp only [(new r hr).1, if_true] at hk2
      have hn : (k - 1).toNat < ms.length := by omega
      exact ⟨⟨ms[(k - 1).toNat].1, cls, k, ms[(k - 1).toNat].2⟩,
        Or.inr ((mem_mkChainFrom ..).2 ⟨rfl, _, by simp only; omega, List.getElem?_eq_getElem hn⟩), (new r hr).1.symm, rfl⟩

/-! From `WN` to the form the property is stated in: the order numbers of an object are a permutation of `1..k`. -/

theorem mem_oneToK (k : Nat) (x : Int) : x ∈ oneToK k ↔ 1 ≤ x ∧ x ≤ k := by
  simp only [oneToK, List.mem_map, List.mem_range, Int.ofNat_eq_natCast]
  constructor
  · rintro ⟨i, hi, rfl⟩; omega
  · intro h
    exact ⟨(x - 1).toNat, by omega, by omega⟩

theorem oneToK_nodup (k : Nat) : (oneToK k).Nodup := by
  unfold oneToK
  refine Lists.nodup_map_on _ ?_ List.nodup_range
  intro a _ b _ h
  simp only [Int.ofNat_eq_natCast] at h
  omega

theorem oneToK_length (k : Nat) : (oneToK k).length = k := by simp [oneToK]

theorem perm_oneToK (L : List Int) (k : Nat) (hnd : L.Nodup) (hmem : ∀ x, x ∈ L ↔ 1 ≤ x ∧ x ≤ k) :
    L.Perm (oneToK k) :=
  (List.perm_ext_iff_of_nodup hnd (oneToK_nodup k)).2 (fun x => (hmem x).trans (mem_oneToK k x).symm)

theorem WN.ords_below {T : List (Row α)} {K : Int → Int} {cc : Int} (hT : WN T K cc) (hnd : (ids T).Nodup)
    (t : Row α) (ht : t ∈ T) (b : Int) (hb : b ≤ K t.obj + 1) :
    ((T.filter (fun r => r.obj == t.obj && decide (r.ord < b))).map (·.ord)).Perm (oneToK (b - 1).toNat) := by
  apply perm_oneToK
  · refine Lists.nodup_map_on _ ?_ ((Lists.nodup_of_nodup_map (fun r : Row α => r.idx) hnd).filter _)
    intro a ha a' ha' e
    simp only [List.mem_filter, Bool.and_eq_true, beq_iff_eq, decide_eq_true_eq] at ha ha'
    exact idx_inj_of_nodup hnd ha.1 ha'.1 ((hT.pos hnd ha.1 ha'.1).2 ⟨ha.2.1.trans ha'.2.1.symm, e⟩)
  · intro x
    simp only [List.mem_map, List.mem_filter, Bool.and_eq_true, beq_iff_eq, decide_eq_true_eq]
    constructor
    · rintro ⟨r, ⟨hr, _, hb'⟩, rfl⟩
      exact ⟨(hT.ordA r hr).1, by omega⟩
    · rintro ⟨h1, h2⟩
      obtain ⟨r, hr, ho, hk⟩ := hT.surj t ht x h1 (by omega)
      exact ⟨r, ⟨hr, ho, by omega⟩, hk⟩

theorem WN.orders {T : List (Row α)} {K : Int → Int} {cc : Int} (hT : WN T K cc) (hnd : (ids T).Nodup) (g : Int) :
    ((T.filter (fun r => r.obj == g)).map (·.ord)).Perm (oneToK (T.filter (fun r => r.obj == g)).length) := by
  by_cases he : T.filter (fun r => r.obj == g) = []
  · rw [he]; exact List.Perm.refl _
  · obtain ⟨t, ht⟩ := List.exists_mem_of_ne_nil _ he
    simp only [List.mem_filter, beq_iff_eq] at ht
    obtain ⟨ht, rfl⟩ := ht
    have hp := hT.ords_below hnd t ht (K t.obj + 1) (Int.le_refl _)
    have hf : T.filter (fun r => r.obj == t.obj && decide (r.ord < K t.obj + 1)) =
        T.filter (fun r => r.obj == t.obj) := by
      apply List.filter_congr
      intro r hr
      by_cases e : r.obj = t.obj
      · have := hT.ordA r hr
        rw [e] at this
        simp [e]; omega
      · simp [e]
    rw [hf] at hp
    have hl := hp.length_eq
    rw [List.length_map, oneToK_length] at hl
    rw [hl]
    exact hp

end CryoCat.C19
