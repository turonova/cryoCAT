import CryoCat.Lemmas.C12
import CryoCat.Lemmas.C12_Grid
import Mathlib.Data.List.Nodup
/-! The soft edge along ONE axis. A row of the ball is the indicator of an interval `[c-a, c+a]` centred on the mask
centre; `mode='nearest'` continues it beyond a face it reaches. Blurring it with a kernel whose weight is symmetric and
non-increasing in `|offset|` gives a sequence that does not increase when moving away from the centre, except that a row
reaching only the upper face (possible on an even axis only, `n = 2c`, `a = c - 1`) is the half line `[c-a, ∞)`, whose blur
rises towards higher indices by the kernel weight at an offset `≥ n/2` (`faceRise`). What a blurred row can do from voxel to voxel is
`AxisProfile`; the argument is one-dimensional (cumulative weights, no re-indexing of sums, `row_profile`), and a weighted mean of
profiles is a profile, so the separable 3-D blur of the ball has one along each axis (`mask_profile_x/y/z`, after exchanging the order
of the weighted sums). -/
namespace CryoCat.C12

theorem exists_isqrt (D : Int) (hD : 0 ≤ D) : ∃ a : Int, 0 ≤ a ∧ a * a ≤ D ∧ ∀ v : Int, v * v ≤ D ↔ (-a ≤ v ∧ v ≤ a) := by
  obtain ⟨a, h1, h2⟩ : ∃ a : Nat, a * a ≤ D.toNat ∧ D.toNat < (a + 1) * (a + 1) := ⟨_, Nat.sqrt_le _, Nat.lt_succ_sqrt _⟩
  have e : ((D.toNat : Nat) : Int) = D := Int.toNat_of_nonneg hD
  have h1' : (a : Int) * a ≤ D := by rw [← e]; exact_mod_cast h1
  have h2' : D < ((a : Int) + 1) * ((a : Int) + 1) := by rw [← e]; exact_mod_cast h2
  have ha : (0 : Int) ≤ a := Int.natCast_nonneg a
  refine ⟨(a : Int), ha, h1', fun v => ⟨fun hv => ?_, fun hv => ?_⟩⟩
  · -- `|v| ≥ a + 1` would give `v² ≥ (a + 1)² > D`
    by_contra hc
    have h3 : |(a : Int) + 1| ≤ |v| := by
      rw [abs_of_nonneg (by omega : (0 : Int) ≤ (a : Int) + 1), le_abs]
      omega
    exact absurd (abs_le_iff_mul_self_le.1 h3) (by omega)
  · exact (abs_le_iff_mul_self_le.1 ((abs_le.2 hv).trans (le_abs_self _))).trans h1'

section mono
set_option linter.unusedSectionVars false
variable {K : Type} [Field K] [LinearOrder K] [IsStrictOrderedRing K]

-- `wt ker s` (weight a kernel puts on offset `s`) lives in `Model/C12` since the driver evaluates `faceRise` with it
def cumw (ker : List (Int × K)) (s : Int) : K := wsum ker (fun q => if q ≤ s then 1 else 0)

/-- the kernel's weight is symmetric and non-increasing in `|offset|` (`a² ≤ b²` says `|a| ≤ |b|`) -/
def KerUnimodal (ker : List (Int × K)) : Prop := ∀ a b : Int, a * a ≤ b * b → wt ker b ≤ wt ker a

theorem KerUnimodal.le {ker : List (Int × K)} (hu : KerUnimodal ker) {a b : Int} (h : |a| ≤ |b|) : wt ker b ≤ wt ker a :=
  hu a b (abs_le_iff_mul_self_le.1 h)

theorem wsum_mul_left (ker : List (Int × K)) (c : K) (g : Int → K) : wsum ker (fun q => c * g q) = c * wsum ker g := by
  induction ker with
  | nil => simp [wsum]
  | cons p ks ih => obtain ⟨q, w⟩ := p; simp only [wsum, ih]; ring

theorem wsum_comm (k1 k2 : List (Int × K)) (h : Int → Int → K) :
    wsum k1 (fun a => wsum k2 (fun b => h a b)) = wsum k2 (fun b => wsum k1 (fun a => h a b)) := by
  induction k1 with
  | nil => simp only [wsum]; rw [wsum_const]; ring
  | cons p ks ih =>
    obtain ⟨q, w⟩ := p
    simp only [wsum]
    rw [ih, wsum_add, wsum_mul_left]

theorem cumw_step (ker : List (Int × K)) (s : Int) : cumw ker s - cumw ker (s - 1) = wt ker s := by
  unfold cumw wt
  rw [← wsum_sub]
  apply wsum_congr'; intro q
  by_cases h1 : q = s
  · subst h1; simp
  · by_cases h2 : q ≤ s
    · rw [if_pos h2, if_pos (by omega), if_neg h1]; ring
    · rw [if_neg h2, if_neg (by omega), if_neg h1]; ring

theorem cumw_mono (ker : List (Int × K)) (hn : KerNonneg ker) (s s' : Int) (h : s ≤ s') : cumw ker s ≤ cumw ker s' := by
  unfold cumw
  apply wsum_mono _ hn; intro p _
  by_cases h1 : p.1 ≤ s
  · rw [if_pos h1, if_pos (by omega)]
  · rw [if_neg h1]; split_ifs
    · exact zero_le_one
    · exact le_refl _

/-- the blurred indicator of the interval `[L,U]`, read at `x` -/
def ivBlur (ker : List (Int × K)) (L U x : Int) : K := wsum ker (fun q => if L ≤ x + q ∧ x + q ≤ U then 1 else 0)

/-- `hLU` admits the empty interval `L = U + 1` -/
theorem ivBlur_eq (ker : List (Int × K)) (L U x : Int) (hLU : L ≤ U + 1) :
    ivBlur ker L U x = cumw ker (U - x) - cumw ker (L - x - 1) := by
  unfold ivBlur cumw
  rw [← wsum_sub]
  apply wsum_congr'; intro q
  by_cases h1 : q ≤ U - x
  · by_cases h2 : q ≤ L - x - 1
    · rw [if_pos h1, if_pos h2, if_neg (by omega)]; ring
    · rw [if_pos h1, if_neg h2, if_pos (by omega)]; ring
  · rw [if_neg h1, if_neg (by omega), if_neg (by omega)]; ring

theorem wsum_halfline (ker : List (Int × K)) (hu : ksum ker = 1) (L x : Int) :
    wsum ker (fun q => if L ≤ x + q then (1 : K) else 0) = 1 - cumw ker (L - x - 1) := by
  have h1 : wsum ker (fun _ => (1 : K)) = 1 := by rw [wsum_const, hu, one_mul]
  unfold cumw
  have h2 : wsum ker (fun q => (1 : K) - (if q ≤ L - x - 1 then 1 else 0))
      = 1 - wsum ker (fun q => if q ≤ L - x - 1 then (1 : K) else 0) := by rw [wsum_sub, h1]
  rw [← h2]
  apply wsum_congr'; intro q
  by_cases h : L ≤ x + q
  · rw [if_pos h, if_neg (by omega)]; ring
  · rw [if_neg h, if_pos (by omega)]; ring

/-- The one-dimensional core. `hx`: `x` is at or right of the midpoint of `[L,U]`; a step to the right then loses the weight at
offset `U - x` and gains the one at `L - x - 1`, which lies at least as far out. -/
theorem interval_step_right (ker : List (Int × K)) (hu : KerUnimodal ker) (L U x : Int) (hLU : L ≤ U + 1) (hx : L + U ≤ 2 * x + 1) :
    ivBlur ker L U (x + 1) ≤ ivBlur ker L U x := by
  rw [ivBlur_eq ker L U x hLU, ivBlur_eq ker L U (x + 1) hLU]
  have a := cumw_step ker (U - x)
  have b := cumw_step ker (L - x - 1)
  have e1 : U - (x + 1) = U - x - 1 := by ring
  have e2 : L - (x + 1) - 1 = L - x - 1 - 1 := by ring
  rw [e1, e2]
  have := hu.le (a := U - x) (b := L - x - 1) (by rw [← abs_neg (L - x - 1)]; exact abs_le_abs (by omega) (by omega))
  linarith

theorem wt_nonneg (ker : List (Int × K)) (hn : KerNonneg ker) (s : Int) : 0 ≤ wt ker s := by
  have h := wsum_mono ker hn (fun _ => (0 : K)) (fun q => if q = s then 1 else 0)
    (fun p _ => by split_ifs; exact zero_le_one; exact le_refl _)
  rw [wsum_const, mul_zero] at h
  exact h

theorem wt_zero_of_within (ker : List (Int × K)) (t : Nat) (hw : KerWithin t ker) (s : Int) (hs : (t : Int) < s ∨ s < -(t : Int)) :
    wt ker s = 0 := by
  unfold wt
  rw [wsum_congr ker _ (fun _ => (0 : K)) (fun p hp => by
    have := hw p hp
    rw [if_neg (by omega)]), wsum_const, mul_zero]

theorem wt_symm (ker : List (Int × K)) (hu : KerUnimodal ker) (s : Int) : wt ker (-s) = wt ker s :=
  le_antisymm (hu s (-s) (by rw [neg_mul_neg])) (hu (-s) s (by rw [neg_mul_neg]))

/-- the window `[s, e]` of the weights weighs as much as its mirror image (`e = s - 1`: the empty window) -/
theorem window_symm (ker : List (Int × K)) (hu : KerUnimodal ker) (s e : Int) (h : s - 1 ≤ e) :
    cumw ker e - cumw ker (s - 1) = cumw ker (-s) - cumw ker (-e - 1) := by
  induction e, h using Int.leInduction with
  | base => rw [show -(s - 1) - 1 = -s by ring, sub_self, sub_self]
  | succ e _ ih =>
    have h1 := cumw_step ker (e + 1)
    rw [add_sub_cancel_right] at h1
    have h2 := cumw_step ker (-e - 1)
    have h3 := wt_symm ker hu (e + 1)
    rw [neg_add'] at h3 ⊢
    linarith

/-- the blurred interval is symmetric about the midpoint of `[L,U]` -/
theorem interval_symm (ker : List (Int × K)) (hu : KerUnimodal ker) (L U x : Int) (hLU : L ≤ U + 1) :
    ivBlur ker L U (L + U - x) = ivBlur ker L U x := by
  rw [ivBlur_eq ker L U x hLU, ivBlur_eq ker L U (L + U - x) hLU,
    show U - (L + U - x) = -(L - x) by ring, show L - (L + U - x) - 1 = -(U - x) - 1 by ring]
  exact (window_symm ker hu (L - x) (U - x) (by omega)).symm

/-- the mirror image of `interval_step_right` -/
theorem interval_step_left (ker : List (Int × K)) (hu : KerUnimodal ker) (L U x : Int) (hLU : L ≤ U + 1) (hx : 2 * x - 1 ≤ L + U) :
    ivBlur ker L U (x - 1) ≤ ivBlur ker L U x := by
  have h := interval_step_right ker hu L U (L + U - x) hLU (by omega)
  rwa [show L + U - x + 1 = L + U - (x - 1) by ring, interval_symm ker hu L U (x - 1) hLU, interval_symm ker hu L U x hLU] at h

/-- a row of the ball through a voxel whose other two coordinates contribute `E` to the squared distance -/
def rowInd (c r E : Int) (u : Int) : K := if (u - c) * (u - c) + E ≤ r * r then 1 else 0

theorem row_shape (c r E : Int) (hr : 0 ≤ r) (hE : 0 ≤ E) :
    (∀ u, (rowInd c r E u : K) = 0) ∨
    ∃ a : Int, 0 ≤ a ∧ a ≤ r ∧ ∀ u, (rowInd c r E u : K) = if c - a ≤ u ∧ u ≤ c + a then 1 else 0 := by
  by_cases hD : r * r - E < 0
  · left
    intro u; unfold rowInd; rw [if_neg]; linarith [mul_self_nonneg (u - c)]
  · right
    rw [not_lt] at hD
    obtain ⟨a, ha0, haD, ha⟩ := exists_isqrt (r * r - E) hD
    have har : a ≤ r := by
      by_contra hcon; rw [not_le] at hcon
      have := mul_self_lt_mul_self hr hcon
      linarith
    refine ⟨a, ha0, har, fun u => if_congr ?_ rfl rfl⟩
    rw [← sub_nonneg, show r * r - ((u - c) * (u - c) + E) = r * r - E - (u - c) * (u - c) by ring, sub_nonneg, ha (u - c)]
    constructor <;> intro h <;> omega

/-- the three shapes of a CLAMPED row (`c = ⌊n/2⌋`, so `n - 1 ≤ 2c`): constant (empty, or reaching both faces), interval, upper half
line — a lower half line alone is impossible -/
theorem clamped_row_shape (n : Nat) (c r E : Int) (hcn : c < (n : Int)) (h2c : (n : Int) - 1 ≤ 2 * c) (hr : 0 ≤ r) (hE : 0 ≤ E) :
    (∃ v : K, ∀ u, rowInd c r E (clampI n u) = v) ∨
    (∃ a : Int, 0 ≤ a ∧ a ≤ r ∧ 0 < c - a ∧ c + a < (n : Int) - 1 ∧
        ∀ u, (rowInd c r E (clampI n u) : K) = if c - a ≤ u ∧ u ≤ c + a then 1 else 0) ∨
    (∃ a : Int, 0 ≤ a ∧ a ≤ r ∧ 0 < c - a ∧ (n : Int) - 1 ≤ c + a ∧
        ∀ u, (rowInd c r E (clampI n u) : K) = if c - a ≤ u then 1 else 0) := by
  rcases row_shape (K := K) c r E hr hE with h0 | ⟨a, ha0, har, hrow⟩
  · exact Or.inl ⟨0, fun u => h0 _⟩
  · by_cases hL : 0 < c - a
    · by_cases hU : c + a < (n : Int) - 1
      · refine Or.inr (Or.inl ⟨a, ha0, har, hL, hU, fun u => ?_⟩)
        rw [hrow]
        have : (c - a ≤ clampI n u ∧ clampI n u ≤ c + a) ↔ (c - a ≤ u ∧ u ≤ c + a) := by
          unfold clampI; split_ifs <;> constructor <;> intro h <;> omega
        simp only [this]
      · refine Or.inr (Or.inr ⟨a, ha0, har, hL, by omega, fun u => ?_⟩)
        rw [hrow]
        have : (c - a ≤ clampI n u ∧ clampI n u ≤ c + a) ↔ (c - a ≤ u) := by
          unfold clampI; split_ifs <;> constructor <;> intro h <;> omega
        simp only [this]
    · refine Or.inl ⟨1, fun u => ?_⟩
      rw [hrow, if_pos]
      unfold clampI; split_ifs <;> omega

/-- what the monotonicity theorems need of a kernel -/
structure UnimodalKernel (ker : List (Int × K)) : Prop where
  nonneg : KerNonneg ker
  unit : ksum ker = 1
  unimodal : KerUnimodal ker

/-- How a function `Φ` of the mask voxel along an axis of length `n` may vary: from the centre on, one voxel up raises it by at most `B`, one
voxel down never raises it, and neither does the wrap `n-1 ↦ 0` of an even axis -/
structure AxisProfile (n : Nat) (B : K) (Φ : Int → K) : Prop where
  up : ∀ x, centre n ≤ x → Φ (x + 1) ≤ Φ x + B
  down : ∀ x, x ≤ centre n → Φ (x - 1) ≤ Φ x
  wrap : (n : Int) = 2 * centre n → Φ 0 ≤ Φ ((n : Int) - 1)

theorem wsum_le_add (ker : List (Int × K)) (hn : KerNonneg ker) (hu : ksum ker = 1) (g g' : Int → K) (B : K)
    (h : ∀ p ∈ ker, g p.1 ≤ g' p.1 + B) : wsum ker g ≤ wsum ker g' + B := by
  have := wsum_mono ker hn g (fun q => g' q + B) h
  rw [wsum_add, wsum_const, hu, one_mul] at this
  exact this

/-- a weighted mean of profiles is a profile -/
theorem AxisProfile.wsum {ker : List (Int × K)} (hk : UnimodalKernel ker) {n : Nat} {B : K} {Φ : Int → Int → K}
    (h : ∀ a, AxisProfile n B (Φ a)) : AxisProfile n B (fun u => wsum ker (fun a => Φ a u)) :=
  ⟨fun x hx => wsum_le_add _ hk.nonneg hk.unit _ _ _ fun a _ => (h a.1).up x hx,
    fun x hx => wsum_mono _ hk.nonneg _ _ fun a _ => (h a.1).down x hx,
    fun he => wsum_mono _ hk.nonneg _ _ fun a _ => (h a.1).wrap he⟩

theorem AxisProfile.congr {n : Nat} {B : K} {Φ Ψ : Int → K} (h : AxisProfile n B Φ) (e : ∀ u, Ψ u = Φ u) : AxisProfile n B Ψ :=
  funext e ▸ h

theorem faceRise_nonneg (ker : List (Int × K)) (hn : KerNonneg ker) (n : Nat) (r : Int) : 0 ≤ faceRise ker n r := by
  unfold faceRise
  split_ifs
  · exact le_refl _
  · exact wt_nonneg ker hn _

theorem sq2_nonneg (a b : Int) : 0 ≤ a * a + b * b := add_nonneg (mul_self_nonneg a) (mul_self_nonneg b)

theorem centre_nonneg (n : Nat) : 0 ≤ centre n := by unfold centre; omega
theorem centre_lt (n : Nat) (hn : 0 < n) : centre n < (n : Int) := by unfold centre; omega
theorem centre_two (n : Nat) : (n : Int) - 1 ≤ 2 * centre n ∧ 2 * centre n ≤ (n : Int) := by unfold centre; omega

/-- One clamped row of the ball, blurred, as a function of the voxel: the rise per voxel is `faceRise`, the kernel weight at offset `n/2`
where the ball reaches the upper face of an even axis and 0 elsewhere -/
theorem row_profile (ker : List (Int × K)) (hk : UnimodalKernel ker) (n : Nat) (hn : 0 < n) (r E : Int) (hr : 0 ≤ r) (hE : 0 ≤ E) :
    AxisProfile n (faceRise ker n r) (fun x => wsum ker (fun q => (rowInd (centre n) r E (clampI n (x + q)) : K))) := by
  have hu := hk.unimodal
  have hcn := centre_lt n hn
  obtain ⟨h2c, h2c'⟩ := centre_two n
  have hB0 := faceRise_nonneg ker hk.nonneg n r
  rcases clamped_row_shape (K := K) n (centre n) r E hcn h2c hr hE with ⟨v, h⟩ | ⟨a, ha0, har, hL, hU, h⟩ | ⟨a, ha0, har, hL, hU, h⟩
  · simp only [h]
    exact ⟨fun _ _ => le_add_of_nonneg_right hB0, fun _ _ => le_refl _, fun _ => le_refl _⟩
  · simp only [h]
    refine ⟨fun x hx => ?_, fun x hx => interval_step_left ker hu _ _ x (by omega) (by omega), fun hn2 => ?_⟩
    · exact (interval_step_right ker hu _ _ x (by omega) (by omega)).trans (le_add_of_nonneg_right hB0)
    · -- voxel `0` is the mirror image of voxel `n = 2c`, one step beyond `n - 1`
      have := interval_step_right ker hu (centre n - a) (centre n + a) ((n : Int) - 1) (by omega) (by omega)
      rwa [show (n : Int) - 1 + 1 = centre n - a + (centre n + a) - 0 by omega, interval_symm ker hu _ _ 0 (by omega)] at this
  · simp only [h, wsum_halfline ker hk.unit]
    refine ⟨fun x hx => ?_, fun x hx => ?_, fun hn2 => ?_⟩
    · -- the half line occurs on an even axis only (`n = 2c`, `a = c - 1`), where `faceRise` is the weight at offset `c`
      have hs := cumw_step ker (centre n - a - x - 1)
      rw [show centre n - a - (x + 1) - 1 = centre n - a - x - 1 - 1 by ring]
      have hle := hu.le (a := centre n) (b := centre n - a - x - 1)
        (by rw [← abs_neg (centre n - a - x - 1)]; exact abs_le_abs (by omega) (by omega))
      rw [faceRise, if_neg (by unfold centre at *; omega)]
      linarith
    · have := cumw_mono ker hk.nonneg (centre n - a - x - 1) (centre n - a - (x - 1) - 1) (by omega)
      linarith
    · have := cumw_mono ker hk.nonneg (centre n - a - ((n : Int) - 1) - 1) (centre n - a - 0 - 1) (by omega)
      linarith

theorem sphere_row (d : Dims) (r : Int) (hr : 0 ≤ r) (X Y Z c E u : Int) (h : dist2 d X Y Z = (u - c) * (u - c) + E) :
    (sphere d r X Y Z : K) = rowInd c r E u := by
  unfold sphere rowInd
  rw [← h]
  exact if_congr (inBall_iff d r hr X Y Z) rfl rfl

theorem blur3_perm_y (ker : List (Int × K)) (d : Dims) (f : Vol K) (x y z : Int) :
    blur3Fn ker d f x y z = wsum ker (fun qz => wsum ker (fun qx => wsum ker (fun qy =>
      f (clampI d.nx (x + qx)) (clampI d.ny (y + qy)) (clampI d.nz (z + qz))))) :=
  wsum_congr' _ _ _ fun qz =>
    wsum_comm ker ker (fun qy qx => f (clampI d.nx (x + qx)) (clampI d.ny (y + qy)) (clampI d.nz (z + qz)))

theorem blur3_perm_z (ker : List (Int × K)) (d : Dims) (f : Vol K) (x y z : Int) :
    blur3Fn ker d f x y z = wsum ker (fun qy => wsum ker (fun qx => wsum ker (fun qz =>
      f (clampI d.nx (x + qx)) (clampI d.ny (y + qy)) (clampI d.nz (z + qz))))) := by
  refine (wsum_comm ker ker (fun qz qy => wsum ker (fun qx =>
    f (clampI d.nx (x + qx)) (clampI d.ny (y + qy)) (clampI d.nz (z + qz))))).trans ?_
  exact wsum_congr' _ _ _ fun qy =>
    wsum_comm ker ker (fun qz qx => f (clampI d.nx (x + qx)) (clampI d.ny (y + qy)) (clampI d.nz (z + qz)))

/-- what a voxel coordinate `v` on an axis of length `n` contributes to the squared distance from the centre -/
def sqOff (n : Nat) (v : Int) : Int := (v - centre n) * (v - centre n)

/-- the blurred ball along a line parallel to the x axis -/
theorem mask_profile_x (ker : List (Int × K)) (hk : UnimodalKernel ker) (d : Dims) (hd : 0 < d.nx) (r : Int) (hr : 0 ≤ r) (y z : Int) :
    AxisProfile d.nx (faceRise ker d.nx r) (fun u => lowMaskFn (some ker) d r u y z) :=
  AxisProfile.wsum hk fun qz => AxisProfile.wsum hk fun qy =>
    (row_profile ker hk d.nx hd r (sqOff d.ny (clampI d.ny (y + qy)) + sqOff d.nz (clampI d.nz (z + qz))) hr (sq2_nonneg _ _)).congr
      fun u => wsum_congr' _ _ _ fun qx => sphere_row d r hr _ _ _ _ _ _ (by unfold dist2 sqOff; ring)

theorem mask_profile_y (ker : List (Int × K)) (hk : UnimodalKernel ker) (d : Dims) (hd : 0 < d.ny) (r : Int) (hr : 0 ≤ r) (x z : Int) :
    AxisProfile d.ny (faceRise ker d.ny r) (fun u => lowMaskFn (some ker) d r x u z) := by
  refine AxisProfile.congr ?_ fun u => blur3_perm_y ker d (sphere d r) x u z
  exact AxisProfile.wsum hk fun qz => AxisProfile.wsum hk fun qx =>
    (row_profile ker hk d.ny hd r (sqOff d.nx (clampI d.nx (x + qx)) + sqOff d.nz (clampI d.nz (z + qz))) hr (sq2_nonneg _ _)).congr
      fun u => wsum_congr' _ _ _ fun qy => sphere_row d r hr _ _ _ _ _ _ (by unfold dist2 sqOff; ring)

theorem mask_profile_z (ker : List (Int × K)) (hk : UnimodalKernel ker) (d : Dims) (hd : 0 < d.nz) (r : Int) (hr : 0 ≤ r) (x y : Int) :
    AxisProfile d.nz (faceRise ker d.nz r) (fun u => lowMaskFn (some ker) d r x y u) := by
  refine AxisProfile.congr ?_ fun u => blur3_perm_z ker d (sphere d r) x y u
  exact AxisProfile.wsum hk fun qy => AxisProfile.wsum hk fun qx =>
    (row_profile ker hk d.nz hd r (sqOff d.nx (clampI d.nx (x + qx)) + sqOff d.ny (clampI d.ny (y + qy))) hr (sq2_nonneg _ _)).congr
      fun u => wsum_congr' _ _ _ fun qz => sphere_row d r hr _ _ _ _ _ _ (by unfold dist2 sqOff; ring)

theorem wsum_map_ind (l : List Int) (hl : l.Nodup) (ψ : Int → K) (u : Int) :
    wsum (l.map (fun q => (q, ψ q))) (fun q => if q = u then (1 : K) else 0) = if u ∈ l then ψ u else 0 := by
  induction l with
  | nil => simp [wsum]
  | cons a l ih =>
    have hn := List.nodup_cons.1 hl
    simp only [List.map_cons, wsum, ih hn.2, List.mem_cons]
    by_cases h : a = u
    · subst h
      rw [if_pos rfl, if_neg hn.1, if_pos (Or.inl rfl)]; ring
    · have h' : ¬ u = a := fun e => h e.symm
      rw [if_neg h]
      by_cases hm : u ∈ l
      · rw [if_pos hm, if_pos (Or.inr hm)]; ring
      · rw [if_neg hm, if_neg (by rintro (e | e); exact h' e; exact hm e)]; ring

theorem offsets_nodup (t : Nat) : (offsets t).Nodup := by
  unfold offsets
  apply List.Nodup.map _ List.nodup_range
  intro a b h
  simp only at h
  omega

theorem mem_offsets_iff (t : Nat) (q : Int) : q ∈ offsets t ↔ (-(t : Int) ≤ q ∧ q ≤ (t : Int)) := Layout.mem_offsets_iff t q

/-- weights `ψ q` on the offsets `-t … t` that fall as `q²` grows -/
theorem offsets_map_unimodal (t : Nat) (ψ : Int → K) (h0 : ∀ q, 0 ≤ ψ q) (hψ : ∀ a b : Int, a * a ≤ b * b → ψ b ≤ ψ a) :
    KerUnimodal ((offsets t).map (fun q => (q, ψ q))) := by
  intro a b hab
  unfold wt
  rw [wsum_map_ind _ (offsets_nodup t), wsum_map_ind _ (offsets_nodup t)]
  by_cases hb : b ∈ offsets t
  · -- `|a| ≤ |b| ≤ t`
    have ha : a ∈ offsets t :=
      (mem_offsets_iff t a).2 (abs_le.1 ((abs_le_iff_mul_self_le.2 hab).trans (abs_le.2 ((mem_offsets_iff t b).1 hb))))
    rw [if_pos hb, if_pos ha]
    exact hψ a b hab
  · rw [if_neg hb]
    split_ifs
    · exact h0 a
    · exact le_refl _

theorem gaussKernel_unimodal (expf : K → K) (hexp : ∀ x, 0 < expf x) (hmono : ∀ x y, x ≤ y → expf x ≤ expf y)
    (sigma : K) (t : Nat) : UnimodalKernel (gaussKernel expf (fun q => (q : K)) sigma t) := by
  obtain ⟨s, hs, hu, e⟩ := gaussKernel_form expf hexp (fun q => (q : K)) sigma t
  refine ⟨(gaussKernel_valid expf hexp _ sigma t).nonneg, hu, ?_⟩
  rw [e]
  refine offsets_map_unimodal t _ (fun q => (div_pos (hexp _) hs).le) fun a b hab => ?_
  -- the exponent `c·q²` with `c ≤ 0` falls as `q²` grows
  have hc0 : (-(1 / 2)) / (sigma * sigma) ≤ (0 : K) :=
    div_nonpos_of_nonpos_of_nonneg (by norm_num) (mul_self_nonneg sigma)
  exact div_le_div_of_nonneg_right (hmono _ _ (mul_le_mul_of_nonpos_left (by exact_mod_cast hab) hc0)) hs.le

end mono
end CryoCat.C12
