import CryoCat.Model.C12_Dft
import CryoCat.Lemmas.C12_Grid
/-! The array pipeline `filtGrid` the driver executes holds, on the box, exactly the values of
`filt (dft3 …) (idft3 …) re gain`: every 1-D pass of the model's transforms reads only the box, so
tabulating between the passes changes nothing. No algebra needed (any `C` with `+`, `*`, `0`). -/
namespace CryoCat.C12

section
set_option linter.unusedSectionVars false
variable {C : Type} [Add C] [Mul C] [OfNat C 0]

def InBoxI (d : Dims) (i : Idx) : Prop := InBox d i.1 i.2.1 i.2.2

def BoxLocal (d : Dims) (T : (Idx → C) → (Idx → C)) : Prop :=
  ∀ x x' : Idx → C, (∀ i, InBoxI d i → x i = x' i) → ∀ i, InBoxI d i → T x i = T x' i

def Local1 (n : Nat) (T : (Int → C) → (Int → C)) : Prop :=
  ∀ f g : Int → C, (∀ u : Int, 0 ≤ u ∧ u < (n : Int) → f u = g u) → ∀ k : Int, 0 ≤ k ∧ k < (n : Int) → T f k = T g k

theorem sumN_congr (n : Nat) (f g : Nat → C) (h : ∀ j, j < n → f j = g j) : sumN n f = sumN n g := by
  induction n with
  | zero => rfl
  | succ n ih =>
    simp only [sumN]
    rw [ih (fun j hj => h j (by omega)), h n (by omega)]

theorem dft1_local (n : Nat) (tw : Nat → C) : Local1 n (dft1 n tw) := by
  intro f g h k hk
  unfold dft1
  rw [if_pos hk, if_pos hk]
  apply sumN_congr; intro j hj
  rw [h (j : Int) ⟨by omega, by exact_mod_cast hj⟩]

theorem idft1_local (n : Nat) (tw : Nat → C) (c : C) : Local1 n (idft1 n tw c) := by
  intro f g h k hk
  unfold idft1
  rw [if_pos hk, if_pos hk]
  congr 1
  apply sumN_congr; intro j hj
  rw [h (j : Int) ⟨by omega, by exact_mod_cast hj⟩]

theorem alongX_local (d : Dims) (T : (Int → C) → (Int → C)) (h : Local1 d.nx T) : BoxLocal d (alongX T) := by
  intro x x' hx i hi
  obtain ⟨a, b, c⟩ := i
  exact h _ _ (fun u hu => hx (u, b, c) ⟨hu, hi.2.1, hi.2.2⟩) a hi.1

theorem alongY_local (d : Dims) (T : (Int → C) → (Int → C)) (h : Local1 d.ny T) : BoxLocal d (alongY T) := by
  intro x x' hx i hi
  obtain ⟨a, b, c⟩ := i
  exact h _ _ (fun u hu => hx (a, u, c) ⟨hi.1, hu, hi.2.2⟩) b hi.2.1

theorem alongZ_local (d : Dims) (T : (Int → C) → (Int → C)) (h : Local1 d.nz T) : BoxLocal d (alongZ T) := by
  intro x x' hx i hi
  obtain ⟨a, b, c⟩ := i
  exact h _ _ (fun u hu => hx (a, b, u) ⟨hi.1, hi.2.1, hu⟩) c hi.2.2

theorem stage_get (d : Dims) (T : (Idx → C) → (Idx → C)) (hT : BoxLocal d T) (g : Grid C) (f : Idx → C)
    (hg : ∀ i, InBoxI d i → atIdx g.get i = f i) (i : Idx) (hi : InBoxI d i) : atIdx (stage d T g).get i = T f i := by
  obtain ⟨a, b, c⟩ := i
  have := get_tabulate d (volOf (T (atIdx g.get))) a b c hi
  simp only [atIdx, stage]
  rw [this]
  exact hT _ _ hg (a, b, c) hi

end

theorem filtGrid_get {R C : Type} [SMul R C] [Add C] [Mul C] [OfNat C 0] (d : Dims) (twx twy twz : Nat → C) (ix iy iz : C)
    (re : C → C) (gain : Idx → R) (x : Grid C) (i : Idx) (hi : InBoxI d i) :
    atIdx (filtGrid d twx twy twz ix iy iz re gain x).get i
      = filt (dft3 d twx twy twz) (idft3 d twx twy twz ix iy iz) re gain (atIdx x.get) i := by
  unfold filtGrid filt dft3 idft3
  simp only []
  have s1 := stage_get d _ (alongX_local d _ (dft1_local d.nx twx)) x (atIdx x.get) (fun _ _ => rfl)
  have s2 := stage_get d _ (alongY_local d _ (dft1_local d.ny twy)) _ _ s1
  have s3 := stage_get d _ (alongZ_local d _ (dft1_local d.nz twz)) _ _ s2
  have hmul : BoxLocal d (fun (s : Idx → C) k => gain k • s k) := by
    intro y y' hy k hk; simp only []; rw [hy k hk]
  have s4 := stage_get d _ hmul _ _ s3
  have s5 := stage_get d _ (alongZ_local d _ (idft1_local d.nz twz iz)) _ _ s4
  have s6 := stage_get d _ (alongY_local d _ (idft1_local d.ny twy iy)) _ _ s5
  have s7 := stage_get d _ (alongX_local d _ (idft1_local d.nx twx ix)) _ _ s6
  have hre : BoxLocal d (fun (s : Idx → C) k => re (s k)) := by
    intro y y' hy k hk; simp only []; rw [hy k hk]
  exact stage_get d _ hre _ _ s7 i hi

theorem BoxLocal.comp {C : Type} (d : Dims) (T1 T2 : (Idx → C) → (Idx → C)) (h1 : BoxLocal d T1) (h2 : BoxLocal d T2) :
    BoxLocal d (fun x => T2 (T1 x)) :=
  fun x x' hx i hi => h2 _ _ (fun k hk => h1 x x' hx k hk) i hi

theorem idft3_local {C : Type} [Add C] [Mul C] [OfNat C 0] (d : Dims) (twx twy twz : Nat → C) (ix iy iz : C) :
    BoxLocal d (idft3 d twx twy twz ix iy iz) := by
  unfold idft3
  exact BoxLocal.comp d _ _ (BoxLocal.comp d _ _ (alongZ_local d _ (idft1_local d.nz twz iz)) (alongY_local d _ (idft1_local d.ny twy iy)))
    (alongX_local d _ (idft1_local d.nx twx ix))

theorem dft3_local {C : Type} [Add C] [Mul C] [OfNat C 0] (d : Dims) (twx twy twz : Nat → C) :
    BoxLocal d (dft3 d twx twy twz) := by
  unfold dft3
  exact BoxLocal.comp d _ _ (BoxLocal.comp d _ _ (alongX_local d _ (dft1_local d.nx twx)) (alongY_local d _ (dft1_local d.ny twy)))
    (alongZ_local d _ (dft1_local d.nz twz))

theorem filt_congr_box {R C : Type} [SMul R C] [Add C] [Mul C] [OfNat C 0] (d : Dims) (twx twy twz : Nat → C) (ix iy iz : C)
    (re : C → C) (g g' : Idx → R) (hg : ∀ k, InBoxI d k → g k = g' k) (x x' : Idx → C) (hx : ∀ i, InBoxI d i → x i = x' i)
    (i : Idx) (hi : InBoxI d i) :
    filt (dft3 d twx twy twz) (idft3 d twx twy twz ix iy iz) re g x i
      = filt (dft3 d twx twy twz) (idft3 d twx twy twz ix iy iz) re g' x' i :=
  congrArg re (idft3_local d twx twy twz ix iy iz _ _
    (fun k hk => by rw [hg k hk, dft3_local d twx twy twz x x' hx k hk]) i hi)

theorem rollGrid_get {C : Type} [OfNat C 0] (d : Dims) (s : Idx) (x : Grid C) (i : Idx) (hi : InBoxI d i) :
    atIdx (rollGrid d s x).get i = atIdx x.get (rollIdx d s i) := by
  obtain ⟨a, b, c⟩ := i
  exact get_tabulate d _ a b c hi

/-- the driver's call: gain read from the `ifftshift`ed materialised mask -/
theorem filtGrid_mask {R C : Type} [SMul R C] [Add C] [Mul C] [OfNat C 0] [Add R] [Mul R] [Sub R] [OfNat R 0] [OfNat R 1]
    (d : Dims) (twx twy twz : Nat → C) (ix iy iz : C) (re : C → C) (m : Grid R) (f : Vol R)
    (hm : ∀ x y z, InBox d x y z → m.get x y z = f x y z) (x : Grid C) (i : Idx) (hi : InBoxI d i) :
    atIdx (filtGrid d twx twy twz ix iy iz re (atIdx (gainGrid d m).get) x).get i
      = filt (dft3 d twx twy twz) (idft3 d twx twy twz ix iy iz) re (atIdx (shiftVol d f)) (atIdx x.get) i := by
  rw [filtGrid_get d twx twy twz ix iy iz re _ x i hi]
  refine filt_congr_box d twx twy twz ix iy iz re _ _ (fun k hk => ?_) _ _ (fun _ _ => rfl) i hi
  obtain ⟨a, b, c⟩ := k
  exact gainGrid_get d m f hm a b c hk

end CryoCat.C12
