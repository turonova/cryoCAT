import CryoCat.Lemmas.C06_Geom
import CryoCat.Lemmas.RealAngle
import Mathlib.Geometry.Euclidean.Angle.Unoriented.TriangleInequality
import Mathlib.Analysis.SpecialFunctions.Trigonometric.Inverse
import Mathlib.Analysis.InnerProductSpace.PiL2
import Mathlib.Analysis.SpecialFunctions.Complex.Arg
/-! C06 — the model at ℝ with `Real.arccos`, `Real.sqrt`, π and `atan2 y x = arg (x + iy)`. `arccos |⟪a, b⟫|` obeys the triangle inequality
on unit vectors of any real inner-product space: half of the angular distance in radians, for unit quaternions as vectors of ℝ⁴. Range
and degrees of the distances, `2·arccos x = arccos (2x² − 1)`; the angles `normals_to_euler_angles` computes through `atan2` have the
cosines and sines of `csOfUnit`. -/
namespace CryoCat.C06

section triangle
open InnerProductGeometry Real

variable {V : Type*} [NormedAddCommGroup V] [InnerProductSpace ℝ V]

noncomputable def hd (a b : V) : ℝ := arccos |inner ℝ a b|

theorem angle_of_unit {a b : V} (ha : ‖a‖ = 1) (hb : ‖b‖ = 1) : angle a b = arccos (inner ℝ a b) := by
  rw [angle, ha, hb, mul_one, div_one]

theorem hd_eq_min (a b : V) (ha : ‖a‖ = 1) (hb : ‖b‖ = 1) :
    hd a b = min (angle a b) (angle a (-b)) := by
  rw [hd, angle_neg_right, angle_of_unit ha hb]
  -- the smaller of `arccos x` and `π − arccos x` is the one below `π/2`: the first for `0 ≤ x`, the second for `x < 0`
  rcases le_or_gt 0 (inner ℝ a b) with h | h
  · have := arccos_le_pi_div_two.2 h
    rw [abs_of_nonneg h, min_eq_left]; linarith
  · have := lt_of_not_ge (mt arccos_le_pi_div_two.1 h.not_ge)
    rw [abs_of_neg h, arccos_neg, min_eq_right]; linarith

theorem hd_triangle (a b c : V) (ha : ‖a‖ = 1) (hb : ‖b‖ = 1) (hc : ‖c‖ = 1) :
    hd a c ≤ hd a b + hd b c := by
  -- the right side is the least of four sums, each the length of a path from `a` through `±b` to `±c`
  rw [hd_eq_min a c ha hc, hd_eq_min a b ha hb, hd_eq_min b c hb hc, ← min_add_add_left, ← min_add_add_right,
    ← min_add_add_right]
  have t3 := angle_le_angle_add_angle a (-b) c
  have t4 := angle_le_angle_add_angle a (-b) (-c)
  rw [← angle_neg_neg (-b) c, neg_neg] at t3
  rw [angle_neg_neg] at t4
  exact le_min
    (le_min ((min_le_left _ _).trans (angle_le_angle_add_angle a b c)) ((min_le_right _ _).trans t4))
    (le_min ((min_le_right _ _).trans (angle_le_angle_add_angle a b (-c))) ((min_le_left _ _).trans t3))
end triangle

open Real

/-- the platform functions over the reals; `atan2` stays a parameter: the distance theorems do not use it -/
noncomputable def realLibm (atan2 : ℝ → ℝ → ℝ) : Libm ℝ :=
  { acos := Real.arccos, sqrt := Real.sqrt, atan2 := atan2, pi := Real.pi }

noncomputable def vec (q : Q4 ℝ) : EuclideanSpace ℝ (Fin 4) := !₂[q.x, q.y, q.z, q.w]

theorem inner_vec (p q : Q4 ℝ) : inner ℝ (vec p) (vec q) = qdot p q := by
  simp [vec, PiLp.inner_apply, Fin.sum_univ_four, qdot]
  ring

theorem norm_vec (q : Q4 ℝ) (h : qnormSq q = 1) : ‖vec q‖ = 1 := by
  rw [norm_eq_sqrt_real_inner, inner_vec, ← qnormSq, h, Real.sqrt_one]

theorem arccos_min_one (x : ℝ) : arccos (min x 1) = arccos x := by
  rcases le_total x 1 with h | h
  · rw [min_eq_left h]
  · rw [min_eq_right h, arccos_one, eq_comm, arccos_eq_zero]; exact h

section dist
variable (at2 : ℝ → ℝ → ℝ)

theorem angDistRad_eq_hd (p q : Q4 ℝ) : angDistRad (realLibm at2) p q = 2 * hd (vec p) (vec q) := by
  simp only [angDistRad, realLibm, absDot, hd, inner_vec, absv_eq_abs, arccos_min_one]

theorem toDeg_real (r : ℝ) : toDeg (realLibm at2) r = r * (180 / π) := rfl
theorem angDistRad_real (p q : Q4 ℝ) : angDistRad (realLibm at2) p q = 2 * arccos (absDot p q) := rfl
theorem coneDist_real (m1 m2 : M3 ℝ) :
    coneDist (realLibm at2) m1 m2 = arccos (coneCos (realLibm at2) m1 m2) * (180 / π) := rfl

theorem angDistRad_range (p q : Q4 ℝ) : 0 ≤ angDistRad (realLibm at2) p q ∧ angDistRad (realLibm at2) p q ≤ π := by
  have a0 : 0 ≤ arccos (absDot p q) := arccos_nonneg _
  have a1 : arccos (absDot p q) ≤ π / 2 := arccos_le_pi_div_two.2 (absDot_mem p q).1
  rw [angDistRad_real]
  constructor <;> linarith

theorem deg_range {r : ℝ} (h0 : 0 ≤ r) (h1 : r ≤ π) : 0 ≤ r * (180 / π) ∧ r * (180 / π) ≤ 180 :=
  ⟨mul_nonneg h0 (by positivity),
    (mul_le_mul_of_nonneg_right h1 (by positivity)).trans_eq (mul_div_cancel₀ 180 pi_ne_zero)⟩

theorem deg_eq_zero (r : ℝ) : r * (180 / π) = 0 ↔ r = 0 := by
  rw [mul_eq_zero, or_iff_left (div_ne_zero (by norm_num) pi_ne_zero)]

theorem two_arccos (x : ℝ) (h0 : 0 ≤ x) (h1 : x ≤ 1) : 2 * arccos x = arccos (2 * (x * x) - 1) := by
  have a0 : 0 ≤ arccos x := arccos_nonneg _
  have a1 : arccos x ≤ π / 2 := arccos_le_pi_div_two.2 h0
  have hc : cos (2 * arccos x) = 2 * (x * x) - 1 := by
    rw [cos_two_mul, cos_arccos (by linarith) h1]; ring
  rw [← hc, arccos_cos (by linarith) (by linarith)]

noncomputable def vec3 (v : V3 ℝ) : EuclideanSpace ℝ (Fin 3) := !₂[v.x, v.y, v.z]

theorem inner_vec3 (u v : V3 ℝ) : inner ℝ (vec3 u) (vec3 v) = V3.dot u v := by
  simp [vec3, PiLp.inner_apply, Fin.sum_univ_three, V3.dot]
  ring

theorem norm_vec3 (v : V3 ℝ) (h : V3.normSq v = 1) : ‖vec3 v‖ = 1 := by
  rw [norm_eq_sqrt_real_inner, inner_vec3, ← V3.normSq, h, Real.sqrt_one]

theorem angle_vec3 (u v : V3 ℝ) (hu : V3.normSq u = 1) (hv : V3.normSq v = 1) :
    InnerProductGeometry.angle (vec3 u) (vec3 v) = arccos (V3.dot u v) := by
  rw [angle_of_unit (norm_vec3 u hu) (norm_vec3 v hv), inner_vec3]
end dist

/-- `atan2 y x`: the argument of `x + iy`, in (-π, π] -/
noncomputable def atan2R (y x : ℝ) : ℝ := Complex.arg ⟨x, y⟩

theorem cos_atan2R (y x : ℝ) (h : x * x + y * y ≠ 0) : cos (atan2R y x) = x / sqrt (x * x + y * y) :=
  RealAngle.cos_arg_mk x y h

theorem sin_atan2R (y x : ℝ) : sin (atan2R y x) = y / sqrt (x * x + y * y) := RealAngle.sin_arg_mk x y

theorem atan2R_zero_one : atan2R 0 1 = 0 := by
  unfold atan2R
  have : (⟨1, 0⟩ : ℂ) = 1 := by apply Complex.ext <;> simp
  rw [this, Complex.arg_one]

/-- θ = atan2(ρ, uz) with `uz² + ρ² = 1`; ψ = 0 on the axis, else ψ = atan2(uy, ux) + 90° whose (cos, sin) is `(−uy/ρ, ux/ρ)` -/
theorem anglesOfUnit_cos_sin (u : V3 ℝ) (hu : V3.normSq u = 1) :
    let a := anglesOfUnit (realLibm atan2R) u
    let r := csOfUnit (realLibm atan2R) u
    cos (a.1 * (π / 180)) = r.1 ∧ sin (a.1 * (π / 180)) = r.2.1 ∧
    cos (a.2 * (π / 180)) = r.2.2.1 ∧ sin (a.2 * (π / 180)) = r.2.2.2 := by
  intro a r
  have h0 : 0 ≤ u.x * u.x + u.y * u.y := add_nonneg (mul_self_nonneg _) (mul_self_nonneg _)
  have hρ : u.z * u.z + sqrt (u.x * u.x + u.y * u.y) * sqrt (u.x * u.x + u.y * u.y) = 1 := by
    rw [Real.mul_self_sqrt h0, add_comm]; exact hu
  obtain ⟨hc, hs⟩ : cos (atan2R _ _) = _ ∧ sin (atan2R _ _) = _ := RealAngle.cos_sin_arg_of_unit hρ
  have ha1 : a.1 * (π / 180) = atan2R (sqrt (u.x * u.x + u.y * u.y)) u.z := RealAngle.rad_deg _
  rw [ha1, hc, hs]
  by_cases hxy : u.x = 0 ∧ u.y = 0
  · have hr : r = _ := csOfUnit_axis _ u hxy
    have ha2 : a.2 = 0 := if_pos ((xy_beq u).2 hxy)
    rw [hr, ha2, zero_mul, cos_zero, sin_zero]
    exact ⟨rfl, rfl, rfl, rfl⟩
  · have hr : r = _ := csOfUnit_off _ u hxy
    have ha2 : a.2 * (π / 180) = atan2R u.y u.x + π / 2 := by
      rw [show a.2 = 90 + atan2R u.y u.x * (180 / π) from if_neg (mt (xy_beq u).1 hxy), add_mul, RealAngle.rad_deg]
      ring
    rw [hr, ha2, cos_add_pi_div_two, sin_add_pi_div_two, sin_atan2R,
      cos_atan2R _ _ fun e => hxy (mul_self_add_mul_self_eq_zero.1 e)]
    exact ⟨rfl, rfl, rfl, rfl⟩

end CryoCat.C06
