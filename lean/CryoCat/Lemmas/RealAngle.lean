import Mathlib.Analysis.SpecialFunctions.Complex.Arg
/-! The real-number services the models take as parameters, whatever the property: `atan2 y x` is the argument of
`x + iy`; a point of the unit circle is (cos, sin) of its argument; degrees and radians. -/
namespace CryoCat.RealAngle
open Real

theorem cos_mul_self_add_sin_mul_self (x : ℝ) : cos x * cos x + sin x * sin x = 1 := by
  rw [← sq, ← sq]; exact cos_sq_add_sin_sq x

theorem rad_deg (t : ℝ) : t * (180 / π) * (π / 180) = t := by
  have := pi_ne_zero
  field_simp

theorem norm_mk (x y : ℝ) : ‖(⟨x, y⟩ : ℂ)‖ = √(x * x + y * y) := by
  rw [Complex.norm_def, Complex.normSq_mk]

/-! the polar form of `(x, y)` -/

theorem sqrt_mul_cos_arg (x y : ℝ) : √(x * x + y * y) * cos (Complex.arg ⟨x, y⟩) = x :=
  norm_mk x y ▸ Complex.norm_mul_cos_arg ⟨x, y⟩

theorem sqrt_mul_sin_arg (x y : ℝ) : √(x * x + y * y) * sin (Complex.arg ⟨x, y⟩) = y :=
  norm_mk x y ▸ Complex.norm_mul_sin_arg ⟨x, y⟩

theorem cos_arg_mk (x y : ℝ) (h : x * x + y * y ≠ 0) : cos (Complex.arg ⟨x, y⟩) = x / √(x * x + y * y) := by
  rw [Complex.cos_arg fun e => h (by rw [← Complex.normSq_mk, e, map_zero]), norm_mk]

theorem sin_arg_mk (x y : ℝ) : sin (Complex.arg ⟨x, y⟩) = y / √(x * x + y * y) := by
  rw [Complex.sin_arg, norm_mk]

/-- a point of the unit circle is (cos, sin) of its argument -/
theorem cos_sin_arg_of_unit {c s : ℝ} (h : c * c + s * s = 1) :
    cos (Complex.arg ⟨c, s⟩) = c ∧ sin (Complex.arg ⟨c, s⟩) = s := by
  rw [cos_arg_mk _ _ (h ▸ one_ne_zero), sin_arg_mk, h, sqrt_one, div_one, div_one]
  exact ⟨rfl, rfl⟩

/-- the same with the argument taken to degrees and back, as the models compute it -/
theorem cos_sin_argDeg_of_unit {c s : ℝ} (h : c * c + s * s = 1) :
    cos (Complex.arg ⟨c, s⟩ * (180 / π) * (π / 180)) = c ∧ sin (Complex.arg ⟨c, s⟩ * (180 / π) * (π / 180)) = s := by
  rw [rad_deg]; exact cos_sin_arg_of_unit h

theorem arg_cos_sin {θ : ℝ} (hθ : θ ∈ Set.Ioc (-π) π) : Complex.arg ⟨cos θ, sin θ⟩ = θ := by
  have e : (⟨cos θ, sin θ⟩ : ℂ) = Complex.cos θ + Complex.sin θ * Complex.I := by
    apply Complex.ext <;> simp [← Complex.ofReal_cos, ← Complex.ofReal_sin]
  rw [e]
  exact Complex.arg_cos_add_sin_mul_I hθ

end CryoCat.RealAngle
