import CryoCat.Lemmas.C19_WN
/-! C19 — the one relabelling behind every accepting branch of `add_chain_suffix` and `add_chain_prefix`.

`splice x y p q n1 n2 d`: chain `x` up to order `p`, followed by chain `y` from order `q` on, becomes
object `n1`; what is left over — the tail of `x` after `p` or the head of `y` before `q`, one of the two
is empty — becomes object `n2`; the row `(x, p)` records the new link `d`.
* suffix attach to row `t` of chain `g` (new chain `cls`): `splice g cls t.ord 1 g cls` (the tail is
  empty when `t` is the last member);
* prefix attach in front of row `t` of chain `g` (new chain `gc`, size `top`): `splice gc g top t.ord g gc`;
* two-sided merge: `splice gc g top t.ord gc fresh`.
Suffix and prefix differ only in which leftover can be non-empty.  `splice_wn`/`splice_dl`: a splice of a
well-numbered, correctly linked table is well numbered and correctly linked.  `Mid`: the table together with the
new chain, as the two calls find it. -/
namespace CryoCat.C19
set_option linter.unusedSectionVars false
variable {α : Type} [LE α] [LT α] [DecidableLE α] [DecidableLT α] [DecidableEq α]

def splice (x y p q n1 n2 : Int) (d : α) (r : Row α) : Row α :=
  { idx := r.idx
    obj := if r.obj = x then (if r.ord ≤ p then n1 else n2) else if r.obj = y then (if r.ord < q then n2 else n1)
      else r.obj
    ord := if r.obj = x then (if r.ord ≤ p then r.ord else r.ord - p)
      else if r.obj = y then (if r.ord < q then r.ord else r.ord + (p - (q - 1))) else r.ord
    dist := if r.obj = x ∧ r.ord = p then d else r.dist }

theorem splice_idx (x y p q n1 n2 : Int) (d : α) (r : Row α) : (splice x y p q n1 n2 d r).idx = r.idx := rfl

section
/- the table is spliced at two of its rows, `tx` and `ty`; `n1` is one of their two ids; `n2` is the other one
or an id not in use (`cc ≤ n2`) -/
variable {T : List (Row α)} {K : Int → Int} {cc : Int} (hT : WN T K cc) (n1 n2 cc' : Int) (d : α)
  (tx : Row α) (htx : tx ∈ T) (ty : Row α) (hty : ty ∈ T)
  (hend : tx.ord = K tx.obj ∨ ty.ord = 1) (hn1 : n1 = tx.obj ∨ n1 = ty.obj)
  (hn2 : n2 ≠ n1 ∧ (n2 = tx.obj ∨ n2 = ty.obj ∨ cc ≤ n2 ∧ n2 < cc'))
include hT htx hty hend hn1 hn2

theorem splice_wn (hxy : tx.obj ≠ ty.obj) (hcc : cc ≤ cc') :
    WN (T.map (splice tx.obj ty.obj tx.ord ty.ord n1 n2 d))
      (fun z => if z = n1 then tx.ord + (K ty.obj - (ty.ord - 1))
        else if z = n2 then K tx.obj - tx.ord + (ty.ord - 1) else K z) cc' := by
  have hKx := hT.ordA tx htx
  have hKy := hT.ordA ty hty
  have hrx := hT.rng tx htx
  have hry := hT.rng ty hty
  apply hT.map (splice tx.obj ty.obj tx.ord ty.ord n1 n2 d) _ _ (fun _ => rfl)
  -- four pieces are moved, each by a shift of its order numbers: in `n1` the head of `x` keeps `1..p` and the
  -- tail of `y` follows from `p + 1`; in `n2` one of the two leftovers is empty (`hend`), the other starts at 1
  · intro r hr
    have h1 := hT.rng r hr
    have h2 := hT.ordA r hr
    simp only [splice]
    grind
  · intro r hr k hk1
    have h1 := hT.rng r hr
    have h2 := hT.ordA r hr
    by_cases ho : (splice tx.obj ty.obj tx.ord ty.ord n1 n2 d r).obj = n1
    · rw [ho]; simp only [if_true]
      intro hk2
      by_cases hk : k ≤ tx.ord
      · refine ⟨tx, htx, k, hk1, by omega, fun r0 hr0 => ?_⟩
        have := hT.rng r0 hr0; have := hT.ordA r0 hr0
        simp only [splice]; grind
      · refine ⟨ty, hty, k - (tx.ord - (ty.ord - 1)), by omega, by omega, fun r0 hr0 => ?_⟩
        have := hT.rng r0 hr0; have := hT.ordA r0 hr0
        simp only [splice]; grind
    · by_cases ho2 : (splice tx.obj ty.obj tx.ord ty.ord n1 n2 d r).obj = n2
      · rw [ho2]; simp only [if_neg hn2.1, if_true]
        intro hk2
        rcases hend with he | he
        · refine ⟨ty, hty, k, hk1, by omega, fun r0 hr0 => ?_⟩
          have := hT.rng r0 hr0; have := hT.ordA r0 hr0
          simp only [splice]; grind
        · refine ⟨tx, htx, k + tx.ord, by omega, by omega, fun r0 hr0 => ?_⟩
          have := hT.rng r0 hr0; have := hT.ordA r0 hr0
          simp only [splice]; grind
      · have e : (splice tx.obj ty.obj tx.ord ty.ord n1 n2 d r).obj = r.obj := by simp only [splice] at ho ho2 ⊢; grind
        simp only [if_neg ho, if_neg ho2]
        rw [e]
        intro hk2
        refine ⟨r, hr, k, hk1, hk2, fun r0 hr0 => ?_⟩
        have := hT.rng r0 hr0; have := hT.ordA r0 hr0
        simp only [splice] at ho ho2 e ⊢; grind

/-- the only new neighbours are `(x, p)` and `(y, q)`; the pairs `(x, p), (x, p+1)` and `(y, q-1), (y, q)`
end up in different objects -/
theorem splice_dl {o : Opts} {c : Cfg α} (hD : DL o c T)
    (hd : d = c.d tx.idx ty.idx ∧ inWin o c (c.d tx.idx ty.idx) = true) :
    DL o c (T.map (splice tx.obj ty.obj tx.ord ty.ord n1 n2 d)) := by
  apply DL.map (splice tx.obj ty.obj tx.ord ty.ord n1 n2 d) (fun _ => rfl)
  intro r hr r' hr'
  have h1 := hT.rng r hr
  have h1' := hT.rng r' hr'
  have h2 := hT.ordA r hr
  have h2' := hT.ordA r' hr'
  have hi1 := hT.inj r hr tx htx
  have hi2 := hT.inj r' hr' ty hty
  have hd := hD r hr r' hr'
  simp only [splice]
  grind

end

/-- the state between `add_chain_suffix` and `add_chain_prefix`: table `A` and the new chain, which is the top
segment `k .. K gc` of object `gc`; together well numbered and correctly linked -/
structure Mid (o : Opts) (c : Cfg α) (A : List (Row α)) (gc k : Int) (ms : List (Nat × α)) (K : Int → Int) (cc : Int) :
    Prop where
  wn : WN (A ++ mkChainFrom gc k ms) K cc
  nd : (ids (A ++ mkChainFrom gc k ms)).Nodup
  dl : DL o c (A ++ mkChainFrom gc k ms)
  top : K gc = k + ms.length - 1
  ne : ms ≠ []

theorem ids_disjoint {A C : List (Row α)} (hnd : (ids (A ++ C)).Nodup) {r r' : Row α} (hr : r ∈ A) (hr' : r' ∈ C) :
    r.idx ≠ r'.idx := by
  intro e
  rw [ids_append] at hnd
  have := (List.nodup_append.1 hnd).2.2 r.idx (List.mem_map.2 ⟨r, hr, rfl⟩) r'.idx (List.mem_map.2 ⟨r', hr', rfl⟩)
  exact this e

variable {o : Opts} {c : Cfg α} {A : List (Row α)} {gc k : Int} {ms : List (Nat × α)} {K : Int → Int} {cc : Int}

theorem Mid.le_top (hM : Mid o c A gc k ms K cc) : ∀ r ∈ mkChainFrom gc k ms, r.ord ≤ K gc := fun r hr => by
  have := mkChainFrom_mem gc ms k r hr; have := hM.top; omega

/-- the chain's last row: it has the object's highest order number -/
theorem Mid.top_row (hM : Mid o c A gc k ms K cc) (i : Nat) :
    ∃ r ∈ mkChainFrom gc k ms, r.obj = gc ∧ r.ord = K gc ∧ r.idx = lastOf ms i := by
  obtain ⟨r, hr, hk, hi⟩ := mkChainFrom_last gc ms k i hM.ne
  exact ⟨r, hr, (mkChainFrom_mem gc ms k r hr).1, hM.top ▸ hk, hi⟩

theorem Mid.head (hM : Mid o c A gc k ms K cc) : headObj (mkChainFrom gc k ms) = gc := by
  have := hM.ne
  cases ms with
  | nil => exact absurd rfl this
  | cons _ _ => rfl

theorem Mid.gc_rng (hM : Mid o c A gc k ms K cc) : 1 ≤ gc ∧ gc < cc := by
  obtain ⟨r, hr, ho, _⟩ := hM.top_row 0
  exact ho ▸ hM.wn.rng r (List.mem_append_right _ hr)

theorem Mid.head_pos (hM : Mid o c A gc k ms K cc) : 1 ≤ headObj (mkChainFrom gc k ms) := hM.head.symm ▸ hM.gc_rng.1

theorem Mid.table_pos (hM : Mid o c A gc k ms K cc) : ∀ r ∈ A, 1 ≤ r.ord ∧ 1 ≤ r.obj := fun r hr =>
  ⟨(hM.wn.ordA r (List.mem_append_left _ hr)).1, (hM.wn.rng r (List.mem_append_left _ hr)).1⟩

/-- the table has rows of object `gc` after a suffix attachment -/
theorem Mid.below_top (hM : Mid o c A gc k ms K cc) : ∀ r ∈ A, r.obj = gc → r.ord < K gc := by
  intro r hr e
  obtain ⟨top, htop, ho, hk, _⟩ := hM.top_row 0
  have h1 := (hM.wn.ordA r (List.mem_append_left _ hr)).2
  rw [e] at h1
  have h2 : r.ord ≠ K gc := fun e2 => ids_disjoint hM.nd hr htop
    ((hM.wn.pos hM.nd (List.mem_append_left _ hr) (List.mem_append_right _ htop)).2 ⟨e.trans ho.symm, e2.trans hk.symm⟩)
  exact Int.lt_iff_le_and_ne.2 ⟨h1, h2⟩

/-- `chain_df[order].max()` of the new chain is its object's size -/
theorem Mid.maxOrd (hM : Mid o c A gc k ms K cc) : maxOrd 0 (fun _ => true) (mkChainFrom gc k ms) = K gc := by
  obtain ⟨r, hr, _, hk, _⟩ := hM.top_row 0
  have := (hM.wn.ordA r (List.mem_append_right _ hr)).1
  obtain ⟨_, h2, h3⟩ := maxOrd_spec (fun _ : Row α => true) (mkChainFrom gc k ms) 0
  have := h2 r hr rfl
  rcases h3 with h3 | ⟨r', hr', _, e'⟩
  · omega
  · have := hM.le_top r' hr'; omega

theorem Mid.splice_traced (hM : Mid o c A gc k ms K cc) (i : Nat) (t : Row α) (ht : t ∈ A) (htg : t.obj ≠ gc)
    (n1 n2 cc' : Int) (d : α) (hn1 : n1 = gc ∨ n1 = t.obj)
    (hn2 : n2 ≠ n1 ∧ (n2 = gc ∨ n2 = t.obj ∨ cc ≤ n2 ∧ n2 < cc')) (hcc : cc ≤ cc')
    (hd : d = c.d (lastOf ms i) t.idx ∧ inWin o c (c.d (lastOf ms i) t.idx) = true) :
    Traced o c ((A ++ mkChainFrom gc k ms).map (splice gc t.obj (K gc) t.ord n1 n2 d)) cc' := by
  obtain ⟨top, htop, rfl, hk, hi⟩ := hM.top_row i
  rw [← hk]
  rw [← hi] at hd
  have htopT := List.mem_append_right A htop
  have htT := List.mem_append_left (mkChainFrom top.obj k ms) ht
  exact ⟨_, splice_wn hM.wn n1 n2 cc' d top htopT t htT (Or.inl hk) hn1 hn2 htg.symm hcc,
    splice_dl hM.wn n1 n2 cc' d top htopT t htT (Or.inl hk) hn1 hn2 hM.dl hd⟩

end CryoCat.C19
