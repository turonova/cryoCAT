import CryoCat.Model.C10
import CryoCat.Lemmas.Rot
import Mathlib.Tactic.Ring
import Mathlib.Tactic.LinearCombination
/-! C10 — the angles `Ang` form a commutative monoid on which `rz` is an injective homomorphism into the matrices (`k` steps of the step
angle are the `k`-th power of its rotation; on the unit circle an angle can be cancelled); the own-axis rotation `R·Rz(j·a)·Rᵀ`; `renum`
numbers a list in order; the length of the as-is angle table. Exact arithmetic over any commutative ring. -/
namespace CryoCat.C10
variable {α : Type}

theorem Ang.ext' {a b : Ang α} (h1 : a.c = b.c) (h2 : a.s = b.s) : a = b := by
  cases a; cases b; simp_all

def mpow [OfNat α 0] [OfNat α 1] [Add α] [Mul α] (m : M3 α) : Nat → M3 α
  | 0 => M3.one
  | k + 1 => mpow m k * m

section ring
variable [CommRing α]

def Ang.IsUnit (a : Ang α) : Prop := a.c * a.c + a.s * a.s = 1

theorem Ang.zero_isUnit : (Ang.zero : Ang α).IsUnit := by simp [Ang.IsUnit, Ang.zero]

theorem Ang.add_isUnit {a b : Ang α} (ha : a.IsUnit) (hb : b.IsUnit) : (a.add b).IsUnit := by
  unfold Ang.IsUnit at *
  simp only [Ang.add]
  linear_combination (b.c * b.c + b.s * b.s) * ha + hb

theorem Ang.nsmul_isUnit {a : Ang α} (ha : a.IsUnit) (k : Nat) : (Ang.nsmul k a).IsUnit := by
  induction k with
  | zero => exact Ang.zero_isUnit
  | succ k ih => exact Ang.add_isUnit ih ha

theorem Ang.zero_add (a : Ang α) : Ang.add Ang.zero a = a := by
  apply Ang.ext' <;> simp [Ang.add, Ang.zero]
theorem Ang.add_zero (a : Ang α) : Ang.add a Ang.zero = a := by
  apply Ang.ext' <;> simp [Ang.add, Ang.zero]
theorem Ang.add_assoc (a b c : Ang α) : (a.add b).add c = a.add (b.add c) := by
  apply Ang.ext' <;> simp only [Ang.add] <;> ring
theorem Ang.add_comm (a b : Ang α) : a.add b = b.add a := by
  apply Ang.ext' <;> simp only [Ang.add] <;> ring

theorem Ang.nsmul_succ (k : Nat) (a : Ang α) : Ang.nsmul (k + 1) a = (Ang.nsmul k a).add a := rfl

theorem Ang.nsmul_add (j k : Nat) (a : Ang α) : Ang.nsmul (j + k) a = (Ang.nsmul j a).add (Ang.nsmul k a) := by
  induction k with
  | zero => simp [Ang.nsmul, Ang.add_zero]
  | succ k ih => rw [← Nat.add_assoc, Ang.nsmul_succ, ih, Ang.nsmul_succ, Ang.add_assoc]

/-- one evaluation at the product `k * x` = `k` angle additions -/
theorem Ang.nsmul_of_add {t : α → Ang α} (h0 : t 0 = Ang.zero) (hadd : ∀ x y, t (x + y) = (t x).add (t y))
    (k : Nat) (x : α) : t ((k : α) * x) = Ang.nsmul k (t x) := by
  induction k with
  | zero => rw [Nat.cast_zero, zero_mul, h0]; rfl
  | succ k ih => rw [Nat.cast_succ, add_one_mul, hadd, ih]; rfl

theorem Ang.nsmul_mul (j k : Nat) (a : Ang α) : Ang.nsmul (j * k) a = Ang.nsmul j (Ang.nsmul k a) := by
  induction j with
  | zero => simp [Ang.nsmul]
  | succ j ih => rw [Nat.succ_mul, Ang.nsmul_add, ih, Ang.nsmul_succ]

theorem Ang.rz_add (a b : Ang α) : (a.add b).rz = a.rz * b.rz := by
  simp only [Ang.rz, Ang.add, rz_mul]

theorem Ang.rz_zero : (Ang.zero : Ang α).rz = M3.one := by
  simp only [Ang.rz, Ang.zero]; exact CryoCat.rz_zero

theorem Ang.rz_nsmul (k : Nat) (a : Ang α) : (Ang.nsmul k a).rz = mpow a.rz k := by
  induction k with
  | zero => exact Ang.rz_zero
  | succ k ih => rw [Ang.nsmul_succ, Ang.rz_add, ih]; rfl

theorem Ang.rz_orth {a : Ang α} (ha : a.IsUnit) : a.rz.Orth := CryoCat.rz_orth a.c a.s ha

theorem Ang.rz_injective {a b : Ang α} (h : a.rz = b.rz) : a = b :=
  Ang.ext' (congrArg M3.a11 h) (congrArg M3.a21 h)

theorem col3_mul_rz (R : M3 α) (a : Ang α) : (R * a.rz).col3 = R.col3 := M3.col3_mul_rz R a.c a.s

/-- on the unit circle `a` has the inverse `(a.c, −a.s)` -/
theorem Ang.add_left_cancel {a b : Ang α} (ha : a.IsUnit) (h : a.add b = a) : b = Ang.zero := by
  have hc := congrArg Ang.c h
  have hs := congrArg Ang.s h
  simp only [Ang.add] at hc hs
  unfold Ang.IsUnit at ha
  apply Ang.ext'
  · simp only [Ang.zero]
    linear_combination a.c * hc + a.s * hs - (b.c - 1) * ha
  · simp only [Ang.zero]
    linear_combination a.c * hs - a.s * hc - b.s * ha

end ring

section field
variable [_root_.Field α]
/-- the rotation about the parent's OWN z axis by `j` steps: `R · Rz(j·a) · Rᵀ` -/
def ownAxisRot (sv : Svc α) (n : Nat) (P : Particle α) (j : Nat) : M3 α :=
  orientOf sv P * (Ang.nsmul j (stepAng sv n)).rz * (orientOf sv P).transpose

end field

theorem renum_eq_map [NatCast α] (i : Nat) (us : List (SubU α)) :
    renum i us = (us.zipIdx i).map (fun x => x.1.setId (((x.2 + Gen.C10.idStart : Nat) : α))) := by
  induction us generalizing i with
  | nil => rfl
  | cons u us ih => simp [renum, List.zipIdx_cons, ih]

theorem renum_length [NatCast α] (i : Nat) (us : List (SubU α)) : (renum i us).length = us.length := by
  rw [renum_eq_map, List.length_map, List.length_zipIdx]

theorem renum_getElem? [NatCast α] (i : Nat) (us : List (SubU α)) (j : Nat) :
    (renum i us)[j]? = us[j]?.map (fun u => u.setId (((i + j + Gen.C10.idStart : Nat) : α))) := by
  rw [renum_eq_map, List.getElem?_map, List.getElem?_zipIdx, Option.map_map]
  rfl

/-! the as-is angle table `np.arange(0, N, int(N/n))` (defect D12, `N = 360`) -/

/-- With `s = N / n` and `N = n * s + r`, `r < n`: the table has `⌈N / s⌉` entries, and `⌈N / s⌉ = n` says
`n * s ≤ N + s - 1 < n * s + s`, that is `r = 0`. -/
theorem arangeLen_div_eq_iff (N n : Nat) (h : N / n ≠ 0) : arangeLen N (N / n) = n ↔ n ∣ N := by
  have hN := Nat.div_add_mod N n
  have hr := Nat.mod_lt N (Nat.pos_of_ne_zero fun h0 => h (h0 ▸ Nat.div_zero N))
  rw [Nat.dvd_iff_mod_eq_zero, arangeLen, Nat.div_eq_iff (Nat.pos_of_ne_zero h)]
  generalize N / n = s at *
  generalize N % n = r at *
  omega

theorem asisRuns_iff (n : Nat) : asisRuns n = true ↔ 360 / n ≠ 0 ∧ arangeLen 360 (360 / n) = n := by
  by_cases h : 360 / n = 0 <;> simp [asisRuns, asisPhi, h]

end CryoCat.C10
