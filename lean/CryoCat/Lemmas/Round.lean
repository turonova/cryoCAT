import Mathlib.Algebra.Order.Round
import Mathlib.Data.Rat.Floor
/-! Rounding to an integer in an ordered field with a floor (ℚ, ℝ), whatever the property: half away from zero
(`decimal.ROUND_HALF_UP`, `roundAway`) and toward zero (`int(x)`, `astype(int)`, `trunc`). Each property's own rounding
function is one of the two by unfolding; what is true of it is proved here. -/
namespace CryoCat.Round
variable {K : Type} [Field K] [LinearOrder K] [IsStrictOrderedRing K] [FloorRing K]

/-! ### half away from zero -/

/-- nearest integer, exact halves away from zero: Mathlib's `round` (halves up) mirrored at zero -/
def roundAway (v : K) : ℤ := if v < 0 then -round (-v) else round v

/-- the floor formula, as the models write it -/
theorem roundAway_eq_floor (v : K) : roundAway v = if v < 0 then -⌊-v + 1 / 2⌋ else ⌊v + 1 / 2⌋ := by
  simp only [roundAway, round_eq]

/-- the same with the test written `0 ≤ v` -/
theorem roundAway_eq_floor' (v : K) : roundAway v = if 0 ≤ v then ⌊v + 1 / 2⌋ else -⌊-v + 1 / 2⌋ := by
  rw [roundAway_eq_floor, ← ite_not]; simp only [not_lt]

omit [IsStrictOrderedRing K] in
theorem roundAway_of_nonneg {v : K} (h : 0 ≤ v) : roundAway v = round v := if_neg (not_lt.2 h)

theorem roundAway_neg (v : K) : roundAway (-v) = -roundAway v := by
  rcases lt_trichotomy v 0 with h | rfl | h
  · rw [roundAway_of_nonneg (neg_nonneg.2 h.le), roundAway, if_pos h, neg_neg]
  · simp [roundAway]
  · rw [roundAway, if_pos (neg_neg_of_pos h), neg_neg, roundAway_of_nonneg h.le]

theorem abs_sub_roundAway (v : K) : |v - (roundAway v : K)| ≤ 1 / 2 := by
  unfold roundAway
  split
  · rw [Int.cast_neg, sub_neg_eq_add, ← abs_neg, neg_add']
    exact abs_sub_round (-v)
  · exact abs_sub_round v

theorem roundAway_intCast (z : ℤ) : roundAway (z : K) = z := by
  unfold roundAway
  split
  · rw [← Int.cast_neg, round_intCast, neg_neg]
  · exact round_intCast z

/-- the tie rule: `k + 1/2` goes up to `k + 1`, and by `roundAway_neg` its mirror image goes down -/
theorem roundAway_add_half {z : ℤ} (hz : 0 ≤ z) : roundAway ((z : K) + 1 / 2) = z + 1 := by
  rw [roundAway_of_nonneg (add_nonneg (Int.cast_nonneg hz) one_half_pos.le), round_intCast_add, one_div, round_two_inv]

/-! the two clauses the properties ask of a rounding service `r : K → K`, for `r v = roundAway v` -/

theorem roundAway_nearest (v : K) : (∃ z : ℤ, ((roundAway v : ℤ) : K) = z) ∧ |v - (roundAway v : K)| ≤ 1 / 2 :=
  ⟨⟨_, rfl⟩, abs_sub_roundAway v⟩

theorem roundAway_ties (k : ℕ) :
    ((roundAway ((k : K) + 1 / 2) : ℤ) : K) = (k : K) + 1 ∧ ((roundAway (-((k : K) + 1 / 2)) : ℤ) : K) = -((k : K) + 1) := by
  have h := roundAway_add_half (K := K) (Int.natCast_nonneg k)
  rw [Int.cast_natCast] at h
  rw [roundAway_neg, h]
  push_cast
  exact ⟨rfl, rfl⟩

/-- the floor formula on values of `K`, as C04 and C10 write it -/
theorem roundAway_cast_eq_floor (v : K) :
    ((roundAway v : ℤ) : K) = if v < 0 then -((⌊-v + 1 / 2⌋ : ℤ) : K) else ((⌊v + 1 / 2⌋ : ℤ) : K) := by
  rw [roundAway_eq_floor, apply_ite (Int.cast (R := K)), Int.cast_neg]

/-! ### toward zero -/

/-- the integer part -/
def trunc (v : K) : ℤ := if 0 ≤ v then ⌊v⌋ else ⌈v⌉

omit [IsStrictOrderedRing K] in
theorem trunc_of_nonneg {v : K} (h : 0 ≤ v) : trunc v = ⌊v⌋ := if_pos h

theorem trunc_of_nonpos {v : K} (h : v ≤ 0) : trunc v = ⌈v⌉ := by
  rcases h.lt_or_eq with h | rfl
  · exact if_neg (not_le.2 h)
  · simp [trunc]

/-- the form with the test written `v < 0` and no ceiling -/
theorem trunc_eq_floor (v : K) : trunc v = if v < 0 then -⌊-v⌋ else ⌊v⌋ := by
  split
  · next h => rw [trunc_of_nonpos h.le, Int.floor_neg, neg_neg]
  · next h => exact trunc_of_nonneg (not_lt.1 h)

theorem trunc_neg (v : K) : trunc (-v) = -trunc v := by
  rcases le_total 0 v with h | h
  · rw [trunc_of_nonneg h, trunc_of_nonpos (neg_nonpos.2 h), Int.ceil_neg]
  · rw [trunc_of_nonpos h, trunc_of_nonneg (neg_nonneg.2 h), Int.floor_neg]

theorem trunc_intCast (z : ℤ) : trunc (z : K) = z := by
  unfold trunc; split
  · exact Int.floor_intCast z
  · exact Int.ceil_intCast z

omit [IsStrictOrderedRing K] in
/-- every `v` of `(-1, 1)` has integer part 0 -/
theorem trunc_eq_zero {v : K} (h1 : -1 < v) (h2 : v < 1) : trunc v = 0 := by
  unfold trunc; split
  · next h => exact Int.floor_eq_zero_iff.2 ⟨h, h2⟩
  · next h => exact Int.ceil_eq_zero_iff.2 ⟨h1, (not_le.1 h).le⟩

theorem trunc_neg_iff (v : K) : trunc v < 0 ↔ v ≤ -1 := by
  unfold trunc; split
  · next h => exact iff_of_false (not_lt.2 (Int.floor_nonneg.2 h)) fun h' => (h.trans h').not_gt neg_one_lt_zero
  · rw [show ⌈v⌉ < 0 ↔ ⌈v⌉ ≤ -1 by omega, Int.ceil_le, Int.cast_neg, Int.cast_one]

/-- `Int.tdiv` on numerator and denominator is the integer part -/
theorem tdiv_num_den (q : ℚ) : Int.tdiv q.num q.den = trunc q := by
  have pos : ∀ r : ℚ, 0 ≤ r → Int.tdiv r.num r.den = trunc r := fun r h => by
    rw [trunc_of_nonneg h, Rat.floor_def']
    exact Int.tdiv_eq_ediv_of_nonneg (Rat.num_nonneg.2 h)
  rcases le_total 0 q with h | h
  · exact pos q h
  · have := pos (-q) (neg_nonneg.2 h)
    rw [Rat.num_neg_eq_neg_num, Rat.den_neg_eq_den, Int.neg_tdiv, trunc_neg] at this
    exact neg_injective this

end CryoCat.Round
