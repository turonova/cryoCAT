import CryoCat.Lemmas.C12
/-! The arrays the driver computes hold the values of the pure functions; the model's Gaussian
kernel is a valid kernel. -/
namespace CryoCat.C12

theorem get_tabulate {α : Type} [OfNat α 0] (d : Dims) (f : Vol α) (x y z : Int) (hb : InBox d x y z) :
    (tabulate d f).get x y z = f x y z := by
  obtain ⟨⟨hx0, hx1⟩, ⟨hy0, hy1⟩, ⟨hz0, hz1⟩⟩ := hb
  have ex : ((x.toNat : Nat) : Int) = x := Int.toNat_of_nonneg hx0
  have ey : ((y.toNat : Nat) : Int) = y := Int.toNat_of_nonneg hy0
  have ez : ((z.toNat : Nat) : Int) = z := Int.toNat_of_nonneg hz0
  have lx : x.toNat < d.nx := by omega
  have ly : y.toNat < d.ny := by omega
  have lz : z.toNat < d.nz := by omega
  have n1 : ¬ (x < 0 ∨ y < 0 ∨ z < 0) := by omega
  simp only [Grid.get, tabulate, n1, if_false, Array.getElem?_ofFn, lx, ly, lz, dif_pos, ex, ey, ez]

theorem InBox.pos {d : Dims} {x y z : Int} (hb : InBox d x y z) : 0 < d.nx ∧ 0 < d.ny ∧ 0 < d.nz := by
  have := hb.1; have := hb.2.1; have := hb.2.2; omega

section
set_option linter.unusedSectionVars false
variable {α : Type} [Add α] [Mul α] [Sub α] [OfNat α 0] [OfNat α 1]

theorem clampI_inbox (n : Nat) (hn : 0 < n) (i : Int) : 0 ≤ clampI n i ∧ clampI n i < (n : Int) := by
  unfold clampI; split_ifs <;> omega

theorem wsum_congr' (ker : List (Int × α)) (g g' : Int → α) (h : ∀ q, g q = g' q) : wsum ker g = wsum ker g' :=
  congrArg (wsum ker) (funext h)

theorem blur3Grid_get (ker : List (Int × α)) (d : Dims) (g : Grid α) (x y z : Int) (hb : InBox d x y z) :
    (blur3Grid ker d g).get x y z = blur3Fn ker d g.get x y z := by
  obtain ⟨px, py, pz⟩ := hb.pos
  unfold blur3Grid blur3Fn
  simp only []
  rw [get_tabulate d _ x y z hb]
  unfold blurZ
  apply wsum_congr'; intro qz
  rw [get_tabulate d _ _ _ _ ⟨hb.1, hb.2.1, clampI_inbox d.nz pz _⟩]
  unfold blurY
  apply wsum_congr'; intro qy
  rw [get_tabulate d _ _ _ _ ⟨hb.1, clampI_inbox d.ny py _, clampI_inbox d.nz pz _⟩]

theorem blur3Fn_get_tabulate (ker : List (Int × α)) (d : Dims) (f : Vol α) (x y z : Int) (hb : InBox d x y z) :
    blur3Fn ker d (tabulate d f).get x y z = blur3Fn ker d f x y z := by
  obtain ⟨px, py, pz⟩ := hb.pos
  unfold blur3Fn blurZ blurY blurX
  apply wsum_congr'; intro qz
  apply wsum_congr'; intro qy
  apply wsum_congr'; intro qx
  exact get_tabulate d f _ _ _ ⟨clampI_inbox d.nx px _, clampI_inbox d.ny py _, clampI_inbox d.nz pz _⟩

theorem lowMaskGrid_get (ker : Option (List (Int × α))) (d : Dims) (r : Int) (x y z : Int) (hb : InBox d x y z) :
    (lowMaskGrid ker d r).get x y z = lowMaskFn ker d r x y z := by
  cases ker with
  | none => exact get_tabulate d _ x y z hb
  | some k =>
    simp only [lowMaskGrid, lowMaskFn]
    rw [blur3Grid_get k d _ x y z hb, blur3Fn_get_tabulate k d _ x y z hb]

theorem highMaskGrid_get (ker : Option (List (Int × α))) (d : Dims) (r : Int) (x y z : Int) (hb : InBox d x y z) :
    (highMaskGrid ker d r).get x y z = highMaskFn ker d r x y z := by
  simp only [highMaskGrid, highMaskFn]
  rw [get_tabulate d _ x y z hb, lowMaskGrid_get ker d r x y z hb]

theorem bandMaskGrid_get (kl kh : Option (List (Int × α))) (d : Dims) (lp hp : Int) (x y z : Int) (hb : InBox d x y z) :
    (bandMaskGrid kl kh d lp hp).get x y z = bandMaskFn kl kh d lp hp x y z := by
  simp only [bandMaskGrid, bandMaskFn]
  rw [get_tabulate d _ x y z hb, lowMaskGrid_get kl d lp x y z hb, lowMaskGrid_get kh d hp x y z hb]

theorem shift_inbox (d : Dims) (j k l : Int) (hd : 0 < d.nx ∧ 0 < d.ny ∧ 0 < d.nz) :
    InBox d (shiftIdx d.nx j) (shiftIdx d.ny k) (shiftIdx d.nz l) :=
  ⟨shiftIdx_range _ hd.1 _, shiftIdx_range _ hd.2.1 _, shiftIdx_range _ hd.2.2 _⟩

theorem neg_inbox (d : Dims) (j k l : Int) (hd : 0 < d.nx ∧ 0 < d.ny ∧ 0 < d.nz) :
    InBox d (negIdx d.nx j) (negIdx d.ny k) (negIdx d.nz l) :=
  ⟨negIdx_range _ hd.1 _, negIdx_range _ hd.2.1 _, negIdx_range _ hd.2.2 _⟩

theorem gainGrid_get (d : Dims) (m : Grid α) (f : Vol α) (hm : ∀ x y z, InBox d x y z → m.get x y z = f x y z)
    (j k l : Int) (hb : InBox d j k l) : (gainGrid d m).get j k l = shiftVol d f j k l := by
  simp only [gainGrid]
  rw [get_tabulate d _ j k l hb]
  exact hm _ _ _ (shift_inbox d j k l hb.pos)

theorem effGrid_get [Div α] [OfNat α 2] (d : Dims) (g : Grid α) (f : Vol α) (hg : ∀ x y z, InBox d x y z → g.get x y z = f x y z)
    (j k l : Int) (hb : InBox d j k l) : (effGrid d g).get j k l = effGain d f j k l := by
  simp only [effGrid]
  rw [get_tabulate d _ j k l hb]
  simp only [effGain]
  rw [hg _ _ _ hb, hg _ _ _ (neg_inbox d j k l hb.pos)]
end

section kernel
variable {K : Type} [Field K] [LinearOrder K] [IsStrictOrderedRing K]

theorem ksum_map_div (raw : List (Int × K)) (s : K) : ksum (raw.map (fun p => (p.1, p.2 / s))) = ksum raw / s := by
  induction raw with
  | nil => simp [ksum]
  | cons p ks ih => simp only [List.map_cons, ksum, ih]; ring

theorem ksum_pos (raw : List (Int × K)) (hne : raw ≠ []) (hp : ∀ p ∈ raw, 0 < p.2) : 0 < ksum raw := by
  induction raw with
  | nil => exact absurd rfl hne
  | cons p ks ih =>
    obtain ⟨q, w⟩ := p
    simp only [ksum]
    have hw : 0 < w := hp (q, w) (by simp)
    by_cases hk : ks = []
    · subst hk; simpa [ksum] using hw
    · have := ih hk (fun p h => hp p (by simp [h])); linarith

theorem mem_offsets (t : Nat) (q : Int) (h : q ∈ offsets t) : -(t : Int) ≤ q ∧ q ≤ (t : Int) :=
  (Layout.mem_offsets_iff t q).1 h

/-- the model's kernel, whatever positive function plays `exp`: the weights `exp(c·q²)/s` on the offsets `-t … t`, with `s > 0` their
sum before normalisation -/
theorem gaussKernel_form (expf : K → K) (hexp : ∀ x, 0 < expf x) (ofI : Int → K) (sigma : K) (t : Nat) :
    ∃ s : K, 0 < s ∧ ksum (gaussKernel expf ofI sigma t) = 1 ∧
      gaussKernel expf ofI sigma t
        = (offsets t).map (fun q => (q, expf ((-(1 / 2)) / (sigma * sigma) * (ofI q * ofI q)) / s)) := by
  set raw : List (Int × K) := (offsets t).map (fun q => (q, expf ((-(1 / 2)) / (sigma * sigma) * (ofI q * ofI q)))) with hraw
  have hs : 0 < ksum raw := ksum_pos raw (by simp [hraw, offsets]) (by
    intro p hp
    simp only [hraw, List.mem_map] at hp
    obtain ⟨q, _, rfl⟩ := hp
    exact hexp _)
  have hker : gaussKernel expf ofI sigma t = raw.map (fun p => (p.1, p.2 / ksum raw)) := rfl
  refine ⟨ksum raw, hs, ?_, ?_⟩
  · rw [hker, ksum_map_div, div_self (ne_of_gt hs)]
  · rw [hker, hraw, List.map_map]; rfl

theorem gaussKernel_valid (expf : K → K) (hexp : ∀ x, 0 < expf x) (ofI : Int → K) (sigma : K) (t : Nat) :
    ValidKernel t (gaussKernel expf ofI sigma t) := by
  obtain ⟨s, hs, hu, e⟩ := gaussKernel_form expf hexp ofI sigma t
  refine ⟨?_, hu, ?_⟩ <;> intro p hp <;> rw [e, List.mem_map] at hp <;> obtain ⟨q, hq, rfl⟩ := hp
  · exact (div_pos (hexp _) hs).le
  · exact mem_offsets t q hq

theorem kernelFor_mem [BEq K] (expf : K → K) (ofI : Int → K) (trunc : K → Nat) (sigma : K) {k' : List (Int × K)}
    (h : k' ∈ kernelFor expf ofI trunc sigma) : k' = gaussKernel expf ofI sigma (trunc sigma) := by
  unfold kernelFor at h
  split_ifs at h <;> cases h
  rfl
end kernel
end CryoCat.C12
