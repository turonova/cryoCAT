import CryoCat.Model.C03
/-! C03 — the `$xxx` / `$yyy` substitution of `prepare_particles_data` on formats of the documented shape. Core Lean only. -/
namespace CryoCat.C03

def NotHead (c : Char) (s : List Char) : Prop := s = [] ∨ ∃ h t, s = h :: t ∧ h ≠ c

theorem runLen_of_notHead (c : Char) (s : List Char) (h : NotHead c s) : runLen c s = 0 := by
  rcases h with rfl | ⟨h, t, rfl, hne⟩
  · rfl
  · simp [runLen, hne]

theorem notHead_of_runLen (c : Char) (s : List Char) (h : runLen c s = 0) : NotHead c s := by
  cases s with
  | nil => exact Or.inl rfl
  | cons a t =>
    refine Or.inr ⟨a, t, rfl, ?_⟩
    intro e; subst e; simp [runLen] at h

theorem notHead_append (c : Char) (t s : List Char) (ht : NotHead c t) (hs : t = [] → NotHead c s) : NotHead c (t ++ s) := by
  rcases ht with rfl | ⟨h, t', rfl, hne⟩
  · exact hs rfl
  · exact Or.inr ⟨h, t' ++ s, rfl, hne⟩

theorem notHead_dollar {c : Char} (hc : c ≠ '$') (t : List Char) : NotHead c ('$' :: t) :=
  Or.inr ⟨'$', t, rfl, fun e => hc e.symm⟩

theorem runLen_replicate (c : Char) (k : Nat) (rest : List Char) (hr : NotHead c rest) :
    runLen c (List.replicate k c ++ rest) = k := by
  induction k with
  | zero => simpa using runLen_of_notHead c rest hr
  | succ k ih => simp [List.replicate_succ, runLen, ih]

theorem noSeq_cons {c h : Char} {t : List Char} (hz : longestSeq c (h :: t) = 0) :
    longestSeq c t = 0 ∧ (h = '$' → runLen c t = 0) := by
  by_cases hd : h = '$'
  · rw [longestSeq, if_pos hd, Nat.max_eq_zero_iff] at hz
    exact ⟨hz.2, fun _ => hz.1⟩
  · rw [longestSeq, if_neg hd] at hz
    exact ⟨hz, fun e => absurd e hd⟩

theorem longestSeq_append (c : Char) (pre s : List Char) (hpre : longestSeq c pre = 0) (hs : NotHead c s) :
    longestSeq c (pre ++ s) = longestSeq c s := by
  induction pre with
  | nil => rfl
  | cons h t ih =>
    obtain ⟨h2, h1⟩ := noSeq_cons hpre
    rw [List.cons_append, longestSeq, ih h2]
    split
    · rename_i hd
      rw [runLen_of_notHead c _ (notHead_append c t s (notHead_of_runLen c t (h1 hd)) fun _ => hs), Nat.zero_max]
    · rfl

theorem longestSeq_replicate (d c : Char) (hc : c ≠ '$') (k : Nat) (rest : List Char) :
    longestSeq d (List.replicate k c ++ rest) = longestSeq d rest := by
  induction k with
  | zero => rfl
  | succ k ih => simp [List.replicate_succ, longestSeq, hc, ih]

theorem longestSeq_shape (c : Char) (hc : c ≠ '$') (k : Nat) (pre rest : List Char)
    (hpre : longestSeq c pre = 0) (hrest : longestSeq c rest = 0) (hr : NotHead c rest) :
    longestSeq c (pre ++ '$' :: (List.replicate k c ++ rest)) = k := by
  rw [longestSeq_append c pre _ hpre (notHead_dollar hc _)]
  simp only [longestSeq, if_true, runLen_replicate c k rest hr, longestSeq_replicate c c hc, hrest]
  omega

theorem replaceSeq_skip (c : Char) (k : Nat) (rep : List Char) (j : Nat) (s rest : List Char) (hj : s.length = j) :
    replaceSeq c k rep j (s ++ rest) = replaceSeq c k rep 0 rest := by
  induction s generalizing j with
  | nil => subst hj; rfl
  | cons a t ih =>
    cases j with
    | zero => simp at hj
    | succ j => simp only [List.cons_append, replaceSeq]; exact ih j (by simpa using hj)

theorem replaceSeq_append (c : Char) (k : Nat) (hk : 0 < k) (rep pre s : List Char) (hpre : longestSeq c pre = 0)
    (hs : NotHead c s) : replaceSeq c k rep 0 (pre ++ s) = pre ++ replaceSeq c k rep 0 s := by
  induction pre with
  | nil => rfl
  | cons h t ih =>
    obtain ⟨h2, h1⟩ := noSeq_cons hpre
    have : ¬ (h = '$' ∧ k ≤ runLen c (t ++ s)) := fun hh => by
      rw [runLen_of_notHead c _ (notHead_append c t s (notHead_of_runLen c t (h1 hh.1)) fun _ => hs)] at hh
      omega
    rw [List.cons_append, replaceSeq, if_neg this, ih h2]; rfl

theorem replaceSeq_none (c : Char) (k : Nat) (hk : 0 < k) (rep s : List Char) (hs : longestSeq c s = 0) :
    replaceSeq c k rep 0 s = s := by
  have := replaceSeq_append c k hk rep s [] hs (Or.inl rfl)
  simpa [replaceSeq] using this

/-- the documented shape: `pre $ccc rest` with `k ≥ 1` letters and no other `$c…` sequence -/
theorem fillFormat_shape (c : Char) (hc : c ≠ '$') (k : Nat) (hk : 0 < k) (pre rest : List Char) (n : Nat)
    (hpre : longestSeq c pre = 0) (hrest : longestSeq c rest = 0) (hr : NotHead c rest) :
    fillFormat (pre ++ '$' :: (List.replicate k c ++ rest)) c n = some (pre ++ zfill k (Nat.toDigits 10 n) ++ rest) := by
  unfold fillFormat
  simp only [longestSeq_shape c hc k pre rest hpre hrest hr]
  rw [if_neg (by omega)]
  rw [replaceSeq_append c k hk _ pre _ hpre (notHead_dollar hc _)]
  have : replaceSeq c k (zfill k (Nat.toDigits 10 n)) 0 ('$' :: (List.replicate k c ++ rest))
      = zfill k (Nat.toDigits 10 n) ++ replaceSeq c k (zfill k (Nat.toDigits 10 n)) k (List.replicate k c ++ rest) := by
    simp [replaceSeq, runLen_replicate c k rest hr]
  rw [this, replaceSeq_skip c k _ k (List.replicate k c) rest (by simp), replaceSeq_none c k hk _ rest hrest]
  simp [List.append_assoc]

theorem longestSeq_noDollar (c : Char) (s : List Char) (h : ∀ d ∈ s, d ≠ '$') : longestSeq c s = 0 := by
  induction s with
  | nil => rfl
  | cons a t ih =>
    have ha : a ≠ '$' := h a (by simp)
    simp only [longestSeq, ha, if_false]
    exact ih (fun d hd => h d (by simp [hd]))

theorem noDollar_dir {dir pre : List Char} (hdir : ∀ c ∈ dir, c ≠ '$') (hpre : ∀ c ∈ pre, c ≠ '$') :
    ∀ c ∈ dir ++ '/' :: pre, c ≠ '$' := by
  simp only [List.forall_mem_append, List.forall_mem_cons]
  exact ⟨hdir, by decide, hpre⟩

theorem longestSeq_other (c d : Char) (hcd : c ≠ d) (hc : c ≠ '$') (hd : d ≠ '$') (k : Nat) (hk : 0 < k)
    (a b : List Char) (ha : ∀ e ∈ a, e ≠ '$') (hb : longestSeq d b = 0) :
    longestSeq d (a ++ '$' :: (List.replicate k c ++ b)) = 0 := by
  rw [longestSeq_append d a _ (longestSeq_noDollar d a ha) (notHead_dollar hd _)]
  have hrun : runLen d (List.replicate k c ++ b) = 0 := by
    cases k with
    | zero => omega
    | succ k => simp [List.replicate_succ, runLen, hcd]
  simp only [longestSeq, if_true, hrun, longestSeq_replicate d c hc, hb]
  omega

theorem fillFormat_eq_none (c : Char) (s : List Char) (n : Nat) (h : longestSeq c s = 0) : fillFormat s c n = none := by
  simp [fillFormat, h]

theorem tomoName_of_ne_nil (fmt : List Char) (tomo : Nat) (h : fmt ≠ []) : tomoName fmt tomo = fillFormat fmt 'x' tomo :=
  if_neg h

theorem subName_of_fill (fmt s : List Char) (tomo sub : Nat) (h : fmt ≠ []) (hy : fillFormat fmt 'y' sub = some s) :
    subName fmt tomo sub = some ((fillFormat s 'x' tomo).getD s) := by
  unfold subName; rw [if_neg h, hy]

end CryoCat.C03
