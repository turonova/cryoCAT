import CryoCat.Model.C11
import CryoCat.Lemmas.Layout
/-! C11 — helper lemmas (core Lean only): C-order index arithmetic, the `(2,1,0)` transposition. -/
namespace CryoCat.C11
variable {α : Type}

deriving instance DecidableEq for Except

instance (a : Arr α) : Decidable a.WF := by unfold Arr.WF; infer_instance

theorem ok_of_map_eq_ok {ε β γ : Type} {g : β → γ} {x : Except ε β} {y : γ} (h : x.map g = .ok y) :
    ∃ k, x = .ok k ∧ y = g k := by
  cases x with
  | error e => cases h
  | ok k => exact ⟨k, rfl, by cases h; rfl⟩

@[simp] theorem store_dtype (k : Kind) (dt : DType) (a : Arr α) : (store k dt a).dtype = dt := rfl

theorem offset_eq_cidx (nx ny i j k : Nat) : offsetXFastest nx ny i j k = (k * ny + j) * nx + i := by
  unfold offsetXFastest
  rw [Nat.mul_comm nx, Nat.mul_comm ny k, Nat.add_comm j, Nat.add_comm i]

theorem at_eq_getElem (d : α) (a : Arr α) (i j k : Nat) (h : (i * a.d1 + j) * a.d2 + k < a.data.size) :
    a.at d i j k = a.data[(i * a.d1 + j) * a.d2 + k] := by
  simp [Arr.at, Array.getD, h]

theorem at_map (d : α) (f : α → α) (a : Arr α) (i j k : Nat)
    (h : (i * a.d1 + j) * a.d2 + k < a.data.size) : (a.map f).at d i j k = f (a.at d i j k) := by
  have h' : (i * (a.map f).d1 + j) * (a.map f).d2 + k < (a.map f).data.size := by
    simpa [Arr.map] using h
  rw [at_eq_getElem d (a.map f) i j k h', at_eq_getElem d a i j k h]
  simp [Arr.map]

theorem map_WF (f : α → α) (a : Arr α) (h : a.WF) : (a.map f).WF := by
  simpa [Arr.WF, Arr.map] using h

theorem map_map (f g : α → α) (a : Arr α) : (a.map f).map g = a.map (fun v => g (f v)) := by
  simp [Arr.map, Function.comp_def]

theorem map_id' (a : Arr α) : a.map id = a := by
  cases a; simp [Arr.map]

theorem Arr.ext_data {a b : Arr α} (h0 : a.d0 = b.d0) (h1 : a.d1 = b.d1) (h2 : a.d2 = b.d2) (hd : a.data = b.data) : a = b := by
  cases a; cases b; cases h0; cases h1; cases h2; cases hd; rfl

theorem transpose210_d0 (d : α) (a : Arr α) : (transpose210 d a).d0 = a.d2 := rfl
theorem transpose210_d1 (d : α) (a : Arr α) : (transpose210 d a).d1 = a.d1 := rfl
theorem transpose210_d2 (d : α) (a : Arr α) : (transpose210 d a).d2 = a.d0 := rfl

theorem transpose210_size (d : α) (a : Arr α) : (transpose210 d a).data.size = a.d2 * a.d1 * a.d0 := by
  simp [transpose210, permute, pick]

theorem transpose210_WF (d : α) (a : Arr α) : (transpose210 d a).WF := by
  simp [Arr.WF, transpose210, permute, pick]

theorem transpose210_getElem (d : α) (a : Arr α) (t : Nat) (ht : t < (transpose210 d a).data.size) :
    (transpose210 d a).data[t] = a.at d (t % a.d0) (t / a.d0 % a.d1) (t / a.d0 / a.d1) := by
  simp [transpose210, permute, pick]

theorem at_transpose210 (d : α) (a : Arr α) (i j k : Nat) (hi : i < a.d2) (hj : j < a.d1) (hk : k < a.d0) :
    (transpose210 d a).at d i j k = a.at d k j i := by
  have hlt : (i * a.d1 + j) * a.d0 + k < (transpose210 d a).data.size := by
    rw [transpose210_size]; exact Layout.digits3_lt hi hj hk
  rw [at_eq_getElem d (transpose210 d a) i j k hlt]
  show (transpose210 d a).data[(i * a.d1 + j) * a.d0 + k] = _
  obtain ⟨e0, e1, e2⟩ := Layout.digits3_decode (i := i) hj hk
  rw [transpose210_getElem, e0, e1, e2]

theorem Arr.ext_at (d : α) {a b : Arr α} (ha : a.WF) (hb : b.WF) (h0 : a.d0 = b.d0) (h1 : a.d1 = b.d1) (h2 : a.d2 = b.d2)
    (h : ∀ i j k, i < a.d0 → j < a.d1 → k < a.d2 → a.at d i j k = b.at d i j k) : a = b := by
  refine Arr.ext_data h0 h1 h2 (Array.ext (by rw [ha, hb, h0, h1, h2]) fun t ht ht' => ?_)
  -- element `t` is `[i,j,k]` for the three digits of `t`
  have hd := Layout.digits3_bounds (ha ▸ ht)
  have e := h _ _ _ hd.1 hd.2.1 hd.2.2
  rw [Arr.at, Arr.at, Layout.digits3_encode, ← h1, ← h2, Layout.digits3_encode, Array.getD, Array.getD, dif_pos ht, dif_pos ht'] at e
  exact e

theorem transpose210_involutive (d : α) (a : Arr α) (h : a.WF) :
    transpose210 d (transpose210 d a) = a :=
  Arr.ext_at d (transpose210_WF d _) h rfl rfl rfl fun i j k hi hj hk => by
    rw [at_transpose210 d _ i j k hi hj hk, at_transpose210 d a k j i hk hj hi]

theorem transpose210_map (d : α) (f : α → α) (a : Arr α) (h : a.WF) :
    transpose210 d (a.map f) = (transpose210 d a).map f :=
  Arr.ext_at d (transpose210_WF d _) (map_WF f _ (transpose210_WF d a)) rfl rfl rfl fun i j k hi hj hk => by
    rw [at_transpose210 d (a.map f) i j k hi hj hk, at_map d f a k j i (h ▸ Layout.digits3_lt hk hj hi),
      at_map d f (transpose210 d a) i j k (transpose210_WF d a ▸ Layout.digits3_lt hi hj hk), at_transpose210 d a i j k hi hj hk]

theorem permuteAxes_210 (d : α) (a : Arr α) : permuteAxes d [2, 1, 0] a = .ok (transpose210 d a) := by
  have : ([2, 1, 0] : List Nat).isPerm [0, 1, 2] = true := by decide
  simp [permuteAxes, this, transpose210]

end CryoCat.C11
