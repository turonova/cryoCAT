import CryoCat.Lemmas.C19_Splice
/-! C19 — `add_chain_suffix` preserves `ChainsWellNumbered` and the link invariant.
The table before the call is `nfm ++ ch` (`ch` the freshly traced chain with the unused object id
`cls`); both accepting branches of `addSuffix` splice the target chain up to the target row with `ch`,
the cut-off tail (empty when the target is the last member) taking the id `cls`. -/
namespace CryoCat.C19
set_option linter.unusedSectionVars false
variable {α : Type} [LE α] [LT α] [DecidableLE α] [DecidableLT α] [DecidableEq α]

theorem maxOrd_cut (nfm : List (Row α)) (g cls a : Int) (hgc : g ≠ cls) :
    maxOrd a (fun r => r.obj == g)
      (addOrd (fun r => r.obj == cls) (-a) (updObj (fun r => r.obj == g && decide (a < r.ord)) cls nfm)) = a := by
  obtain ⟨h1, -, h3 | ⟨r', hr', hp, he⟩⟩ := maxOrd_spec (fun r : Row α => r.obj == g)
    (addOrd (fun r => r.obj == cls) (-a) (updObj (fun r => r.obj == g && decide (a < r.ord)) cls nfm)) a
  · exact h3
  · -- the maximum is the order of a row that still carries `g`: it was not cut off, so it is at most `a`
    simp only [addOrd, updObj, List.map_map, List.mem_map, Function.comp] at hr'
    obtain ⟨r, -, rfl⟩ := hr'
    rw [← he] at h1 ⊢
    simp only [beq_iff_eq] at hp
    grind

/-- the accepting branches of the documented `add_chain_suffix`, as one: when the target is the last of
its chain the selection `order > t.ord` is empty and no row carries the new chain's id, so the statements
of the tail cut change nothing -/
theorem addSuffix_doc (nfm ch : List (Row α)) (j : Nat) (dj : α) (hfresh : ∀ r ∈ nfm, r.obj ≠ headObj ch) :
    ((addSuffix Opts.documented nfm ch j dj).2.2.1 = false ∧ (addSuffix Opts.documented nfm ch j dj).1 = nfm ∧
      (addSuffix Opts.documented nfm ch j dj).2.1 = ch) ∨
    ∃ t, rowOf nfm j = some t ∧ (addSuffix Opts.documented nfm ch j dj).2.2.1 = true ∧
      (addSuffix Opts.documented nfm ch j dj).1 = setDist (fun r => r.idx == j) dj
        (addOrd (fun r => r.obj == headObj ch) (-t.ord)
          (updObj (fun r => r.obj == t.obj && decide (t.ord < r.ord)) (headObj ch) nfm)) ∧
      (addSuffix Opts.documented nfm ch j dj).2.1 = relabelChain t.obj (maxOrd t.ord (fun r => r.obj == t.obj)
        (addOrd (fun r => r.obj == headObj ch) (-t.ord)
          (updObj (fun r => r.obj == t.obj && decide (t.ord < r.ord)) (headObj ch) nfm))) ch := by
  cases h : rowOf nfm j with
  | none => left; unfold addSuffix; simp only [h, and_self]
  | some t =>
    unfold addSuffix
    simp only [h, Opts.documented, Cmp.eval]
    by_cases hl : maxOrd t.ord (fun r => r.obj == t.obj) nfm = t.ord
    · have hsel : ∀ r ∈ nfm, (r.obj == t.obj && decide (t.ord < r.ord)) = false := fun r hr => by
        have := (maxOrd_spec (fun r : Row α => r.obj == t.obj) nfm t.ord).2.1 r hr
        simp only [Bool.and_eq_false_imp, decide_eq_false_iff_not]
        intro e; have := this e; omega
      have e1 : updObj (fun r => r.obj == t.obj && decide (t.ord < r.ord)) (headObj ch) nfm = nfm :=
        map_unselected _ _ nfm hsel
      have e2 : addOrd (fun r => r.obj == headObj ch) (-t.ord) nfm = nfm :=
        map_unselected _ _ nfm (fun r hr => beq_eq_false_iff_ne.2 (hfresh r hr))
      refine Or.inr ⟨t, rfl, ?_⟩
      rw [e1, e2]
      simp [hl]
    · simp only [hl, decide_false, Bool.not_false, if_true]
      split
      · left; exact ⟨rfl, rfl, rfl⟩
      · exact Or.inr ⟨t, rfl, rfl, rfl, rfl⟩

theorem sufCut_table {nfm : List (Row α)} {cls : Int} {t : Row α} (dj : α) (hfresh : ∀ r ∈ nfm, r.obj ≠ cls)
    (hj : ∀ r ∈ nfm, (r.idx = t.idx ↔ r.obj = t.obj ∧ r.ord = t.ord)) :
    setDist (fun r => r.idx == t.idx) dj (addOrd (fun r => r.obj == cls) (-t.ord)
      (updObj (fun r => r.obj == t.obj && decide (t.ord < r.ord)) cls nfm)) =
      nfm.map (splice t.obj cls t.ord 1 t.obj cls dj) := by
  simp only [setDist, addOrd, updObj, List.map_map]
  apply List.map_congr_left
  intro r hr
  have := hfresh r hr
  have := hj r hr
  obtain ⟨ri, ro, rk, rd⟩ := r
  simp only [Function.comp, splice]
  grind

theorem sufChain_row {cls : Int} {dj : α} {t r : Row α} (hr : r.obj = cls) (htc : t.obj ≠ cls) (hk : 1 ≤ r.ord) :
    { r with obj := t.obj, ord := r.ord + t.ord } = splice t.obj cls t.ord 1 t.obj cls dj r := by
  obtain ⟨ri, ro, rk, rd⟩ := r
  simp only [splice]
  grind

theorem suf_obj_row {cls : Int} {dj : α} {t r : Row α} (hr : r.obj ≠ cls)
    (h : (splice t.obj cls t.ord 1 t.obj cls dj r).obj = t.obj) : r.obj = t.obj := by
  simp only [splice] at h
  grind

variable {o : Opts} {c : Cfg α} {nfm : List (Row α)} {K : Int → Int} {cls : Int} {first : Nat} {ms : List (Nat × α)}

theorem Mid.attach_suffix (hM : Mid o c nfm cls 1 ms K (cls + 1)) (hms : ∃ x tl, ms = (first, x) :: tl)
    (hfresh : ∀ r ∈ nfm, r.obj ≠ cls) (t : Row α) (ht : t ∈ nfm) (dj : α)
    (hdj : dj = c.d t.idx first ∧ inWin o c (c.d t.idx first) = true) :
    ∃ K1, Mid o c (nfm.map (splice t.obj cls t.ord 1 t.obj cls dj)) t.obj (1 + t.ord) ms K1 (cls + 1) ∧ 2 ≤ K1 t.obj := by
  obtain ⟨x, tl, rfl⟩ := hms
  have htc : t.obj ≠ cls := hfresh t ht
  have htT := List.mem_append_left (mkChainFrom cls 1 ((first, x) :: tl)) ht
  have hc1T : (⟨first, cls, 1, x⟩ : Row α) ∈ nfm ++ mkChainFrom cls 1 ((first, x) :: tl) :=
    List.mem_append_right _ List.mem_cons_self
  have hKt := hM.wn.ordA t htT
  have hn2 : cls ≠ t.obj ∧ (cls = t.obj ∨ cls = cls ∨ cls + 1 ≤ cls ∧ cls < cls + 1) := ⟨htc.symm, Or.inr (Or.inl rfl)⟩
  have hW := splice_wn hM.wn t.obj cls (cls + 1) dj t htT ⟨first, cls, 1, x⟩ hc1T (Or.inr rfl) (Or.inl rfl) hn2 htc
    (Int.le_refl _)
  have hD := splice_dl hM.wn t.obj cls (cls + 1) dj t htT ⟨first, cls, 1, x⟩ hc1T (Or.inr rfl) (Or.inl rfl) hn2 hM.dl hdj
  have eC : mkChainFrom t.obj (1 + t.ord) ((first, x) :: tl) =
      (mkChainFrom cls 1 ((first, x) :: tl)).map (splice t.obj cls t.ord 1 t.obj cls dj) := by
    rw [← relabelChain_mkChainFrom]
    exact List.map_congr_left fun r hr =>
      sufChain_row (mkChainFrom_mem _ _ _ r hr).1 htc (mkChainFrom_mem _ _ _ r hr).2.1
  have htop := hM.top
  refine ⟨_, ⟨by rw [eC, ← List.map_append]; exact hW, ?_, by rw [eC, ← List.map_append]; exact hD, ?_, hM.ne⟩, ?_⟩
  · rw [eC, ← List.map_append, ids_map_of _ (splice_idx _ _ _ _ _ _ _)]; exact hM.nd
  · simp only [if_true]; omega
  · simp only [if_true, List.length_cons] at htop ⊢; omega

theorem suffixPart_mid (hM : Mid Opts.documented c nfm cls 1 ms K (cls + 1)) (hms : ∃ x tl, ms = (first, x) :: tl)
    (hfresh : ∀ r ∈ nfm, r.obj ≠ cls) (fi nm : Option (Nat × α))
    (hfi : ∀ f df, fi = some (f, df) → df = c.d f first ∧ inWin Opts.documented c (c.d f first) = true)
    (hres : ∀ f df m dm, fi = some (f, df) → nm = some (m, dm) →
      ((rowOf nfm f).map (·.obj) == (rowOf nfm m).map (·.obj)) = false) :
    ∃ A g k K1 b tg, suffixPart Opts.documented nfm (mkChainFrom cls 1 ms) fi = (A, mkChainFrom g k ms, b, tg) ∧
      Mid Opts.documented c A g k ms K1 (cls + 1) ∧ (b = false → ∀ r ∈ A, r.obj ≠ g) ∧
      (b = true → 2 ≤ K1 g ∧ ∀ m dm t, nm = some (m, dm) → rowOf A m = some t → t.obj ≠ g) := by
  unfold suffixPart
  cases fi with
  | none => exact ⟨_, _, _, K, _, _, rfl, hM, fun _ => hfresh, fun h => nomatch h⟩
  | some fd =>
    obtain ⟨f, df⟩ := fd
    dsimp only
    rcases addSuffix_doc nfm _ f df (hM.head ▸ hfresh) with ⟨e3, e1, e2⟩ | ⟨t, h, e3, e1, e2⟩
    · exact ⟨_, _, _, K, _, _, Prod.ext e1 (Prod.ext e2 (Prod.ext e3 rfl)), hM, fun _ => hfresh, fun h => nomatch h⟩
    · obtain ⟨htm, rfl⟩ := rowOf_some h
      have htc : t.obj ≠ cls := hfresh t htm
      have hj : ∀ r ∈ nfm, (r.idx = t.idx ↔ r.obj = t.obj ∧ r.ord = t.ord) := fun r hr =>
        hM.wn.pos hM.nd (List.mem_append_left _ hr) (List.mem_append_left _ htm)
      rw [hM.head, sufCut_table df hfresh hj] at e1
      rw [hM.head, maxOrd_cut nfm t.obj cls t.ord htc, relabelChain_mkChainFrom] at e2
      obtain ⟨K1, h1, h2⟩ := hM.attach_suffix hms hfresh t htm df (hfi t.idx df rfl)
      refine ⟨_, _, _, K1, true, _, Prod.ext e1 (Prod.ext e2 (Prod.ext e3 rfl)), h1, fun hb => Bool.noConfusion hb, fun _ => ⟨h2, ?_⟩⟩
      -- `resolve` let both candidates through, so they were in different chains before the attachment,
      -- and a row has the target's id afterwards only if it had it before
      intro m dm t2 hnm ht2 e
      rw [rowOf_map _ (splice_idx _ _ _ _ _ _ _)] at ht2
      obtain ⟨tm, htm', rfl⟩ := Option.map_eq_some_iff.1 ht2
      have ho := suf_obj_row (hfresh tm (rowOf_some htm').1) e
      have hres' := hres t.idx df m dm rfl hnm
      rw [h, htm'] at hres'
      simp [ho] at hres'

end CryoCat.C19
