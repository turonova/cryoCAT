import CryoCat.Lemmas.C12_Mono
/-! "Non-increasing in between" along steps of the DFT indices. One step of one index keeps its frequency or moves it one bin
away from frequency 0 (`AnyAwayStep`); a diagonal step is a chain of at most three such steps, each at an arbitrary position of
the other two indices. Along an axis the gain reads an `AxisProfile` at the mask voxel `shiftIdx n j` (`RowsOf`; `Lemmas/C12_Mono`), so
* a step up in frequency raises the gain by at most `faceRise` (0 unless the axis is even, the ball reaches the upper face and the
  kernel reaches `n/2`), a step down never raises it;
* the same holds for the gain of the MIRROR bin `-j` (what `np.real` averages with), where up and down swap and a landing on the
  Nyquist bin of an even axis — its own mirror image — becomes the wrap from the last mask voxel to the first.
With the ball off both faces of the moving axes (`AwayStep`, `monoAxisOk`) `faceRise` vanishes and the gains are monotone. -/
namespace CryoCat.C12

/-- one step of one index: the frequency does not change, or — on an axis where the ball stays off both
faces of the mask box — it moves one bin away from the centre plane (`0 ≤ f ↦ f+1` or `f ≤ 0 ↦ f-1`) -/
def AwayStep (n : Nat) (r : Int) (j j' : Int) : Prop :=
  freq n j' = freq n j ∨
    (monoAxisOk n r = true ∧ ((0 ≤ freq n j ∧ freq n j' = freq n j + 1) ∨ (freq n j ≤ 0 ∧ freq n j' = freq n j - 1)))

/-- `AwayStep` whose mirror image `(-j, -j')` is an `AwayStep` too: the target is not the Nyquist bin of an
even axis (the only frequency without a mirror bin) -/
def EffStep (n : Nat) (r : Int) (j j' : Int) : Prop :=
  freq n j' = freq n j ∨
    (monoAxisOk n r = true ∧ -(freq n j') < (n : Int) - centre n ∧
      ((0 ≤ freq n j ∧ freq n j' = freq n j + 1) ∨ (freq n j ≤ 0 ∧ freq n j' = freq n j - 1)))

/-- `AwayStep` without the hypothesis on the faces of the mask box -/
def AnyAwayStep (n : Nat) (j j' : Int) : Prop :=
  freq n j' = freq n j ∨ (0 ≤ freq n j ∧ freq n j' = freq n j + 1) ∨ (freq n j ≤ 0 ∧ freq n j' = freq n j - 1)

theorem monoAxisOk_iff (n : Nat) (r : Int) : monoAxisOk n r = true ↔ (r < centre n ∧ centre n + r + 1 < (n : Int)) := by
  simp [monoAxisOk]

theorem shiftIdx_eq_freq (n : Nat) (j : Int) : shiftIdx n j = freq n j + centre n := by unfold freq; omega

theorem negIdx_congr (n : Nat) (j j' : Int) (h : freq n j' = freq n j) : negIdx n j' = negIdx n j := by
  obtain ⟨c, hc⟩ := freq_dvd n j
  obtain ⟨c', hc'⟩ := freq_dvd n j'
  have e : -j' = -j + (n : Int) * (c' - c) := by rw [mul_sub]; omega
  unfold negIdx
  rw [e, Int.add_mul_emod_self_left]

/-- `h` says that the frequency `(m+1)·s` exists on the axis; downwards that includes the Nyquist bin of an even axis -/
theorem freq_ray (n : Nat) (hn : 0 < n) (s m : Int) (hm : 0 ≤ m)
    (h : (s = 1 ∧ m + 1 < (n : Int) - centre n) ∨ (s = -1 ∧ m + 1 ≤ centre n)) :
    freq n (m * s) = m * s ∧ freq n ((m + 1) * s) = (m + 1) * s := by
  have hc := centre_lt n hn
  have hc0 := centre_nonneg n
  rcases h with ⟨rfl, h⟩ | ⟨rfl, h⟩ <;> constructor <;> apply Layout.sres_self <;> omega

theorem anyAwayStep_ray (n : Nat) (hn : 0 < n) (s m : Int) (hm : 0 ≤ m)
    (h : s = 0 ∨ (s = 1 ∧ m + 1 < (n : Int) - centre n) ∨ (s = -1 ∧ m + 1 ≤ centre n)) :
    AnyAwayStep n (m * s) ((m + 1) * s) := by
  rcases h with rfl | h
  · exact Or.inl (by simp)
  · obtain ⟨e1, e2⟩ := freq_ray n hn s m hm h
    rw [AnyAwayStep, e1, e2]
    rcases h with ⟨rfl, _⟩ | ⟨rfl, _⟩
    · exact Or.inr (Or.inl ⟨by omega, by ring⟩)
    · exact Or.inr (Or.inr ⟨by omega, by ring⟩)

theorem AnyAwayStep.away {n : Nat} {j j' : Int} (h : AnyAwayStep n j j') (r : Int) (hok : monoAxisOk n r = true) : AwayStep n r j j' :=
  h.imp_right fun b => ⟨hok, b⟩

/-- the steps of the 26 rays from the centre: bin `m·s ↦ (m+1)·s` with `s ∈ {-1, 0, 1}` -/
theorem awayStep_ray (n : Nat) (hn : 0 < n) (r : Int) (s m : Int) (hm : 0 ≤ m)
    (h : s = 0 ∨ ((s = 1 ∨ s = -1) ∧ monoAxisOk n r = true ∧ m + 1 < (n : Int) - centre n)) :
    AwayStep n r (m * s) ((m + 1) * s) := by
  have hc : centre n = ((n / 2 : Nat) : Int) := rfl
  rcases h with rfl | ⟨hs, hok, hlt⟩
  · exact Or.inl (by simp)
  · exact (anyAwayStep_ray n hn s m hm (Or.inr (hs.imp (fun e => ⟨e, hlt⟩) fun e => ⟨e, by omega⟩))).away r hok

section face
set_option linter.unusedSectionVars false
variable {K : Type} [Field K] [LinearOrder K] [IsStrictOrderedRing K]

/-- what a step may add to the RAW gain: `faceRise` when the frequency goes UP by one, nothing otherwise -/
def upRise (ker : List (Int × K)) (n : Nat) (r : Int) (j j' : Int) : K := if freq n j' = freq n j + 1 then faceRise ker n r else 0
/-- what a step may add to the gain of the MIRROR bin: `faceRise` when the frequency goes DOWN by one (its mirror image goes up) -/
def downRise (ker : List (Int × K)) (n : Nat) (r : Int) (j j' : Int) : K := if freq n j' = freq n j - 1 then faceRise ker n r else 0
/-- the two together: `faceRise` for an index that moves, nothing for one that stays -/
def stepRise (ker : List (Int × K)) (n : Nat) (r : Int) (j j' : Int) : K := if freq n j' = freq n j then 0 else faceRise ker n r

theorem up_down_rise (ker : List (Int × K)) (n : Nat) (r : Int) (j j' : Int) (h : AnyAwayStep n j j') :
    upRise ker n r j j' + downRise ker n r j j' = stepRise ker n r j j' := by
  unfold upRise downRise stepRise
  rcases h with h | ⟨_, h⟩ | ⟨_, h⟩
  · rw [if_neg (by omega), if_neg (by omega), if_pos h]; ring
  · rw [if_pos h, if_neg (by omega), if_neg (by omega)]; ring
  · rw [if_neg (by omega), if_pos h, if_neg (by omega)]; ring

theorem stepRise_self (ker : List (Int × K)) (n : Nat) (r : Int) (j : Int) : stepRise ker n r j j = 0 := if_pos rfl

theorem stepRise_le (ker : List (Int × K)) (hn : KerNonneg ker) (n : Nat) (r : Int) (j j' : Int) :
    stepRise ker n r j j' ≤ faceRise ker n r := by
  unfold stepRise
  split_ifs
  · exact faceRise_nonneg ker hn n r
  · exact le_refl _

theorem rise_zero (ker : List (Int × K)) (n : Nat) (r : Int) (j j' : Int) (h : freq n j' = freq n j ∨ faceRise ker n r = 0) :
    upRise ker n r j j' = 0 ∧ stepRise ker n r j j' = 0 := by
  unfold upRise stepRise
  rcases h with h | h
  · rw [if_neg (by omega), if_pos h]; exact ⟨rfl, rfl⟩
  · rw [h]; exact ⟨ite_self 0, ite_self 0⟩

theorem awayStep_any (ker : List (Int × K)) (n : Nat) (r : Int) (j j' : Int) (h : AwayStep n r j j') :
    AnyAwayStep n j j' ∧ (freq n j' = freq n j ∨ faceRise ker n r = 0) := by
  rcases h with h | ⟨a, b⟩
  · exact ⟨Or.inl h, Or.inl h⟩
  · exact ⟨Or.inr b, Or.inr (if_pos (Or.inl ((monoAxisOk_iff n r).1 a).2))⟩

/-- Read at the bin: a step up in frequency costs at most `B`, any other `AnyAwayStep` nothing. -/
theorem AxisProfile.step {n : Nat} {B : K} {Φ : Int → K} (h : AxisProfile n B Φ) (j j' : Int) (hs : AnyAwayStep n j j') :
    Φ (shiftIdx n j') ≤ Φ (shiftIdx n j) + (if freq n j' = freq n j + 1 then B else 0) := by
  rw [shiftIdx_eq_freq n j', shiftIdx_eq_freq n j]
  rcases hs with e | ⟨b0, b1⟩ | ⟨b0, b1⟩
  · rw [e, if_neg (by omega), add_zero]
  · rw [b1, if_pos rfl, show freq n j + 1 + centre n = freq n j + centre n + 1 by ring]
    exact h.up _ (by omega)
  · rw [b1, if_neg (by omega), add_zero, show freq n j - 1 + centre n = freq n j + centre n - 1 by ring]
    exact h.down _ (by omega)

/-- Read at the MIRROR bin: the mirror image of a step up is a step down (never a rise), of a step down a step up (at most `B`),
of a landing on the Nyquist bin of an even axis the wrap `n-1 ↦ 0` (never a rise) -/
theorem AxisProfile.step_mirror {n : Nat} {B : K} {Φ : Int → K} (h : AxisProfile n B Φ) (hn : 0 < n) (hB : 0 ≤ B)
    (j j' : Int) (hs : AnyAwayStep n j j') :
    Φ (shiftIdx n (negIdx n j')) ≤ Φ (shiftIdx n (negIdx n j)) + (if freq n j' = freq n j - 1 then B else 0) := by
  have rj := freq_range n hn j
  have rj' := freq_range n hn j'
  have hc : centre n = ((n / 2 : Nat) : Int) := rfl
  rcases hs with e | ⟨b0, b1⟩ | ⟨b0, b1⟩
  · rw [negIdx_congr n j j' e, if_neg (by omega), add_zero]
  · have e' := freq_negIdx n hn j' (by omega)
    have e := freq_negIdx n hn j (by omega)
    have := h.step (negIdx n j) (negIdx n j') (Or.inr (Or.inr ⟨by omega, by omega⟩))
    rw [if_neg (by omega)] at this
    rw [if_neg (by omega)]
    exact this
  · by_cases hm : -(freq n j') < (n : Int) - centre n
    · have e' := freq_negIdx n hn j' hm
      have e := freq_negIdx n hn j (by omega)
      have := h.step (negIdx n j) (negIdx n j') (Or.inr (Or.inl ⟨by omega, by omega⟩))
      rw [if_pos (by omega)] at this
      rw [if_pos b1]
      exact this
    · have he : (n : Int) = 2 * centre n := by omega
      rw [shiftIdx_eq_freq n (negIdx n j'), shiftIdx_eq_freq n (negIdx n j), freq_negIdx_nyq n hn he j' (by omega),
        freq_negIdx n hn j (by omega), if_pos b1, show -centre n + centre n = 0 by ring,
        show -(freq n j) + centre n = (n : Int) - 1 by omega]
      linarith [h.wrap he]

/-- `g`, a function of ONE DFT index on an axis of length `n`, is the blurred ball along that axis, read at the mask voxel
`shiftIdx n j` that `ifftshift` puts on bin `j` -/
def RowsOf (ker : List (Int × K)) (n : Nat) (r : Int) (g : Int → K) : Prop :=
  ∃ Φ, AxisProfile n (faceRise ker n r) Φ ∧ ∀ j, g j = Φ (shiftIdx n j)

theorem lowGain_rows_x (ker : List (Int × K)) (hk : UnimodalKernel ker) (d : Dims) (hd : 0 < d.nx) (r : Int) (hr : 0 ≤ r) (k l : Int) :
    RowsOf ker d.nx r (fun j => lowGainFn (some ker) d r j k l) := ⟨_, mask_profile_x ker hk d hd r hr _ _, fun _ => rfl⟩
theorem lowGain_rows_y (ker : List (Int × K)) (hk : UnimodalKernel ker) (d : Dims) (hd : 0 < d.ny) (r : Int) (hr : 0 ≤ r) (j l : Int) :
    RowsOf ker d.ny r (fun k => lowGainFn (some ker) d r j k l) := ⟨_, mask_profile_y ker hk d hd r hr _ _, fun _ => rfl⟩
theorem lowGain_rows_z (ker : List (Int × K)) (hk : UnimodalKernel ker) (d : Dims) (hd : 0 < d.nz) (r : Int) (hr : 0 ≤ r) (j k : Int) :
    RowsOf ker d.nz r (fun l => lowGainFn (some ker) d r j k l) := ⟨_, mask_profile_z ker hk d hd r hr _ _, fun _ => rfl⟩

theorem RowsOf.away_step {ker : List (Int × K)} {n : Nat} {r : Int} {g : Int → K} (hg : RowsOf ker n r g) (hk : KerNonneg ker)
    (hn : 0 < n) (j j' : Int) (h : AnyAwayStep n j j') :
    g j' ≤ g j + upRise ker n r j j' ∧ g (negIdx n j') ≤ g (negIdx n j) + downRise ker n r j j' := by
  obtain ⟨Φ, hΦ, e⟩ := hg
  rw [e, e, e, e]
  exact ⟨hΦ.step j j' h, hΦ.step_mirror hn (faceRise_nonneg ker hk n r) j j' h⟩

theorem RowsOf.mono_axis {ker : List (Int × K)} {n : Nat} {r : Int} {g : Int → K} (hg : RowsOf ker n r g) (hk : KerNonneg ker)
    (hn : 0 < n) (j i' : Int) :
    (centre n + r + 1 < (n : Int) → 0 ≤ freq n j → freq n i' = freq n j + 1 → g i' ≤ g j) ∧
    (freq n j ≤ 0 → freq n i' = freq n j - 1 → g i' ≤ g j) := by
  constructor
  · intro hface h0 hstep
    have h := (hg.away_step hk hn j i' (Or.inr (Or.inl ⟨h0, hstep⟩))).1
    rwa [upRise, if_pos hstep, faceRise, if_pos (Or.inl hface), add_zero] at h
  · intro h0 hstep
    have h := (hg.away_step hk hn j i' (Or.inr (Or.inr ⟨h0, hstep⟩))).1
    rwa [upRise, if_neg (by omega), add_zero] at h

end face
end CryoCat.C12
