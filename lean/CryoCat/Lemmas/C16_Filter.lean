import CryoCat.Lemmas.C16
import CryoCat.Lemmas.Round
/-! C16 — the filter as a Fourier multiplier.  Generic facts (any number type) about the index plumbing of
`dose_filter_single_image`, the multiplier at the reals, the abbreviations `G`, `physFreq`, `filt`, `filtStack` in which
`Props/C16` is stated, and what the witness about integer-typed stacks needs (truncation toward zero, `gain < 1` off the zero
frequency, the 1 × 2 filter in closed form). -/
namespace CryoCat.C16

section generic
variable {α : Type} [Add α] [Mul α] [Div α] [Neg α]

theorem gainK_congr_sq {o : Ops α} {g : GG α} {W H : Nat} {px d : α} {kx kx' ky ky' : Int}
    (hx : kx' * kx' = kx * kx) (hy : ky' * ky' = ky * ky) :
    gainK o g W H px d kx' ky' = gainK o g W H px d kx ky := by
  have zx : kx' = 0 ↔ kx = 0 := by rw [← mul_self_eq_zero, hx, mul_self_eq_zero]
  have zy : ky' = 0 ↔ ky = 0 := by rw [← mul_self_eq_zero, hy, mul_self_eq_zero]
  unfold gainK freqK
  rw [hx, hy]
  simp only [zx, zy]

theorem mult_eq_gainK {o : Ops α} {g : GG α} {W H : Nat} {px d : α} {v u : Nat} (hv : v < H) (hu : u < W) :
    mult o g W H px d v u = gainK o g W H px d (sfreq W u) (sfreq H v) := by
  unfold mult qArray
  rw [kOfPos_ishiftSrc hv, kOfPos_ishiftSrc hu]

theorem shiftFin_ishiftFin {n : Nat} (k : Fin n) : shiftFin (ishiftFin k) = k :=
  Fin.ext (shiftSrc_ishiftSrc k.isLt)

/-- index plumbing of `dose_filter_single_image`: `ifftshift(fftshift(F) * q)[v,u] = mult[v,u] * F[v,u]` -/
theorem doseFilterSingle_eq {Img : Type} {H W : Nat} (o : Ops α) (g : GG α) (fft : FFT Img α H W) (px d : α) (x : Img) :
    doseFilterSingle o g fft px d x
      = fft.ifft2re (fun v u => Cx.smul (mult o g W H px d v.val u.val) (fft.fft2 x v u)) := by
  unfold doseFilterSingle
  show fft.ifft2re _ = fft.ifft2re _
  congr 1
  funext v u
  simp only [ifftshift2, fftshift2, shiftFin_ishiftFin]
  rfl

theorem mult_even {o : Ops α} {g : GG α} {W H : Nat} {px d : α} (v : Fin H) (u : Fin W) :
    mult o g W H px d (negFin v).val (negFin u).val = mult o g W H px d v.val u.val := by
  rw [mult_eq_gainK (negFin v).isLt (negFin u).isLt, mult_eq_gainK v.isLt u.isLt]
  exact gainK_congr_sq (sfreq_negIdx_sq u.isLt) (sfreq_negIdx_sq v.isLt)
end generic

section real
variable {g : GG ℝ} {W H : Nat} {px : ℝ} {kx ky : Int}

theorem gainK_real_ne {kx ky : Int} (h : ¬ (kx = 0 ∧ ky = 0)) (d : ℝ) :
    gainK realOps g W H px d kx ky
      = Real.exp (-d / (2 * (g.a * (freqK realOps W H px kx ky) ^ g.b + g.c))) := by
  unfold gainK; rw [if_neg h, atten_real]

theorem gainK_dc (d : ℝ) : gainK realOps g W H px d 0 0 = 1 := by
  simp [gainK, realOps]

theorem gainK_zero_dose : gainK realOps g W H px 0 kx ky = 1 := by
  unfold gainK; split
  · simp [realOps]
  · exact atten_zero_dose g _

theorem gainK_add (d₁ d₂ : ℝ) :
    gainK realOps g W H px d₁ kx ky * gainK realOps g W H px d₂ kx ky = gainK realOps g W H px (d₁ + d₂) kx ky := by
  unfold gainK; split
  · simp [realOps]
  · exact atten_add g d₁ d₂ _

theorem gainK_pos (d : ℝ) : 0 < gainK realOps g W H px d kx ky := by
  unfold gainK; split
  · simp [realOps]
  · exact atten_pos g d _

theorem gainK_antitone (ha : 0 ≤ g.a) (hc : 0 < g.c) {d₁ d₂ : ℝ} (h : d₁ ≤ d₂) :
    gainK realOps g W H px d₂ kx ky ≤ gainK realOps g W H px d₁ kx ky := by
  unfold gainK; split
  · exact le_refl _
  · exact atten_antitone g ha hc (freqK_nonneg W H px kx ky) h

theorem gainK_le_one (ha : 0 ≤ g.a) (hc : 0 < g.c) {d : ℝ} (h : 0 ≤ d) : gainK realOps g W H px d kx ky ≤ 1 :=
  (gainK_antitone ha hc h).trans_eq gainK_zero_dose
end real

section cx
theorem Cx.smul_smul (a b : ℝ) (z : Cx ℝ) : Cx.smul a (Cx.smul b z) = Cx.smul (a * b) z := by
  cases z; simp [Cx.smul, mul_assoc]
theorem Cx.one_smul (z : Cx ℝ) : Cx.smul 1 z = z := by cases z; simp [Cx.smul]
theorem Cx.smul_add (a : ℝ) (z w : Cx ℝ) : Cx.smul a (Cx.add z w) = Cx.add (Cx.smul a z) (Cx.smul a w) := by
  cases z; cases w; simp [Cx.smul, Cx.add, mul_add]
theorem Cx.smul_comm (a b : ℝ) (z : Cx ℝ) : Cx.smul a (Cx.smul b z) = Cx.smul b (Cx.smul a z) := by
  rw [Cx.smul_smul, Cx.smul_smul, mul_comm]
theorem Cx.power_smul (a : ℝ) (z : Cx ℝ) : Cx.power (Cx.smul a z) = a ^ 2 * Cx.power z := by
  cases z; simp [Cx.smul, Cx.power]; ring
theorem Cx.power_nonneg (z : Cx ℝ) : 0 ≤ Cx.power z :=
  add_nonneg (mul_self_nonneg _) (mul_self_nonneg _)
end cx

/-- the multiplier on raw DFT coefficient `[v, u]` (model `mult` at the reals with the source's constants) -/
noncomputable abbrev G (W H : Nat) (px d : ℝ) (v u : Nat) : ℝ := mult realOps (gg realOps) W H px d v u

/-- physical frequency (cycles per Angstrom) of raw DFT coefficient `[v, u]` of an `H × W` image with pixel size `px` -/
noncomputable abbrev physFreq (W H : Nat) (px : ℝ) (v u : Nat) : ℝ :=
  Real.sqrt (((sfreq W u : ℝ) / ((W : ℝ) * px)) ^ 2 + ((sfreq H v : ℝ) / ((H : ℝ) * px)) ^ 2)

section
variable {Img : Type} {H W : Nat}
/-- the model of `dose_filter_single_image` at the reals with the source's constants -/
noncomputable abbrev filt (fft : FFT Img ℝ H W) (px d : ℝ) (x : Img) : Img :=
  doseFilterSingle realOps (gg realOps) fft px d x

/-- the model of `dose_filter` at the reals -/
noncomputable abbrev filtStack (fft : FFT Img ℝ H W) (px : ℝ) (stack : List Img) (doses : List ℝ) : Option (List Img) :=
  doseFilter realOps (gg realOps) fft px stack doses

theorem filt_eq (fft : FFT Img ℝ H W) (px d : ℝ) (x : Img) :
    filt fft px d x = fft.ifft2re (fun v u => Cx.smul (G W H px d v u) (fft.fft2 x v u)) :=
  doseFilterSingle_eq _ _ fft px d x

end

/-! ### integer-typed stacks (open finding C16-K1): the ingredients of the witness `int_stack_counterexample` of `Props/C16` -/

/-- truncation toward zero (numpy's float → integer conversion) at the reals -/
noncomputable def truncR (r : ℝ) : Int := if 0 ≤ r then ⌊r⌋ else ⌈r⌉

/-! `truncR` is `Round.trunc` on ℝ, by unfolding -/

theorem truncR_of_lt_one {r : ℝ} (h0 : 0 ≤ r) (h1 : r < 1) : truncR r = 0 :=
  Round.trunc_eq_zero (neg_one_lt_zero.trans_le h0) h1

theorem truncR_intCast (n : Int) : truncR (n : ℝ) = n := Round.trunc_intCast n

noncomputable def io12 : IntIO (ℝ × ℝ) (Int × Int) :=
  { ofInt := fun p => ((p.1 : ℝ), (p.2 : ℝ))
    trunc := fun p => (truncR p.1, truncR p.2) }

theorem io12_roundtrip (p : Int × Int) : io12.trunc (io12.ofInt p) = p := by
  simp [io12, truncR_intCast]

theorem gainK_lt_one {g : GG ℝ} {W H : Nat} {px : ℝ} {kx ky : Int} (h : ¬ (kx = 0 ∧ ky = 0)) (ha : 0 ≤ g.a) (hc : 0 < g.c)
    {d : ℝ} (hd : 0 < d) : gainK realOps g W H px d kx ky < 1 := by
  unfold gainK
  rw [if_neg h]
  exact atten_lt_one g ha hc (freqK_nonneg W H px kx ky) hd

theorem gain_lt_one {W H : Nat} (px : ℝ) {d : ℝ} (hd : 0 < d) {v u : Nat} (hv : v < H) (hu : u < W)
    (hnz : ¬ (sfreq W u = 0 ∧ sfreq H v = 0)) : G W H px d v u < 1 := by
  unfold G
  rw [mult_eq_gainK hv hu]
  exact gainK_lt_one hnz gg_a_nonneg gg_c_pos hd

theorem filt12 (px d a b : ℝ) :
    filt dft12 px d (a, b)
      = ((G 2 1 px d 0 0 * (a + b) + G 2 1 px d 0 1 * (a - b)) / 2, (G 2 1 px d 0 0 * (a + b) - G 2 1 px d 0 1 * (a - b)) / 2) := by
  rw [filt_eq]
  rfl

end CryoCat.C16
