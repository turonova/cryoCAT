/-! Array layout and index maps (core Lean only; about variables, no model definition is mentioned).

* digits: a flat row-major index `q * m + r` (`r < m`) and its two coordinates; three coordinates by two steps;
* blocks: the concatenation of blocks of one length `m` (`flatMap`, the rows of a flat payload) holds element `r` of block `i` at `i * m + r`,
  and cut into pieces of length `m` it gives the blocks back;
* signed residues: the representative of `j` modulo `n` in the window `[-c, n - c)` — with `c = n / 2` the signed frequency that
  `fftshift` / `ifftshift` attach to DFT bin `j`. -/
namespace CryoCat.Layout

/-! ### digits -/

theorem digit_lt {q n r m : Nat} (hq : q < n) (hr : r < m) : q * m + r < n * m :=
  calc q * m + r < (q + 1) * m := by rw [Nat.succ_mul]; exact Nat.add_lt_add_left hr _
    _ ≤ n * m := Nat.mul_le_mul_right m hq

theorem digit_div {q m r : Nat} (hr : r < m) : (q * m + r) / m = q :=
  Nat.div_eq_of_lt_le (Nat.le_add_right _ _) (by rw [Nat.succ_mul]; exact Nat.add_lt_add_left hr _)

theorem digit_inj {q q' m r r' : Nat} (hr : r < m) (hr' : r' < m) (h : q * m + r = q' * m + r') : q = q' ∧ r = r' :=
  ⟨by simpa only [digit_div hr, digit_div hr'] using congrArg (· / m) h,
   by simpa only [Nat.mul_add_mod_of_lt hr, Nat.mul_add_mod_of_lt hr'] using congrArg (· % m) h⟩

theorem digits3_lt {n0 n1 n2 i j k : Nat} (hi : i < n0) (hj : j < n1) (hk : k < n2) :
    (i * n1 + j) * n2 + k < n0 * n1 * n2 :=
  digit_lt (digit_lt hi hj) hk

/-- the three coordinates of a flat index, slowest first -/
theorem digits3_decode {i j k n1 n2 : Nat} (hj : j < n1) (hk : k < n2) :
    ((i * n1 + j) * n2 + k) / n2 / n1 = i ∧ ((i * n1 + j) * n2 + k) / n2 % n1 = j ∧ ((i * n1 + j) * n2 + k) % n2 = k := by
  rw [digit_div hk]
  exact ⟨digit_div hj, Nat.mul_add_mod_of_lt hj, Nat.mul_add_mod_of_lt hk⟩

theorem digits3_encode (t n1 n2 : Nat) : (t / n2 / n1 * n1 + t / n2 % n1) * n2 + t % n2 = t := by
  rw [Nat.mul_comm (t / n2 / n1), Nat.div_add_mod, Nat.mul_comm, Nat.div_add_mod]

theorem digits3_bounds {t n0 n1 n2 : Nat} (ht : t < n0 * n1 * n2) :
    t / n2 / n1 < n0 ∧ t / n2 % n1 < n1 ∧ t % n2 < n2 := by
  have h2 : 0 < n2 := Nat.pos_of_ne_zero fun h => by subst h; exact Nat.not_lt_zero _ ht
  have h1 : 0 < n1 := Nat.pos_of_ne_zero fun h => by subst h; rw [Nat.mul_zero, Nat.zero_mul] at ht; exact Nat.not_lt_zero _ ht
  refine ⟨Nat.div_lt_of_lt_mul (Nat.div_lt_of_lt_mul ?_), Nat.mod_lt _ h1, Nat.mod_lt _ h2⟩
  rwa [Nat.mul_comm n1, Nat.mul_comm n2]

/-! ### blocks of one length -/

section blocks
variable {ι β : Type} {m : Nat} {g : ι → List β} {l : List ι}

theorem length_flatMap_blocks (hg : ∀ a ∈ l, (g a).length = m) : (l.flatMap g).length = l.length * m := by
  induction l with
  | nil => exact (Nat.zero_mul m).symm
  | cons a l ih =>
    rw [List.flatMap_cons, List.length_append, hg a List.mem_cons_self, ih fun b hb => hg b (List.mem_cons_of_mem a hb),
      List.length_cons, Nat.succ_mul, Nat.add_comm]

/-- block `i` starts at `i * m` -/
theorem drop_flatMap_blocks (hg : ∀ a ∈ l, (g a).length = m) (i : Nat) : (l.flatMap g).drop (i * m) = (l.drop i).flatMap g := by
  induction l generalizing i with
  | nil => rw [List.flatMap_nil, List.drop_nil, List.drop_nil, List.flatMap_nil]
  | cons a l ih =>
    cases i with
    | zero => rw [Nat.zero_mul, List.drop_zero, List.drop_zero]
    | succ i =>
      rw [List.flatMap_cons, Nat.succ_mul, Nat.add_comm, ← hg a List.mem_cons_self, List.drop_length_add_append,
        hg a List.mem_cons_self, ih (fun b hb => hg b (List.mem_cons_of_mem a hb)), List.drop_succ_cons]

theorem getElem?_flatMap_blocks (hg : ∀ a ∈ l, (g a).length = m) (i : Nat) {r : Nat} (hr : r < m) :
    (l.flatMap g)[i * m + r]? = l[i]?.bind fun a => (g a)[r]? := by
  rw [← List.getElem?_drop, drop_flatMap_blocks hg, (List.head?_drop (l := l) (i := i)).symm]
  cases hd : l.drop i with
  | nil => rfl
  | cons a t =>
    have ha : a ∈ l := List.mem_of_mem_drop (hd ▸ List.mem_cons_self)
    rw [List.flatMap_cons, List.getElem?_append_left (by rw [hg a ha]; exact hr)]; rfl

theorem take_drop_flatMap_blocks (hg : ∀ a ∈ l, (g a).length = m) {i : Nat} (hi : i < l.length) :
    ((l.flatMap g).drop (i * m)).take m = g l[i] := by
  rw [drop_flatMap_blocks hg, List.drop_eq_getElem_cons hi, List.flatMap_cons, List.take_left' (hg _ (List.getElem_mem hi))]

/-- `ch k` cuts `k` blocks of length `m` off the front of a list (`C01.rowsOf m`, `C15.chunk m`): it gives the blocks back -/
theorem chunks_flatMap (ch : Nat → List β → List (List β)) (h0 : ∀ d, ch 0 d = [])
    (hs : ∀ k d, ch (k + 1) d = d.take m :: ch k (d.drop m)) (hg : ∀ a ∈ l, (g a).length = m) :
    ch l.length (l.flatMap g) = l.map g := by
  induction l with
  | nil => exact h0 _
  | cons a l ih =>
    have ha := hg a List.mem_cons_self
    rw [List.length_cons, hs, List.flatMap_cons, List.take_left' ha, List.drop_left' ha,
      ih fun b hb => hg b (List.mem_cons_of_mem a hb), List.map_cons]

end blocks

/-! ### signed residues -/

/-- the representative of `j` modulo `n` in the window `[-c, n - c)` -/
def sres (n c j : Int) : Int := (j + c) % n - c

section sres
variable {n c j j' a : Int}

theorem sres_range (hn : 0 < n) (c j : Int) : -c ≤ sres n c j ∧ sres n c j < n - c := by
  have h0 := Int.emod_nonneg (j + c) (Int.ne_of_gt hn)
  have h1 := Int.emod_lt_of_pos (j + c) hn
  unfold sres; omega

theorem sres_dvd (n c j : Int) : n ∣ sres n c j - j :=
  ⟨-((j + c) / n), by have := Int.emod_add_mul_ediv (j + c) n; rw [sres, Int.mul_neg]; omega⟩

theorem sres_congr (c : Int) (h : n ∣ j' - j) : sres n c j' = sres n c j := by
  obtain ⟨q, hq⟩ := h
  rw [sres, sres, show j' + c = j + c + n * q by omega, Int.add_mul_emod_self_left]

/-- the window holds one representative of each class -/
theorem sres_unique (h1 : -c ≤ a) (h2 : a < n - c) (h : n ∣ a - j) : sres n c j = a := by
  rw [sres_congr c (Int.dvd_neg.1 (by rwa [Int.neg_sub])) (j := a), sres, Int.emod_eq_of_lt (by omega) (by omega)]; omega

theorem sres_self (h1 : -c ≤ a) (h2 : a < n - c) : sres n c a = a :=
  sres_unique h1 h2 ⟨0, by omega⟩

theorem sres_emod (n c j : Int) : sres n c (j % n) = sres n c j := by
  rw [sres, sres, Int.emod_add_emod]

/-- a window that is symmetric up to its lowest point: the opposite class has the opposite representative whenever that lies in the window … -/
theorem sres_neg (hn : 0 < n) (hc : n ≤ 2 * c + 1) (h : -sres n c j < n - c) : sres n c (-j) = -sres n c j := by
  obtain ⟨q, hq⟩ := sres_dvd n c j
  exact sres_unique (by have := sres_range hn c j; omega) h ⟨-q, by rw [Int.mul_neg]; omega⟩

/-- … and the one that has none, `-c` when `n = 2 * c` (the Nyquist bin), is its own opposite -/
theorem sres_neg_low (hn : 0 < n) (he : n = 2 * c) (h : sres n c j = -c) : sres n c (-j) = -c := by
  obtain ⟨q, hq⟩ := sres_dvd n c j
  exact sres_unique (Int.le_refl _) (by omega)
    ⟨-q - 1, by rw [Int.mul_sub, Int.mul_neg, Int.mul_one]; omega⟩

theorem sres_neg_sq (hn : 0 < n) (hc : n = 2 * c ∨ n = 2 * c + 1) (j : Int) :
    sres n c (-j) * sres n c (-j) = sres n c j * sres n c j := by
  have r := sres_range hn c j
  by_cases hl : sres n c j = -c ∧ n = 2 * c
  · rw [sres_neg_low hn hl.2 hl.1, hl.1]
  · rw [sres_neg hn (by omega) (by omega), Int.neg_mul_neg]

end sres

/-! ### offsets around a centre -/

/-- an offset that stops on the way (`mode="nearest"` clamps the index read, which lies between the voxel and the unclamped index) is no longer -/
theorem sq_le_of_between {t q : Int} (h : (0 ≤ t ∧ t ≤ q) ∨ (q ≤ t ∧ t ≤ 0)) : t * t ≤ q * q := by
  rcases h with ⟨a, b⟩ | ⟨a, b⟩
  · exact Int.mul_self_le_mul_self a b
  · rw [← Int.neg_mul_neg t t, ← Int.neg_mul_neg q q]; exact Int.mul_self_le_mul_self (by omega) (by omega)

/-- the offsets `-R … R` as a list -/
theorem mem_offsets_iff (R : Nat) (t : Int) :
    t ∈ (List.range (2 * R + 1)).map (fun (i : Nat) => (i : Int) - (R : Int)) ↔ -(R : Int) ≤ t ∧ t ≤ R := by
  rw [List.mem_map]
  constructor
  · rintro ⟨i, hi, rfl⟩
    have := List.mem_range.1 hi; omega
  · rintro ⟨h1, h2⟩
    exact ⟨(t + R).toNat, List.mem_range.2 (by omega), by omega⟩

end CryoCat.Layout
