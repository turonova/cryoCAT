import CryoCat.Model.C12
import Mathlib.Tactic.Ring
import Mathlib.Tactic.Linarith
import Mathlib.Tactic.FieldSimp
import Mathlib.Algebra.Order.Field.Basic
import Mathlib.Algebra.Order.Ring.Abs
import Mathlib.Algebra.Order.Field.Rat
import Mathlib.Data.Rat.Lemmas
/-! `roundHalfEven n d` is the integer nearest to `n/d`, ties to even. -/
namespace CryoCat.C12

theorem roundHalfEven_int (n : Int) (d : Nat) (hd : 0 < d) :
    2 * |n - (d : Int) * roundHalfEven n d| ≤ (d : Int) ∧
    (2 * |n - (d : Int) * roundHalfEven n d| = (d : Int) → roundHalfEven n d % 2 = 0) := by
  have hd' : (0 : Int) < d := by exact_mod_cast hd
  have e := Int.emod_add_mul_ediv n (d : Int)
  have r0 := Int.emod_nonneg n (ne_of_gt hd')
  have r1 := Int.emod_lt_of_pos n hd'
  unfold roundHalfEven
  simp only []
  set f := n / (d : Int)
  set r := n % (d : Int)
  -- the distance to the quotient `f` is the remainder `r`, to `f + 1` it is `d - r`
  have ef : n - (d : Int) * f = r := by omega
  have ef1 : n - (d : Int) * (f + 1) = r - d := by rw [mul_add]; omega
  split_ifs with h1 h2 h3
  · rw [ef, abs_of_nonneg r0]
    exact ⟨by omega, fun h => by omega⟩
  · rw [ef1, abs_of_nonpos (by omega)]
    exact ⟨by omega, fun h => by omega⟩
  · rw [ef, abs_of_nonneg r0]
    exact ⟨by omega, fun _ => h3⟩
  · rw [ef1, abs_of_nonpos (by omega)]
    exact ⟨by omega, fun _ => by omega⟩

theorem roundRat_spec (q : Rat) :
    |q - (roundRat q : Rat)| ≤ 1 / 2 ∧ (|q - (roundRat q : Rat)| = 1 / 2 → roundRat q % 2 = 0) := by
  have hdq : (0 : Rat) < (q.den : Rat) := by exact_mod_cast q.den_pos
  obtain ⟨h1, h2⟩ := roundHalfEven_int q.num q.den q.den_pos
  unfold roundRat
  set v := roundHalfEven q.num q.den
  -- `|q - v| = |num - den·v| / den`
  have key : q - (v : Rat) = ((q.num - (q.den : Int) * v : Int) : Rat) / (q.den : Rat) := by
    push_cast
    rw [sub_div, Rat.num_div_den, mul_div_cancel_left₀ _ hdq.ne']
  set m : Int := |q.num - (q.den : Int) * v| with hm
  have habs : |q - (v : Rat)| = (m : Rat) / (q.den : Rat) := by
    rw [key, abs_div, abs_of_pos hdq, hm, Int.cast_abs]
  rw [habs]
  constructor
  · rw [div_le_iff₀ hdq]
    have : (2 : Rat) * m ≤ q.den := by exact_mod_cast h1
    linarith
  · intro h
    rw [div_eq_iff hdq.ne'] at h
    apply h2
    have : (2 : Rat) * m = q.den := by rw [h]; ring
    exact_mod_cast this

theorem roundRat_unique (q : Rat) (v : Int) (h1 : |q - (v : Rat)| ≤ 1 / 2) (h2 : |q - (v : Rat)| = 1 / 2 → v % 2 = 0) :
    v = roundRat q := by
  obtain ⟨g1, g2⟩ := roundRat_spec q
  set w := roundRat q with hw
  -- two integers within 1/2 of `q` differ by at most 1; if they differ, both sit at distance exactly 1/2, so both are even
  have htri : |(v : Rat) - w| ≤ |q - v| + |q - w| := by
    have := abs_sub_le (v : Rat) q w
    rwa [abs_sub_comm (v : Rat) q] at this
  have hvw : |v - w| ≤ 1 := by
    have : ((|v - w| : Int) : Rat) ≤ 1 := by push_cast; linarith
    exact_mod_cast this
  by_contra hne
  have h1' : (1 : Rat) ≤ |(v : Rat) - w| := by
    have : (1 : Int) ≤ |v - w| := Int.one_le_abs (sub_ne_zero.2 hne)
    exact_mod_cast this
  have e1 := h2 (by linarith)
  have e2 := g2 (by linarith)
  have := abs_le.1 hvw
  omega

end CryoCat.C12
