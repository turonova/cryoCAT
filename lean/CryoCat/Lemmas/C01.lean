import CryoCat.Model.C01_Bytes
import CryoCat.Lemmas.Layout
/-! C01 — helper lemmas: little-endian words, the 512-byte header, the comparison of payloads. Mathlib-free. -/
namespace CryoCat.C01
variable {α β : Type}

theorem specCell_eq (o : NumOps α) (v : α) :
    specCell o v = Stored.f32 (if o.isNaN v then o.bits32 (o.ofInt 0) else o.bits32 v) := by
  unfold specCell conv; split <;> rfl

theorem store_fillCell_zero (o : NumOps α) (v : α) : o.store true (fillCell o (some 0) v) = specCell o v := by
  simp only [NumOps.store, fillCell, specCell, conv, if_true]; split <;> rfl

theorem getElem?_all_idx (f : Field) : Field.all[f.idx]? = some f := by cases f <;> rfl

theorem idx_lt (f : Field) : f.idx < 20 := (List.getElem?_eq_some_iff.1 (getElem?_all_idx f)).1

theorem digits256 (n : Nat) (h : n < 4294967296) :
    n % 256 + 256 * (n / 256 % 256) + 65536 * (n / 65536 % 256) + 16777216 * (n / 16777216 % 256) = n := by
  have h4 : n / 16777216 < 256 := Nat.div_lt_of_lt_mul h
  rw [Nat.mod_eq_of_lt h4, show n / 16777216 = n / 65536 / 256 from (Nat.div_div_eq_div_mul n 65536 256).symm,
    show n / 65536 = n / 256 / 256 from (Nat.div_div_eq_div_mul n 256 256).symm]
  conv => rhs; rw [← Nat.mod_add_div n 256, ← Nat.mod_add_div (n / 256) 256, ← Nat.mod_add_div (n / 256 / 256) 256]
  simp only [Nat.mul_add, ← Nat.mul_assoc, Nat.add_assoc]

theorem ofLe32_le32 (w : UInt32) :
    ofLe32 (UInt8.ofNat (w.toNat % 256)) (UInt8.ofNat (w.toNat / 256 % 256))
      (UInt8.ofNat (w.toNat / 65536 % 256)) (UInt8.ofNat (w.toNat / 16777216 % 256)) = w := by
  apply UInt32.toNat_inj.mp
  simp only [ofLe32, UInt32.toNat_ofNat', UInt8.toNat_ofNat', Nat.mod_mod]
  rw [digits256 _ w.toNat_lt]
  exact Nat.mod_eq_of_lt w.toNat_lt

theorem le32_length (w : UInt32) : (le32 w).length = 4 := rfl

theorem wordsAux_flatMap (ws : List UInt32) (acc : List UInt32) :
    wordsAux (ws.flatMap le32) acc = acc.reverse ++ ws := by
  induction ws generalizing acc with
  | nil => simp [wordsAux]
  | cons w ws ih =>
    simp only [List.flatMap_cons, le32, List.cons_append, List.nil_append, wordsAux, ofLe32_le32]
    rw [ih, List.reverse_cons, List.append_assoc]; rfl

theorem words_flatMap (ws : List UInt32) : words (ws.flatMap le32) = ws := wordsAux_flatMap ws []

theorem emHeader_length (d x y z : Nat) : (emHeader d x y z).length = 512 := by
  simp only [emHeader, List.length_append, List.length_cons, List.length_nil, le32_length, List.length_replicate]

theorem toNat_ofLe32_ofNat (n : Nat) (h : n < 4294967296) {a b c d : UInt8}
    (e : ofLe32 a b c d = UInt32.ofNat n) : (ofLe32 a b c d).toNat = n := by
  rw [e, UInt32.toNat_ofNat']; exact Nat.mod_eq_of_lt h

theorem header_machine (d x y z : Nat) (p : List UInt8) : (emHeader d x y z ++ p).getD 0 0 = 6 := rfl
theorem header_dtype (d x y z : Nat) (p : List UInt8) : (emHeader d x y z ++ p).getD 3 0 = UInt8.ofNat d := rfl
theorem header_x (d x y z : Nat) (p : List UInt8) (h : x < 4294967296) : u32At (emHeader d x y z ++ p) 4 = x :=
  toNat_ofLe32_ofNat x h (ofLe32_le32 _)
theorem header_y (d x y z : Nat) (p : List UInt8) (h : y < 4294967296) : u32At (emHeader d x y z ++ p) 8 = y :=
  toNat_ofLe32_ofNat y h (ofLe32_le32 _)
theorem header_z (d x y z : Nat) (p : List UInt8) (h : z < 4294967296) : u32At (emHeader d x y z ++ p) 12 = z :=
  toNat_ofLe32_ofNat z h (ofLe32_le32 _)

theorem drop_header (d x y z : Nat) (p : List UInt8) : (emHeader d x y z ++ p).drop 512 = p :=
  List.drop_left' (emHeader_length d x y z)

theorem firstDiff_eq_none_iff (a b : List UInt32) (i : Nat) : firstDiff a b i = none ↔
    (a.length = b.length ∧ ∀ k (h1 : k < a.length) (h2 : k < b.length), sameNum a[k] b[k] = true) := by
  induction a generalizing b i with
  | nil => cases b <;> simp [firstDiff]
  | cons x xs ih =>
    cases b with
    | nil => simp [firstDiff]
    | cons y ys =>
      rw [firstDiff]
      by_cases hs : sameNum x y = true
      · rw [if_pos hs, ih]
        simp only [List.length_cons, Nat.add_right_cancel_iff]
        refine and_congr_right fun _ => ⟨fun hk k h1 h2 => ?_, fun hk k h1 h2 => hk (k + 1) (by omega) (by omega)⟩
        cases k with
        | zero => exact hs
        | succ k => exact hk k (by omega) (by omega)
      · rw [if_neg hs]
        exact ⟨fun h => (nomatch h), fun h => absurd (h.2 0 (Nat.zero_lt_succ _) (Nat.zero_lt_succ _)) hs⟩

end CryoCat.C01
