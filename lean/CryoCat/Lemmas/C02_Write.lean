import CryoCat.Lemmas.C02_Read
import CryoCat.Lemmas.C02_Num
/-! C02 — the writer: the text `Starfile.write` produces is the text of a well laid-out document, so it is read back into the
tables written and the comments written for them. The writer is analysed once, with its `comments` argument, over the list of
tables paired with their `comment` entries (`printPairs`, `docOfC`); without comments it is the case "no entry for any block". -/
namespace CryoCat.C02

def eLine : Line := ⟨[], [], []⟩

def padOf (w : Word) : List Char := List.replicate (10 - w.length) ' '

def rowItems : List Word → List (Word × List Char)
  | [] => []
  | [w] => [(w, padOf w)]
  | w :: w' :: r => (w, padOf w ++ ['\t']) :: rowItems (w' :: r)

def rowLineOf (r : List Word) : Line := ⟨[], rowItems r, []⟩

def labelLineOf (numbered : Bool) (i : Nat) (c : Word) : Line :=
  if numbered then ⟨[], [('_' :: c, [' '])], '#' :: natDigits i⟩ else ⟨[], [('_' :: c, [])], []⟩

def labelLinesOf (numbered : Bool) : Nat → List Word → List Line
  | _, [] => []
  | i, c :: cs => labelLineOf numbered i c :: labelLinesOf numbered (i + 1) cs

/-- The column labels are numbered from `Gen.C02.labelStart`, whatever its value: the number is part of a trailing `#n`
comment the reader skips, so the round trip (`readStar_printStar`, hence `Lemmas/C02_Export.lean` and its users) does not
depend on it; that it is the documented 1 is the obligation `writer_literals_documented` of `Props/C02.lean` only. -/
def layoutOf (nc : Bool) (pre : List Line) (b : Block) : BlockLayout :=
  { pre := pre, name := b.name, nameLine := ⟨[], [(b.name, [])], []⟩, mid := [eLine],
    loopLine := ⟨[], [(['l', 'o', 'o', 'p', '_'], [])], []⟩, cols := b.cols,
    labels := labelLinesOf (nc && !isStopgap b.name) Gen.C02.labelStart b.cols,
    post := if isStopgap b.name then [eLine] else [],
    rows := b.rows.map rowLineOf }

def layoutsOf (nc : Bool) : List Line → List Block → List BlockLayout
  | _, [] => []
  | pre, b :: rest => layoutOf nc pre b :: layoutsOf nc [eLine, eLine] rest

def docOf (nc : Bool) (bs : List Block) : Doc := { blocks := layoutsOf nc [eLine] bs, trailing := [eLine, eLine] }

def commentLineOf (c : Comment) : Line := ⟨[], [], '#' :: ' ' :: c⟩

/-- the lines `Starfile.write` puts in front of a block for its `comment` entry -/
def comPre : Option (List Comment) → List Line
  | none => []
  | some cs => cs.map commentLineOf ++ [eLine]

def layoutsOfC (nc : Bool) : List Line → List (Block × Option (List Comment)) → List BlockLayout
  | _, [] => []
  | pre, p :: rest => layoutOf nc (pre ++ comPre p.2) p.1 :: layoutsOfC nc [eLine, eLine] rest

def docOfC (nc : Bool) (bcs : List (Block × Option (List Comment))) : Doc :=
  { blocks := layoutsOfC nc [eLine] bcs, trailing := [eLine, eLine] }

theorem layoutsOf_eq (nc : Bool) (pre : List Line) (bs : List Block) :
    layoutsOf nc pre bs = layoutsOfC nc pre (bs.map (·, none)) := by
  induction bs generalizing pre with
  | nil => rfl
  | cons b rest ih => simp [layoutsOf, layoutsOfC, comPre, ih]

theorem docOf_eq (nc : Bool) (bs : List Block) : docOf nc bs = docOfC nc (bs.map (·, none)) := by
  simp [docOf, docOfC, layoutsOf_eq]

def printPairs (nc : Bool) (bcs : List (Block × Option (List Comment))) : List Char :=
  bcs.flatMap (fun p => printBlockC nc p.2 p.1)

theorem printAllC_zip (nc : Bool) : ∀ (coms : List (Option (List Comment))) (bs : List Block),
    printAllC nc coms bs = printPairs nc (bs.zip coms)
  | [], bs => by simp [printAllC, printPairs]
  | _ :: _, [] => rfl
  | com :: coms, b :: bs => by simp [printAllC, printPairs, printAllC_zip nc coms bs]

def termLines (ls : List (List Char)) : List Char := ls.flatMap (· ++ ['\n'])

theorem joinLines_snoc_nil (ls : List (List Char)) : joinLines (ls ++ [[]]) = termLines ls := by
  induction ls with
  | nil => rfl
  | cons l ls ih =>
    cases ls with
    | nil => simp [joinLines, termLines]
    | cons l' ls' =>
      simp only [List.cons_append, joinLines] at ih ⊢
      rw [ih]; simp [termLines]

/-- with the documented format spec `'{:<10}'` (no fill character, left-aligned) a cell is its text followed by blanks -/
theorem padCell_eq (w : Word) : padCell w = w ++ List.replicate (Gen.C02.cellWidth - w.length) ' ' := rfl

theorem render_rowItems (r : List Word) : render (rowItems r) = rowText r := by
  induction r with
  | nil => rfl
  | cons w r ih =>
    cases r with
    | nil => simp [rowItems, render, rowText, sepJoin, padCell_eq, padOf, Gen.C02.cellWidth]
    | cons w' r' =>
      simp only [rowItems, render, rowText, List.map_cons, sepJoin] at ih ⊢
      rw [ih]; simp [padCell_eq, padOf, Gen.C02.cellWidth, Gen.C02.cellSep]

theorem rowLine_text (r : List Word) : (rowLineOf r).text = rowText r := by
  simp [rowLineOf, Line.text, render_rowItems]

theorem labels_text (numbered : Bool) (i : Nat) (cols : List Word) :
    termLines ((labelLinesOf numbered i cols).map Line.text) = labelsText numbered i cols := by
  induction cols generalizing i with
  | nil => rfl
  | cons c cs ih =>
    simp only [labelLinesOf, List.map_cons, termLines, List.flatMap_cons, labelsText] at ih ⊢
    rw [ih (i + 1)]
    cases numbered <;>
      simp [labelLineOf, Line.text, render, labelText, piece, Gen.C02.labelNumbered, Gen.C02.labelPlain]

theorem rows_text (rows : List (List Word)) :
    termLines ((rows.map rowLineOf).map Line.text) = rows.flatMap (fun r => rowText r ++ Gen.C02.rowEnd) := by
  induction rows with
  | nil => rfl
  | cons r rs ih =>
    simp only [List.map_cons, termLines, List.flatMap_cons] at ih ⊢
    rw [ih, rowLine_text]; rfl

def coreLines (nc : Bool) (b : Block) : List Line :=
  (layoutOf nc [] b).lines

theorem layout_lines (nc : Bool) (pre : List Line) (b : Block) : (layoutOf nc pre b).lines = pre ++ coreLines nc b := by
  simp [coreLines, BlockLayout.lines, layoutOf]

theorem termLines_append (a b : List (List Char)) : termLines (a ++ b) = termLines a ++ termLines b := by
  simp [termLines]

theorem termLines_cons (x : List Char) (xs : List (List Char)) : termLines (x :: xs) = x ++ '\n' :: termLines xs := by
  simp [termLines]

theorem printBlock_eq (nc : Bool) (b : Block) :
    printBlock nc b = '\n' :: (termLines ((coreLines nc b).map Line.text) ++ ['\n']) := by
  simp only [printBlock, coreLines, BlockLayout.lines, layoutOf]
  rw [← labels_text, ← rows_text]
  cases isStopgap b.name <;>
    simp [termLines_cons, termLines_append, Line.text, render, eLine, piece, Gen.C02.specLine, Gen.C02.loopLine,
      Gen.C02.stopgapExtra, Gen.C02.blockEnd] <;> rfl

theorem commentsText_eq (cs : List Comment) (X : List Char) :
    commentsText cs ++ '\n' :: X = '\n' :: (termLines ((cs.map commentLineOf ++ [eLine]).map Line.text) ++ X) := by
  induction cs with
  | nil => simp [commentsText, termLines, eLine, Line.text, render, Gen.C02.commentsEnd]
  | cons c cs ih =>
    have : commentsText (c :: cs) = '\n' :: '#' :: ' ' :: (c ++ commentsText cs) := by
      simp [commentsText, piece, Gen.C02.commentLine]
    rw [this]
    simp only [List.cons_append, List.append_assoc, List.map_cons, termLines_cons]
    rw [ih]
    simp [commentLineOf, Line.text, render]

theorem printBlockC_eq (nc : Bool) (com : Option (List Comment)) (b : Block) :
    printBlockC nc com b = '\n' :: (termLines ((comPre com ++ coreLines nc b).map Line.text) ++ ['\n']) := by
  cases com with
  | none => simp [printBlockC, comPre, printBlock_eq]
  | some cs =>
    simp only [printBlockC, comPre, printBlock_eq]
    rw [commentsText_eq]
    simp [termLines]

/-- the line break that opens a block's text ends the last of the blank lines in front of the block -/
theorem layoutsC_text (nc : Bool) (pre : List Line) (p : Block × Option (List Comment)) (rest : List (Block × Option (List Comment))) :
    termLines (((layoutsOfC nc (pre ++ [eLine]) (p :: rest)).flatMap BlockLayout.lines).map Line.text) ++ ['\n'] =
      termLines (pre.map Line.text) ++ printPairs nc (p :: rest) := by
  have he : eLine.text = [] := rfl
  induction rest generalizing pre p with
  | nil => simp [layoutsOfC, layout_lines, termLines_append, termLines_cons, printPairs, printBlockC_eq, he]
  | cons q rest ih =>
    have h := ih [eLine] q
    simp only [layoutsOfC, List.flatMap_cons, List.map_append, List.map_cons, termLines_append, termLines_cons, layout_lines,
      List.append_assoc, printPairs, printBlockC_eq, List.cons_append, List.nil_append, he] at h ⊢
    rw [h]
    simp [termLines]

theorem docOfC_text (nc : Bool) (bcs : List (Block × Option (List Comment))) (h : bcs ≠ []) :
    (docOfC nc bcs).text = printPairs nc bcs := by
  obtain ⟨p, rest, rfl⟩ := List.exists_cons_of_ne_nil h
  unfold Doc.text Doc.lines docOfC
  have : ((layoutsOfC nc [eLine] (p :: rest)).flatMap BlockLayout.lines ++ [eLine, eLine]).map Line.text =
      (((layoutsOfC nc [eLine] (p :: rest)).flatMap BlockLayout.lines).map Line.text ++ [[]]) ++ [[]] := by
    simp [eLine, Line.text, render]
  rw [this, joinLines_snoc_nil, termLines_append]
  exact layoutsC_text nc [] p rest

theorem printAllC_none (nc : Bool) (bs : List Block) : printAllC nc (List.replicate bs.length none) bs = printStar nc bs := by
  induction bs with
  | nil => rfl
  | cons b rest ih => simp [List.replicate_succ, printAllC, printBlockC, ih, printStar]

theorem docOf_text (nc : Bool) (bs : List Block) (h : bs ≠ []) : (docOf nc bs).text = printStar nc bs := by
  rw [docOf_eq, docOfC_text nc _ (by simpa using h)]
  simp [printPairs, List.flatMap_map, printBlockC, printStar]

theorem eLine_skip : eLine.Skip :=
  ⟨⟨by simp [PadOk, eLine], by simp [eLine], by simp [eLine, SepsOk], Or.inl rfl⟩, rfl⟩

theorem eLines_skip (n : Nat) : ∀ l ∈ List.replicate n eLine, l.Skip :=
  fun _ hl => (List.mem_replicate.1 hl).2 ▸ eLine_skip

theorem padOk_nil : PadOk [] := by simp [PadOk]

theorem loopWord_ok : WordOk ['l', 'o', 'o', 'p', '_'] := ⟨by simp, by decide⟩

theorem digits_no_nl (i : Nat) : '\n' ∉ natDigits i := fun h => Text.ne_of_test (natDigits_all i _ h) rfl rfl

theorem padOf_ok (w : Word) : PadOk (padOf w) := by
  intro c hc
  simp only [padOf, List.mem_replicate] at hc
  rw [hc.2]; decide

theorem padTab_ok (w : Word) : PadOk (padOf w ++ ['\t']) := by
  intro c hc
  simp only [List.mem_append, List.mem_singleton] at hc
  rcases hc with h | rfl
  · exact padOf_ok w c h
  · decide

theorem oneWord_ok (w : Word) (s tl : List Char) (hw : WordOk w) (hs : PadOk s) (ht : Tail tl) : Line.Ok ⟨[], [(w, s)], tl⟩ :=
  ⟨padOk_nil, fun p hp => by rw [List.mem_singleton.1 hp]; exact ⟨hw, hs⟩, trivial, ht⟩

theorem labelLine_ok (numbered : Bool) (i : Nat) (c : Word) (hc : ColNameOk c) :
    (labelLineOf numbered i c).Ok ∧ (labelLineOf numbered i c).words = ['_' :: c] := by
  have hw : WordOk ('_' :: c) := by
    refine ⟨by simp, fun x hx => ?_⟩
    rcases List.mem_cons.1 hx with rfl | hx
    · decide
    · exact hc x hx
  cases numbered
  · exact ⟨oneWord_ok _ _ _ hw padOk_nil (Or.inl rfl), rfl⟩
  · exact ⟨oneWord_ok _ _ _ hw (by decide) (Or.inr ⟨natDigits i, rfl, digits_no_nl i⟩), rfl⟩

theorem labelLines_ok (numbered : Bool) (i : Nat) (cols : List Word) (h : ∀ c ∈ cols, ColNameOk c) :
    (∀ l ∈ labelLinesOf numbered i cols, l.Ok) ∧
      (labelLinesOf numbered i cols).map Line.words = cols.map (fun c => ['_' :: c]) := by
  induction cols generalizing i with
  | nil => simp [labelLinesOf]
  | cons c cs ih =>
    have h1 := labelLine_ok numbered i c (h c (by simp))
    have h2 := ih (i + 1) (fun x hx => h x (by simp [hx]))
    refine ⟨?_, ?_⟩
    · intro l hl
      simp only [labelLinesOf, List.mem_cons] at hl
      rcases hl with rfl | hl
      · exact h1.1
      · exact h2.1 l hl
    · simp only [labelLinesOf, List.map_cons, h1.2, h2.2]

theorem rowItems_words (r : List Word) : (rowItems r).map (·.1) = r := by
  induction r using rowItems.induct <;> simp_all [rowItems]

theorem rowItems_ok (r : List Word) (h : ∀ w ∈ r, CellOk w) : (∀ p ∈ rowItems r, WordOk p.1 ∧ PadOk p.2) ∧ SepsOk (rowItems r) := by
  induction r using rowItems.induct with
  | case1 => simp [rowItems, SepsOk]
  | case2 w =>
    refine ⟨fun p hp => ?_, trivial⟩
    rw [List.mem_singleton.1 hp]; exact ⟨(h w (by simp)).1, padOf_ok w⟩
  | case3 w w' r ih =>
    obtain ⟨h1, h2⟩ := ih (fun x hx => h x (by simp [hx]))
    refine ⟨fun p hp => ?_, (sepsOk_cons_iff _ _).2 ⟨Or.inr (by simp), h2⟩⟩
    rcases List.mem_cons.1 hp with rfl | hp
    · exact ⟨(h w (by simp)).1, padTab_ok w⟩
    · exact h1 p hp

theorem rowLine_ok (r : List Word) (h : ∀ w ∈ r, CellOk w) : (rowLineOf r).Ok :=
  ⟨padOk_nil, (rowItems_ok r h).1, (rowItems_ok r h).2, Or.inl rfl⟩

theorem layoutOf_ok (nc : Bool) (pre : List Line) (b : Block) (hpre : ∀ l ∈ pre, l.Skip) (hb : BlockOk b) :
    (layoutOf nc pre b).Ok := by
  obtain ⟨hname, hcols, hcn, hrows⟩ := hb
  have hl := labelLines_ok (nc && !isStopgap b.name) Gen.C02.labelStart b.cols hcn
  refine ⟨hpre, eLines_skip 1, ?_, oneWord_ok _ _ _ hname.1 padOk_nil (Or.inl rfl), rfl, hname.2,
    oneWord_ok _ _ _ loopWord_ok padOk_nil (Or.inl rfl), rfl, rfl, hcols, hl.1, hl.2, ?_⟩
  · show ∀ l ∈ (if isStopgap b.name then [eLine] else []), l.Skip
    split
    · exact eLines_skip 1
    · exact eLines_skip 0
  · intro r hr
    obtain ⟨r0, hr0, rfl⟩ := List.mem_map.1 hr
    have h0 := hrows r0 hr0
    have hw : (rowLineOf r0).words = r0 := rowItems_words r0
    exact ⟨rowLine_ok r0 h0.2, rfl, by rw [hw]; exact h0.1, by rw [hw]; exact fun w hw => (h0.2 w hw).2⟩

theorem layoutOf_block (nc : Bool) (pre : List Line) (b : Block) : (layoutOf nc pre b).block = b := by
  cases b
  simp [BlockLayout.block, layoutOf, rowLineOf, Line.words, rowItems_words, Function.comp_def]

def ComOk : Option (List Comment) → Prop
  | none => True
  | some cs => ∀ c ∈ cs, '\n' ∉ c
def ComsOk (coms : List (Option (List Comment))) : Prop := ∀ o ∈ coms, ComOk o
instance : (o : Option (List Comment)) → Decidable (ComOk o)
  | none => isTrue trivial
  | some cs => by unfold ComOk; infer_instance
instance (coms : List (Option (List Comment))) : Decidable (ComsOk coms) := by unfold ComsOk; infer_instance

theorem commentLine_skip (c : Comment) (h : '\n' ∉ c) : (commentLineOf c).Skip := by
  refine ⟨⟨padOk_nil, by simp [commentLineOf], by simp [commentLineOf, SepsOk], Or.inr ⟨' ' :: c, rfl, ?_⟩⟩, rfl⟩
  simp only [List.mem_cons, not_or]
  exact ⟨by decide, h⟩

theorem comPre_skip (com : Option (List Comment)) (h : ComOk com) : ∀ l ∈ comPre com, l.Skip := by
  cases com with
  | none => simp [comPre]
  | some cs =>
    intro l hl
    simp only [comPre, List.mem_append, List.mem_map, List.mem_singleton] at hl
    rcases hl with ⟨c, hc, rfl⟩ | rfl
    · exact commentLine_skip c (h c hc)
    · exact eLine_skip

theorem layoutsOfC_ok (nc : Bool) (pre : List Line) (hpre : ∀ l ∈ pre, l.Skip) (bcs : List (Block × Option (List Comment)))
    (h : ∀ p ∈ bcs, BlockOk p.1 ∧ ComOk p.2) : ∀ x ∈ layoutsOfC nc pre bcs, x.Ok := by
  induction bcs generalizing pre with
  | nil => simp [layoutsOfC]
  | cons p rest ih =>
    have hp := h p (by simp)
    intro x hx
    simp only [layoutsOfC, List.mem_cons] at hx
    rcases hx with rfl | hx
    · exact layoutOf_ok nc _ p.1 (fun l hl => (List.mem_append.1 hl).elim (hpre l) (comPre_skip p.2 hp.2 l)) hp.1
    · exact ih [eLine, eLine] (eLines_skip 2) (fun q hq => h q (by simp [hq])) x hx

theorem layoutsOfC_blocks (nc : Bool) (pre : List Line) (bcs : List (Block × Option (List Comment))) :
    (layoutsOfC nc pre bcs).map BlockLayout.block = bcs.map Prod.fst := by
  induction bcs generalizing pre with
  | nil => rfl
  | cons p rest ih => simp only [layoutsOfC, List.map_cons, layoutOf_block, ih]

/-- "an empty table only last" looks at the rows only -/
theorem emptyOnlyLast_map (f : Block → Block) (hf : ∀ b, (f b).rows = b.rows) : ∀ bs, EmptyOnlyLast bs → EmptyOnlyLast (bs.map f)
  | [], _ => trivial
  | [_], _ => trivial
  | b :: b2 :: rest, h => ⟨hf b ▸ h.1, emptyOnlyLast_map f hf (b2 :: rest) h.2⟩

theorem layoutsOfC_sep (nc : Bool) (pre tr : List Line) (htr : tr ≠ []) (bcs : List (Block × Option (List Comment)))
    (he : EmptyOnlyLast (bcs.map Prod.fst)) : SepOk tr (layoutsOfC nc pre bcs) := by
  induction bcs generalizing pre with
  | nil => trivial
  | cons p rest ih =>
    cases rest with
    | nil => intro _; simp [htr]
    | cons q rest' => exact ⟨by simpa [layoutOf] using he.1, by simp [layoutOf], ih [eLine, eLine] he.2⟩

theorem docOfC_ok (nc : Bool) (bcs : List (Block × Option (List Comment))) (h : ∀ p ∈ bcs, BlockOk p.1 ∧ ComOk p.2)
    (he : EmptyOnlyLast (bcs.map Prod.fst)) : (docOfC nc bcs).Ok :=
  ⟨layoutsOfC_ok nc [eLine] (eLines_skip 1) bcs h, eLines_skip 2, layoutsOfC_sep nc [eLine] _ (by simp [docOfC]) bcs he,
    by simp [Doc.lines, docOfC]⟩

theorem docOf_ok (nc : Bool) (bs : List Block) (h : ∀ b ∈ bs, BlockOk b) (he : EmptyOnlyLast bs) : (docOf nc bs).Ok := by
  rw [docOf_eq]
  refine docOfC_ok nc _ ?_ (by simpa [List.map_map, Function.comp_def] using he)
  intro p hp
  obtain ⟨b, hb, rfl⟩ := List.mem_map.1 hp
  exact ⟨h b hb, trivial⟩

/-- the blank `Starfile.write` puts after `#` is removed by `strip` -/
theorem stripWs_blank (c : List Char) : stripWs (' ' :: c) = stripWs c := by
  have hb : isWs ' ' = true := by decide
  unfold stripWs rstripWs
  rw [List.reverse_cons, List.dropWhile_append]
  cases h : c.reverse.dropWhile isWs <;> simp [List.dropWhile, hb]

/-- what the reader returns for one `comment` entry of the writer -/
def comRead (o : Option (List Comment)) : List Comment := (o.getD []).map stripWs

theorem eLine_coms : eLine.coms = [] := rfl

theorem commentLines_coms (cs : List Comment) : (cs.map commentLineOf).flatMap Line.coms = cs.map stripWs := by
  induction cs with
  | nil => rfl
  | cons c cs ih =>
    simp only [List.map_cons, List.flatMap_cons, ih]
    simp [commentLineOf, Line.coms, stripWs_blank]

theorem comPre_coms (com : Option (List Comment)) : lineComs (comPre com) = comRead com := by
  cases com with
  | none => rfl
  | some cs =>
    simp only [comPre, lineComs, List.flatMap_append, comRead, Option.getD_some, commentLines_coms]
    simp [eLine_coms]

theorem layoutOf_coms (nc : Bool) (pre : List Line) (b : Block) : (layoutOf nc pre b).coms = lineComs pre := by
  simp only [BlockLayout.coms, layoutOf, Line.coms, lineComs, List.flatMap_cons, List.flatMap_nil, eLine]
  split <;> simp [Line.coms]

theorem docComs_eq_map (tr : List Line) (htr : lineComs tr = []) (bs : List BlockLayout) :
    docComs tr bs = bs.map BlockLayout.coms := by
  induction bs with
  | nil => rfl
  | cons b rest ih =>
    cases rest with
    | nil => simp [docComs, htr]
    | cons b2 rest' => simpa [docComs] using ih

theorem layoutsOfC_coms (nc : Bool) (pre : List Line) (hpre : lineComs pre = []) (bcs : List (Block × Option (List Comment))) :
    (layoutsOfC nc pre bcs).map BlockLayout.coms = bcs.map (fun p => comRead p.2) := by
  induction bcs generalizing pre with
  | nil => rfl
  | cons p rest ih =>
    simp only [layoutsOfC, List.map_cons, layoutOf_coms, ih [eLine, eLine] rfl]
    simp only [lineComs, List.flatMap_append] at hpre ⊢
    rw [hpre]; exact congrArg (· :: _) (comPre_coms p.2)

theorem readStarC_printPairs (nc : Bool) (bcs : List (Block × Option (List Comment))) (h : ∀ p ∈ bcs, BlockOk p.1 ∧ ComOk p.2)
    (he : EmptyOnlyLast (bcs.map Prod.fst)) : readStarC (printPairs nc bcs) = .ok (bcs.map (Prod.map id comRead)) := by
  cases bcs with
  | nil => rfl
  | cons p rest =>
    rw [← docOfC_text nc _ (List.cons_ne_nil p rest), readStarC_doc _ (docOfC_ok nc _ h he)]
    simp only [docOfC]
    rw [layoutsOfC_blocks, docComs_eq_map _ rfl, layoutsOfC_coms nc [eLine] rfl, List.zip_map']
    rfl

theorem printStarC_length {nc : Bool} {coms : List (Option (List Comment))} {bs : List Block} {txt : List Char}
    (hw : printStarC nc coms bs = some txt) : coms.length = bs.length := by
  unfold printStarC at hw
  split at hw
  · assumption
  · cases hw

theorem readStarC_printStarC (nc : Bool) (coms : List (Option (List Comment))) (bs : List Block) (txt : List Char)
    (hw : printStarC nc coms bs = some txt) (hc : ComsOk coms) (h : ∀ b ∈ bs, BlockOk b) (he : EmptyOnlyLast bs) :
    readStarC txt = .ok (bs.zip (coms.map comRead)) := by
  have hl := printStarC_length hw
  have ht : printAllC nc coms bs = txt := by simpa [printStarC, hl] using hw
  rw [← ht, printAllC_zip, readStarC_printPairs nc _ (fun p hp => ⟨h _ (List.of_mem_zip hp).1, hc _ (List.of_mem_zip hp).2⟩)
    (by rwa [List.map_fst_zip (by omega)]), List.zip_map_right]

theorem readStar_printStarC (nc : Bool) (coms : List (Option (List Comment))) (bs : List Block) (txt : List Char)
    (hw : printStarC nc coms bs = some txt) (hc : ComsOk coms) (h : ∀ b ∈ bs, BlockOk b) (he : EmptyOnlyLast bs) :
    readStar txt = .ok bs := by
  rw [← readStarC_tables, readStarC_printStarC nc coms bs txt hw hc h he,
    dropC_zip _ _ (by rw [List.length_map, printStarC_length hw])]

theorem readStar_printStar (nc : Bool) (bs : List Block) (h : ∀ b ∈ bs, BlockOk b) (he : EmptyOnlyLast bs) :
    readStar (printStar nc bs) = .ok bs :=
  readStar_printStarC nc (List.replicate bs.length none) bs _ (by simp [printStarC, printAllC_none])
    (fun _ ho => (List.mem_replicate.1 ho).2 ▸ trivial) h he

end CryoCat.C02
