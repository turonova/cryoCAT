import CryoCat.Model.C16
import CryoCat.Lemmas.C16_IsDFT
import CryoCat.Lemmas.Layout
/-! C16 — helper lemmas: the model at the reals (`Real.exp`, `Real.rpow`, `Real.sqrt`) and the index
arithmetic of `fftshift` (the signed frequency of a bin is `Layout.sres`). -/
namespace CryoCat.C16

noncomputable def realOps : Ops ℝ :=
  { exp := Real.exp, pow := fun x y => x ^ y, sqrt := Real.sqrt, ofInt := fun n => (n : ℝ) }

/-- the Grant–Grigorieff constants as documented -/
noncomputable def ggDoc : GG ℝ := { a := 0.245, b := -1.665, c := 2.81 }

theorem gg_real : gg realOps = ggDoc := by
  simp only [gg, ggDoc, realOps, Gen.C16.ggA, Gen.C16.ggB, Gen.C16.ggC, GG.mk.injEq]
  norm_num

theorem gg_a_nonneg : 0 ≤ (gg realOps).a := by rw [gg_real, ggDoc]; norm_num
theorem gg_c_pos : 0 < (gg realOps).c := by rw [gg_real, ggDoc]; norm_num

theorem rstep_real (n : Nat) (px : ℝ) : rstep realOps n px = 1 / ((n : ℝ) * px) := by
  simp [rstep, realOps]

theorem freqK_real (W H : Nat) (px : ℝ) (kx ky : Int) :
    freqK realOps W H px kx ky
      = Real.sqrt (((kx : ℝ) / ((W : ℝ) * px)) ^ 2 + ((ky : ℝ) / ((H : ℝ) * px)) ^ 2) := by
  simp only [freqK, rstep_real]
  simp only [realOps]
  congr 1
  push_cast
  ring

theorem freqK_nonneg (W H : Nat) (px : ℝ) (kx ky : Int) : 0 ≤ freqK realOps W H px kx ky := by
  rw [freqK_real]; exact Real.sqrt_nonneg _

theorem freqK_eq_zero_iff {W H : Nat} {px : ℝ} (hW : 0 < W) (hH : 0 < H) (hpx : 0 < px) (kx ky : Int) :
    freqK realOps W H px kx ky = 0 ↔ kx = 0 ∧ ky = 0 := by
  have hWp : (W : ℝ) * px ≠ 0 := (mul_pos (Nat.cast_pos.2 hW) hpx).ne'
  have hHp : (H : ℝ) * px ≠ 0 := (mul_pos (Nat.cast_pos.2 hH) hpx).ne'
  -- a sum of two squares vanishes only if both do; the denominators are non-zero
  rw [freqK_real, Real.sqrt_eq_zero (add_nonneg (sq_nonneg _) (sq_nonneg _)),
    add_eq_zero_iff_of_nonneg (sq_nonneg _) (sq_nonneg _), sq_eq_zero_iff, sq_eq_zero_iff,
    div_eq_zero_iff, div_eq_zero_iff, or_iff_left hWp, or_iff_left hHp, Int.cast_eq_zero, Int.cast_eq_zero]

/-- so the attenuation never divides by zero -/
theorem critExp_pos (g : GG ℝ) (ha : 0 ≤ g.a) (hc : 0 < g.c) {f : ℝ} (hf : 0 ≤ f) : 0 < critExp realOps g f :=
  add_pos_of_nonneg_of_pos (mul_nonneg ha (Real.rpow_nonneg hf _)) hc

theorem atten_real (g : GG ℝ) (d f : ℝ) :
    atten realOps g d f = Real.exp (-d / (2 * (g.a * f ^ g.b + g.c))) := by
  simp [atten, critExp, realOps]

theorem atten_zero_dose (g : GG ℝ) (f : ℝ) : atten realOps g 0 f = 1 := by
  simp [atten_real]

theorem atten_add (g : GG ℝ) (d₁ d₂ f : ℝ) :
    atten realOps g d₁ f * atten realOps g d₂ f = atten realOps g (d₁ + d₂) f := by
  simp only [atten_real, ← Real.exp_add]
  congr 1; ring

theorem atten_pos (g : GG ℝ) (d f : ℝ) : 0 < atten realOps g d f := by
  rw [atten_real]; exact Real.exp_pos _

theorem atten_strictAnti (g : GG ℝ) (ha : 0 ≤ g.a) (hc : 0 < g.c) {f : ℝ} (hf : 0 ≤ f) :
    StrictAnti fun d => atten realOps g d f := by
  intro d₁ d₂ h
  have hp : 0 < 2 * critExp realOps g f := mul_pos two_pos (critExp_pos g ha hc hf)
  simp only [atten_real, Real.exp_lt_exp]
  exact div_lt_div_of_pos_right (neg_lt_neg h) hp

theorem atten_antitone (g : GG ℝ) (ha : 0 ≤ g.a) (hc : 0 < g.c) {f : ℝ} (hf : 0 ≤ f) {d₁ d₂ : ℝ} (h : d₁ ≤ d₂) :
    atten realOps g d₂ f ≤ atten realOps g d₁ f :=
  (atten_strictAnti g ha hc hf).antitone h

theorem atten_le_one (g : GG ℝ) (ha : 0 ≤ g.a) (hc : 0 < g.c) {f : ℝ} (hf : 0 ≤ f) {d : ℝ} (h : 0 ≤ d) :
    atten realOps g d f ≤ 1 :=
  (atten_antitone g ha hc hf h).trans_eq (atten_zero_dose g f)

theorem atten_lt_one (g : GG ℝ) (ha : 0 ≤ g.a) (hc : 0 < g.c) {f : ℝ} (hf : 0 ≤ f) {d : ℝ} (hd : 0 < d) :
    atten realOps g d f < 1 :=
  (atten_strictAnti g ha hc hf hd).trans_eq (atten_zero_dose g f)

theorem rot_rot {n a b k : Nat} (hab : a + b = n) (hk : k < n) : ((k + a) % n + b) % n = k := by
  rw [Nat.mod_add_mod, Nat.add_assoc, hab, Nat.add_mod_right, Nat.mod_eq_of_lt hk]

theorem shiftSrc_ishiftSrc {n k : Nat} (hk : k < n) : shiftSrc n (ishiftSrc n k) = k :=
  rot_rot (by omega) hk

theorem ishiftSrc_shiftSrc {n x : Nat} (hx : x < n) : ishiftSrc n (shiftSrc n x) = x :=
  rot_rot (by omega) hx

/-- the signed frequency of bin `k` is its representative in the window `[-⌊n/2⌋, n - ⌊n/2⌋)` that `fftshift` centres -/
theorem sfreq_eq_sres {n k : Nat} (hk : k < n) : sfreq n k = Layout.sres n (n / 2 : Nat) k := by
  unfold sfreq
  split
  · exact (Layout.sres_self (by omega) (by omega)).symm
  · exact (Layout.sres_unique (by omega) (by omega) ⟨-1, by omega⟩).symm

/-- raw DFT index `k` sits at position `ishiftSrc n k` of the shifted spectrum, where the code's `x - n//2` is the signed
frequency of `k` (even and odd `n`) -/
theorem kOfPos_ishiftSrc {n k : Nat} (hk : k < n) : kOfPos n (ishiftSrc n k) = sfreq n k := by
  rw [sfreq_eq_sres hk, kOfPos, ishiftSrc, cen, Layout.sres, Int.natCast_mod, Int.natCast_add]

theorem kOfPos_range {n x : Nat} (hx : x < n) : -((n / 2 : Nat) : Int) ≤ kOfPos n x ∧ kOfPos n x ≤ ((n - 1) / 2 : Nat) := by
  unfold kOfPos cen; omega

theorem sfreq_zero {n : Nat} (hn : 0 < n) : sfreq n 0 = 0 := by
  unfold sfreq; simp [hn]

/-- in squares, because the partner index carries the opposite signed frequency except at the Nyquist index of an even `n`, which
is its own partner -/
theorem sfreq_negIdx_sq {n k : Nat} (hk : k < n) :
    sfreq n (negIdx n k) * sfreq n (negIdx n k) = sfreq n k * sfreq n k := by
  have hn : 0 < n := Nat.zero_lt_of_lt hk
  -- the partner `(n - k) mod n` lies in the class of `-k`
  unfold negIdx
  rw [sfreq_eq_sres (Nat.mod_lt _ hn), sfreq_eq_sres hk, Int.natCast_mod, Int.natCast_sub hk.le, Layout.sres_emod,
    Layout.sres_congr _ ⟨1, by omega⟩ (j := -(k : Int))]
  exact Layout.sres_neg_sq (by omega) (by omega) k

end CryoCat.C16
