import CryoCat.Model.C14
import CryoCat.Lemmas.M3
/-! C14 — the coordinate map of `rotate` composes like the matrices, and `rotateBy` reads the input wherever the sampled voxel is in the box; a map printed as nested lists holds
`f p` at `p`; the clipping formulas of `get_start_end_indices`, per axis and on three axes. -/
namespace CryoCat.C14
variable {α : Type}

section ring
variable {K : Type} [CommRing K]

theorem srcCoord_mul (A B : M3 K) (c o : V3 K) : srcCoord (A * B) c o = srcCoord A c (srcCoord B c o) := by
  unfold srcCoord; rw [V3.add_sub_cancel_left, M3.apply_mul]
end ring

theorem rotateBy_eq [OfNat α 0] {R : M3 Int} {s : Shape} {f : V3 Int → α} {o p : V3 Int}
    (e : srcCoord R.transpose s.centre o = p) (hp : s.inBox p = true) : rotateBy R s f o = f p := by
  subst e; exact if_pos hp

theorem inBox_iff (s : Shape) (p : V3 Int) :
    s.inBox p = true ↔ (0 ≤ p.x ∧ p.x < s.nx) ∧ (0 ≤ p.y ∧ p.y < s.ny) ∧ (0 ≤ p.z ∧ p.z < s.nz) := by
  simp [Shape.inBox, and_assoc]

theorem tab_get? (s : Shape) (f : V3 Int → α) (p : V3 Int) (h : s.inBox p = true) : (Vol.tab s f).get? p = some (f p) := by
  rw [inBox_iff] at h
  obtain ⟨⟨hx0, hx1⟩, ⟨hy0, hy1⟩, ⟨hz0, hz1⟩⟩ := h
  have hx : p.x.toNat < s.nx := by omega
  have hy : p.y.toNat < s.ny := by omega
  have hz : p.z.toNat < s.nz := by omega
  have hneg : ¬ (p.x < 0 ∨ p.y < 0 ∨ p.z < 0) := by omega
  simp only [Vol.get?, Vol.tab, if_neg hneg, List.getElem?_map, List.getElem?_range hx, List.getElem?_range hy, List.getElem?_range hz,
    Option.map_some, Option.bind_some, Int.toNat_of_nonneg hx0, Int.toNat_of_nonneg hy0, Int.toNat_of_nonneg hz0]

theorem tab_shape (s : Shape) (f : V3 Int → α) (h : 0 < s.nx ∧ 0 < s.ny) : (Vol.tab s f).shape = s := by
  obtain ⟨hx, hy⟩ := h
  cases s with
  | mk nx ny nz =>
    simp only at hx hy
    obtain ⟨nx', rfl⟩ := Nat.exists_eq_succ_of_ne_zero (by omega : nx ≠ 0)
    obtain ⟨ny', rfl⟩ := Nat.exists_eq_succ_of_ne_zero (by omega : ny ≠ 0)
    simp [Vol.shape, Vol.tab, List.range_succ_eq_map]

/-! The clipping formulas of `get_start_end_indices`, one axis.

Two facts carry everything: the volume block `[vs, ve)` is the intersection of the volume with the window (`clip1_vol_mem`), and the
sub-block `[ss, se)` is the same block seen from the window start, or both are empty (`clip1_shift`). -/

theorem clip1_ss (start : Int) (V s : Nat) : (clip1 start V s).ss = min (max 0 ((clip1 start V s).vs - start)) s := rfl

theorem clip1_se (start : Int) (V s : Nat) : (clip1 start V s).se = max (min (s : Int) ((clip1 start V s).ve - start)) 0 := by
  show max (min (s : Int) ((clip1 start V s).ve - (start + s) + (start + s - start))) 0 = _
  congr 2; omega

theorem clip1_vol_mem (start : Int) (V s : Nat) (p : Int) :
    ((clip1 start V s).vs ≤ p ∧ p < (clip1 start V s).ve) ↔ (0 ≤ p ∧ p < V) ∧ (0 ≤ p - start ∧ p - start < s) := by
  simp only [clip1]; omega

theorem clip1_ends (start : Int) (V s : Nat) :
    (start ≤ (clip1 start V s).vs ∧ (clip1 start V s).vs ≤ start + s ∧ start ≤ (clip1 start V s).ve ∧ (clip1 start V s).ve ≤ start + s) ∨
      (clip1 start V s).vs = (clip1 start V s).ve := by
  simp only [clip1]; omega

theorem clip1_shift (start : Int) (V s : Nat) :
    ((clip1 start V s).ss = (clip1 start V s).vs - start ∧ (clip1 start V s).se = (clip1 start V s).ve - start) ∨
      ((clip1 start V s).ss = (clip1 start V s).se ∧ (clip1 start V s).vs = (clip1 start V s).ve) := by
  rcases clip1_ends start V s with ⟨h1, h2, h3, h4⟩ | h
  · exact Or.inl ⟨by rw [clip1_ss]; omega, by rw [clip1_se]; omega⟩
  · exact Or.inr ⟨by rw [clip1_ss, clip1_se, h]; omega, h⟩

theorem clip1_ok (start : Int) (V s : Nat) : (clip1 start V s).ok = true := by
  have := clip1_shift start V s
  unfold Clip.ok
  rw [decide_eq_true_eq]
  omega

theorem clip1_sub_mem (start : Int) (V s : Nat) (t : Int) :
    ((clip1 start V s).ss ≤ t ∧ t < (clip1 start V s).se) ↔ (0 ≤ t ∧ t < s) ∧ (0 ≤ start + t ∧ start + t < V) := by
  have h1 := clip1_vol_mem start V s (start + t)
  have h2 := clip1_shift start V s
  omega

theorem clip1_toVol (start : Int) (V s : Nat) (t : Int) (h : (clip1 start V s).ss ≤ t ∧ t < (clip1 start V s).se) :
    (clip1 start V s).vs + (t - (clip1 start V s).ss) = start + t := by
  have := clip1_shift start V s
  omega

theorem clip1_toSub (start : Int) (V s : Nat) (p : Int) (h : (clip1 start V s).vs ≤ p ∧ p < (clip1 start V s).ve) :
    (clip1 start V s).ss + (p - (clip1 start V s).vs) = p - start := by
  have := clip1_shift start V s
  omega

theorem clip1_crop (start : Int) (V s : Nat) (p t : Int) (h : p = (clip1 start V s).vs + t) :
    (0 ≤ t ∧ t < (((clip1 start V s).ve - (clip1 start V s).vs).toNat : Int)) ↔ (0 ≤ p ∧ p < V) ∧ (0 ≤ p - start ∧ p - start < s) := by
  rw [← clip1_vol_mem]; omega

theorem clip1_inside (start : Int) (V s : Nat) (h0 : 0 ≤ start) (h1 : start + s ≤ V) :
    clip1 start V s = ⟨start, start + s, 0, s⟩ := by
  simp only [clip1, Clip.mk.injEq]; omega

theorem v3g_add_x {K : Type} [Add K] (a b : V3 K) : (a + b).x = a.x + b.x := rfl
theorem v3g_add_y {K : Type} [Add K] (a b : V3 K) : (a + b).y = a.y + b.y := rfl
theorem v3g_add_z {K : Type} [Add K] (a b : V3 K) : (a + b).z = a.z + b.z := rfl

theorem inSub_iff (c : Clip3) (t : V3 Int) :
    c.inSub t = true ↔ (c.x.ss ≤ t.x ∧ t.x < c.x.se) ∧ (c.y.ss ≤ t.y ∧ t.y < c.y.se) ∧ (c.z.ss ≤ t.z ∧ t.z < c.z.se) := by
  simp [Clip3.inSub, and_assoc]

theorem inVol_iff (c : Clip3) (p : V3 Int) :
    c.inVol p = true ↔ (c.x.vs ≤ p.x ∧ p.x < c.x.ve) ∧ (c.y.vs ≤ p.y ∧ p.y < c.y.ve) ∧ (c.z.vs ≤ p.z ∧ p.z < c.z.ve) := by
  simp [Clip3.inVol, and_assoc]

theorem clip3_inSub_iff (start : V3 Int) (V s : Shape) (t : V3 Int) (ht : s.inBox t = true) :
    (clip3 start V s).inSub t = true ↔ V.inBox (start + t) = true := by
  rw [inBox_iff] at ht
  rw [inSub_iff, inBox_iff]
  exact and_congr ((clip1_sub_mem start.x V.nx s.nx t.x).trans (and_iff_right ht.1))
    (and_congr ((clip1_sub_mem start.y V.ny s.ny t.y).trans (and_iff_right ht.2.1))
      ((clip1_sub_mem start.z V.nz s.nz t.z).trans (and_iff_right ht.2.2)))

theorem clip3_toVol (start : V3 Int) (V s : Shape) (t : V3 Int) (h : (clip3 start V s).inSub t = true) :
    (clip3 start V s).toVol t = start + t := by
  rw [inSub_iff] at h
  exact V3.ext' (clip1_toVol _ _ _ _ h.1) (clip1_toVol _ _ _ _ h.2.1) (clip1_toVol _ _ _ _ h.2.2)

theorem clip3_inVol_iff (start : V3 Int) (C os : Shape) (p : V3 Int) (hp : C.inBox p = true) :
    (clip3 start C os).inVol p = true ↔ os.inBox (p - start) = true := by
  rw [inBox_iff] at hp
  rw [inVol_iff, inBox_iff]
  exact and_congr ((clip1_vol_mem start.x C.nx os.nx p.x).trans (and_iff_right hp.1))
    (and_congr ((clip1_vol_mem start.y C.ny os.ny p.y).trans (and_iff_right hp.2.1))
      ((clip1_vol_mem start.z C.nz os.nz p.z).trans (and_iff_right hp.2.2)))

theorem clip3_toSub (start : V3 Int) (C os : Shape) (p : V3 Int) (h : (clip3 start C os).inVol p = true) :
    (clip3 start C os).toSub p = p - start := by
  rw [inVol_iff] at h
  exact V3.ext' (clip1_toSub _ _ _ _ h.1) (clip1_toSub _ _ _ _ h.2.1) (clip1_toSub _ _ _ _ h.2.2)

end CryoCat.C14
