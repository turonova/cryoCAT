import CryoCat.Model.C03
import CryoCat.Lemmas.Text
import CryoCat.Lemmas.List
/-! C03 — helper lemmas about half-set renumbering, the version tests, zero padding and reading numbers back
out of generated names. Core Lean only. -/
namespace CryoCat.C03

theorem renumberStep_parity (c h : Nat) : renumberStep c h % 2 = h % 2 := by
  unfold renumberStep
  -- with both parities known the test of the loop is a closed Boolean: the step is 2 when they agree, else 1
  rcases Nat.mod_two_eq_zero_or_one c with hc | hc <;> rcases Nat.mod_two_eq_zero_or_one h with hh | hh <;>
    rw [hc, hh]
  · exact (Nat.add_mod_right c 2).trans hc
  · show (c + 1) % 2 = 1; omega
  · show (c + 1) % 2 = 0; omega
  · exact (Nat.add_mod_right c 2).trans hc

theorem renumberStep_bounds (c h : Nat) : c < renumberStep c h ∧ renumberStep c h ≤ c + 2 := by
  unfold renumberStep; split <;> omega

theorem renumberFrom_length (c : Nat) (hs : List Nat) : (renumberFrom c hs).length = hs.length := by
  induction hs generalizing c with
  | nil => rfl
  | cons h t ih => simp [renumberFrom, ih]

theorem renumberFrom_parity (c : Nat) (hs : List Nat) : (renumberFrom c hs).map (· % 2) = hs.map (· % 2) := by
  induction hs generalizing c with
  | nil => rfl
  | cons h t ih => simp [renumberFrom, ih, renumberStep_parity]

theorem renumberFrom_bounds (c : Nat) (hs : List Nat) : ∀ i ∈ renumberFrom c hs, c < i ∧ i ≤ c + 2 * hs.length := by
  induction hs generalizing c with
  | nil => intro i hi; cases hi
  | cons h t ih =>
    intro i hi
    have := renumberStep_bounds c h
    rw [List.length_cons]
    rcases List.mem_cons.1 hi with rfl | hi
    · omega
    · have := ih _ i hi; omega

theorem renumberFrom_pairwise (c : Nat) (hs : List Nat) : (renumberFrom c hs).Pairwise (· < ·) := by
  induction hs generalizing c with
  | nil => exact List.Pairwise.nil
  | cons h t ih =>
    simp only [renumberFrom, List.pairwise_cons]
    exact ⟨fun i hi => (renumberFrom_bounds _ t i hi).1, ih _⟩

/-- the first id (1 for an odd half-set, else 2) is what a loop step makes of the counter 0, so the whole
renumbering is the loop started at 0 -/
theorem renumber_eq_renumberFrom (hs : List Nat) : renumber hs = renumberFrom 0 hs := by
  cases hs with
  | nil => rfl
  | cons h t =>
    have h0 : renumberStep 0 h = if h % 2 = 1 then 1 else 2 := by
      unfold renumberStep
      rcases Nat.mod_two_eq_zero_or_one h with e | e <;> simp [e]
    rw [renumber, renumberFrom, h0]

theorem cmpVer_le (v thr : Nat) : cmpVer "<=" v thr = some (decide (v ≤ thr)) := rfl
theorem cmpVer_ge (v thr : Nat) : cmpVer ">=" v thr = some (decide (thr ≤ v)) := rfl
theorem cmpVer_eq (v thr : Nat) : cmpVer "==" v thr = some (decide (v = thr)) := rfl

/-- `parse_subtomo_id` takes the whole last component as the number exactly for version ≥ 4.0 -/
theorem subtomoWhole_test (v : Nat) :
    cmpVer Gen.C03.subtomoWholeCmp v Gen.C03.subtomoWholeThr = some (decide (40 ≤ v)) := cmpVer_ge v 40

/-- the `elif` branch of `parse_tomo_id` reads the last path component exactly for version ≤ 3.1 -/
theorem tomoFallback_test (v : Nat) :
    cmpVer Gen.C03.tomoFallbackCmp v Gen.C03.tomoFallbackThr = some (decide (v ≤ 31)) := cmpVer_le v 31

/-! `zfill k ds` is `ds` padded with zeros: `Lemmas/Text` -/

theorem zfill_toDigits_ne_nil (k n : Nat) : zfill k (Nat.toDigits 10 n) ≠ [] :=
  fun h => Nat.toDigits_ne_nil (List.append_eq_nil_iff.1 h).2

theorem zfill_toDigits_allDigits (k n : Nat) : ∀ c ∈ zfill k (Nat.toDigits 10 n), c.isDigit = true :=
  Text.isDigit_pad (Text.isDigit_toDigits n)

theorem decode_zfill_toDigits (k n : Nat) : Nat.ofDigitChars 10 (zfill k (Nat.toDigits 10 n)) 0 = n :=
  Text.ofDigitChars_pad_toDigits _ n

theorem zfill_toDigits_ne (d : Char) (hd : d.isDigit = false) (k n : Nat) : ∀ c ∈ zfill k (Nat.toDigits 10 n), c ≠ d :=
  fun c hc => Text.ne_of_test (zfill_toDigits_allDigits k n c hc) hd

theorem numbersAux_some_digits (a : Nat) (ds rest : List Char) (h : ∀ c ∈ ds, c.isDigit = true) :
    numbersAux (some a) (ds ++ rest) = numbersAux (some (Nat.ofDigitChars 10 ds a)) rest := by
  induction ds generalizing a with
  | nil => simp
  | cons d t ih =>
    have hd : d.isDigit = true := h d (by simp)
    simp only [List.cons_append, numbersAux, hd, if_true, Option.getD_some]
    rw [ih _ (fun c hc => h c (by simp [hc])), Nat.ofDigitChars_cons]

theorem numbersAux_none_digits (ds rest : List Char) (hne : ds ≠ []) (h : ∀ c ∈ ds, c.isDigit = true) :
    numbersAux none (ds ++ rest) = numbersAux (some (Nat.ofDigitChars 10 ds 0)) rest := by
  cases ds with
  | nil => exact absurd rfl hne
  | cons d t =>
    have hd : d.isDigit = true := h d (by simp)
    simp only [List.cons_append, numbersAux, hd, if_true, Option.getD_none]
    rw [numbersAux_some_digits _ t rest (fun c hc => h c (by simp [hc])), Nat.ofDigitChars_cons]

theorem numbersAux_none_nondigits (pre rest : List Char) (h : ∀ c ∈ pre, c.isDigit = false) :
    numbersAux none (pre ++ rest) = numbersAux none rest := by
  induction pre with
  | nil => rfl
  | cons p t ih =>
    have hp : p.isDigit = false := h p (by simp)
    simp only [List.cons_append, numbersAux, hp, Bool.false_eq_true, if_false, Option.toList_none, List.nil_append]
    exact ih (fun c hc => h c (by simp [hc]))

theorem numbersAux_some_nondigit (a : Nat) (m : Char) (rest : List Char) (hm : m.isDigit = false) :
    numbersAux (some a) (m :: rest) = a :: numbersAux none (m :: rest) := by
  simp [numbersAux, hm]

/-- `hsuf`: `suf` must not continue the run of digits -/
theorem numbers_number (pre ds suf : List Char) (hpre : ∀ c ∈ pre, c.isDigit = false) (hne : ds ≠ [])
    (hd : ∀ c ∈ ds, c.isDigit = true) (hsuf : suf = [] ∨ ∃ c t, suf = c :: t ∧ c.isDigit = false) :
    numbers (pre ++ (ds ++ suf)) = Nat.ofDigitChars 10 ds 0 :: numbers suf := by
  unfold numbers
  rw [numbersAux_none_nondigits pre _ hpre, numbersAux_none_digits ds _ hne hd]
  rcases hsuf with rfl | ⟨c, t, rfl, hc⟩
  · rfl
  · exact numbersAux_some_nondigit _ c t hc

theorem numbers_padded (pre suf : List Char) (k n : Nat) (hpre : ∀ c ∈ pre, c.isDigit = false)
    (hsuf : suf = [] ∨ ∃ c t, suf = c :: t ∧ c.isDigit = false) :
    numbers (pre ++ (zfill k (Nat.toDigits 10 n) ++ suf)) = n :: numbers suf := by
  rw [numbers_number pre _ suf hpre (zfill_toDigits_ne_nil k n) (zfill_toDigits_allDigits k n) hsuf, decode_zfill_toDigits]

theorem numbers_padded_end (pre : List Char) (k n : Nat) (hpre : ∀ c ∈ pre, c.isDigit = false) :
    numbers (pre ++ zfill k (Nat.toDigits 10 n)) = [n] := by
  have h := numbers_padded pre [] k n hpre (Or.inl rfl)
  rwa [List.append_nil] at h

def Sep (m : List Char) : Prop := m ≠ [] ∧ ∀ c ∈ m, c.isDigit = false

theorem Sep.head {m : List Char} (hm : Sep m) (rest : List Char) :
    m ++ rest = [] ∨ ∃ c t, m ++ rest = c :: t ∧ c.isDigit = false := by
  obtain ⟨hne, hnd⟩ := hm
  cases m with
  | nil => exact absurd rfl hne
  | cons c t => exact Or.inr ⟨c, t ++ rest, rfl, hnd c (by simp)⟩

theorem lastComponentAux_noslash (acc s : List Char) (h : ∀ c ∈ s, c ≠ '/') : lastComponentAux acc s = acc := by
  induction s generalizing acc with
  | nil => rfl
  | cons c t ih =>
    have hc : c ≠ '/' := h c (by simp)
    simp only [lastComponentAux, hc, if_false]
    exact ih acc (fun d hd => h d (by simp [hd]))

theorem lastComponentAux_slash (acc dir rest : List Char) :
    lastComponentAux acc (dir ++ '/' :: rest) = lastComponentAux rest rest := by
  induction dir generalizing acc with
  | nil => simp only [List.nil_append, lastComponentAux, if_true]
  | cons d t ih => simp only [List.cons_append, lastComponentAux]; split <;> exact ih _

theorem lastComponent_dir (dir lc : List Char) (h : ∀ c ∈ lc, c ≠ '/') :
    lastComponent (dir ++ '/' :: lc) = lc := by
  unfold lastComponent
  rw [lastComponentAux_slash, lastComponentAux_noslash lc lc h]

theorem lastComponent_plain (lc : List Char) (h : ∀ c ∈ lc, c ≠ '/') : lastComponent lc = lc :=
  lastComponentAux_noslash lc lc h

theorem not_numeric_of_slash (dir lc : List Char) : ¬ ((dir ++ '/' :: lc) ≠ [] ∧ (dir ++ '/' :: lc).all Char.isDigit = true) := by
  intro h
  have := List.all_eq_true.1 h.2 '/' (by simp)
  exact absurd this (by decide)

theorem beforeLastSlash_dir (a b : List Char) (h : ∀ c ∈ b, c ≠ '/') : beforeLastSlash (a ++ '/' :: b) = a := by
  induction a with
  | nil =>
    have hb : '/' ∉ b := fun hm => h '/' hm rfl
    simp [beforeLastSlash, hb]
  | cons d t ih =>
    have hm : '/' ∈ t ++ '/' :: b := by simp
    simp only [List.cons_append, beforeLastSlash, hm, if_true, ih]

theorem beforeLastSlash_plain (s : List Char) (h : ∀ c ∈ s, c ≠ '/') : beforeLastSlash s = s := by
  cases s with
  | nil => rfl
  | cons d t =>
    have ht : '/' ∉ t := fun hm => h '/' (by simp [hm]) rfl
    have hd : d ≠ '/' := h d (by simp)
    simp [beforeLastSlash, ht, hd]

theorem parseTomo_dir (dir lc : List Char) (h : ∀ c ∈ lc, c ≠ '/') :
    parseTomo (dir ++ '/' :: lc) = (numbers lc)[0]? := by
  unfold parseTomo; rw [lastComponent_dir dir lc h]; rfl

theorem parseTomo_plain (lc : List Char) (h : ∀ c ∈ lc, c ≠ '/') : parseTomo lc = (numbers lc)[0]? := by
  unfold parseTomo; rw [lastComponent_plain lc h]; rfl

theorem parseSub_dir_lt (v : Nat) (hv : v < 40) (dir lc : List Char) (h : ∀ c ∈ lc, c ≠ '/') :
    parseSub v (dir ++ '/' :: lc) = (numbers lc)[1]? := by
  unfold parseSub
  rw [if_neg (not_numeric_of_slash dir lc)]
  simp only [subtomoWhole_test, decide_eq_false (Nat.not_le.2 hv), lastComponent_dir dir lc h]
  rfl

theorem parseSub_dir_ge (v : Nat) (hv : 40 ≤ v) (dir ds : List Char) (hne : ds ≠ []) (hd : ∀ c ∈ ds, c.isDigit = true) :
    parseSub v (dir ++ '/' :: ds) = some (Nat.ofDigitChars 10 ds 0) := by
  unfold parseSub
  rw [if_neg (not_numeric_of_slash dir ds)]
  simp only [subtomoWhole_test, decide_eq_true hv,
    lastComponent_dir dir ds fun c hc => Text.ne_of_test (hd c hc) rfl]
  rw [if_pos ⟨hne, List.all_eq_true.2 hd⟩]

theorem parseSub_padded (v : Nat) (hv : 40 ≤ v) (dir : List Char) (k n : Nat) :
    parseSub v (dir ++ '/' :: zfill k (Nat.toDigits 10 n)) = some n := by
  rw [parseSub_dir_ge v hv dir _ (zfill_toDigits_ne_nil k n) (zfill_toDigits_allDigits k n), decode_zfill_toDigits]

theorem allSome_eq_some {β : Type} (l : List (Option β)) (r : List β) (h : allSome l = some r) : r.map some = l := by
  induction l generalizing r with
  | nil => simp [allSome] at h; subst h; rfl
  | cons a t ih =>
    cases a with
    | none => simp [allSome] at h
    | some a =>
      simp only [allSome, Option.map_eq_some_iff] at h
      obtain ⟨r', hr', rfl⟩ := h
      simp [ih r' hr']

end CryoCat.C03
