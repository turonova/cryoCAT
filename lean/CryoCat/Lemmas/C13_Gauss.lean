import CryoCat.Lemmas.C13_Blur
import Mathlib.Analysis.Complex.Exponential
import Mathlib.Analysis.Complex.ExponentialBounds
import Mathlib.Tactic.NormNum
import Mathlib.Tactic.Linarith
import Mathlib.Tactic.Ring
import Mathlib.Tactic.Positivity
/-! C13 — the model's Gaussian kernel (`gaussW` of `Model/C13.lean`: `exp(-0.5/σ²·t²)` over `-R … R` divided by
the sum, `R = int(4σ + 0.5)`) evaluated with the real exponential: for every width `0 < σ ≤ 3` the weight of the offsets
farther than `5σ` from the centre is at most `1e-3`.

Proof of the tail bound.  An offset `o` of the cube `[-R,R]³` with `|o|² > 25σ²` has weight
`exp(-|o|²/2σ²)/S³ < exp(-25/2)/S³` (`S` = the 1-D normalisation sum), there are at most `(2R+1)³` of them, and
`1000·exp(-25/2) ≤ (4/25)³` (from `e > 2.718`), so it suffices that `S ≥ (4/25)(2R+1)`.  `S` grows with `σ`, and
`R = ⌊4σ + 1/2⌋` gives `σ ≥ (2R-1)/8`; keeping the offsets `|t| ≤ m`, each with the weight of the outermost one (`realS_ge`;
`m = 0, 1, 2` for `R ≤ 2`, `≤ 7`, `≤ 12`), and `exp(-x) ≥ (1 - x/4)⁴` leaves seven rational inequalities (one for each of the
ranges `R ≤ 2`, `R = 3`, `4 … 5`, `6 … 7`, `8 … 9`, `10 … 11`, `R = 12`: the bound for the least width of a range against the
need of its largest radius). -/
namespace CryoCat.C13
open Real

noncomputable def realRaw (g : ℝ) (t : ℤ) : ℝ := gaussRaw Real.exp (fun t : ℤ => (t : ℝ)) g t

noncomputable def realW (g : ℝ) (R : ℕ) (t : ℤ) : ℝ := gaussW Real.exp (fun t : ℤ => (t : ℝ)) g R t

noncomputable def realS (g : ℝ) (R : ℕ) : ℝ := ((axis R).map (realRaw g)).sum

theorem realRaw_eq (g : ℝ) (t : ℤ) : realRaw g t = Real.exp (-(((t : ℝ) * t) / (2 * (g * g)))) := by
  unfold realRaw gaussRaw
  congr 1
  ring

theorem realW_eq (g : ℝ) (R : ℕ) (t : ℤ) : realW g R t = realRaw g t / realS g R := rfl

theorem realRaw_pos (g : ℝ) (t : ℤ) : 0 < realRaw g t := by rw [realRaw_eq]; exact Real.exp_pos _

theorem realRaw_zero (g : ℝ) : realRaw g 0 = 1 := by rw [realRaw_eq]; simp

theorem realRaw_neg (g : ℝ) (t : ℤ) : realRaw g (-t) = realRaw g t := by
  rw [realRaw_eq, realRaw_eq]; push_cast; ring_nf

theorem realRaw_anti (g : ℝ) (t t' : ℤ) (h : (t : ℝ) * t ≤ (t' : ℝ) * t') : realRaw g t' ≤ realRaw g t := by
  rw [realRaw_eq, realRaw_eq, Real.exp_le_exp, neg_le_neg_iff]
  exact div_le_div_of_nonneg_right h (mul_nonneg zero_le_two (mul_self_nonneg g))

/-- `exp(-x) ≥ (1 - x/4)⁴` for `x ≤ 4`, and the weight grows with the width -/
theorem realRaw_ge (g a : ℝ) (ha : 0 < a) (hag : a ≤ g) (t : ℤ) (hx : (t : ℝ) * t / (2 * (a * a)) ≤ 4) :
    (1 - (t : ℝ) * t / (2 * (a * a)) / 4) ^ 4 ≤ realRaw g t := by
  rw [realRaw_eq]
  have haa : 2 * (a * a) ≤ 2 * (g * g) :=
    mul_le_mul_of_nonneg_left (mul_self_le_mul_self ha.le hag) zero_le_two
  have hyx : (t : ℝ) * t / (2 * (g * g)) ≤ (t : ℝ) * t / (2 * (a * a)) :=
    div_le_div_of_nonneg_left (mul_self_nonneg _) (mul_pos two_pos (mul_pos ha ha)) haa
  have h4 : (t : ℝ) * t / (2 * (g * g)) ≤ ((4 : ℕ) : ℝ) := by push_cast; linarith only [hyx, hx]
  refine le_trans (pow_le_pow_left₀ ?_ ?_ 4) (Real.one_sub_div_pow_le_exp_neg h4)
  · linarith only [hx]
  · push_cast; linarith only [hyx]

theorem realS_ge (g : ℝ) (m R : ℕ) (h : m ≤ R) : 1 + 2 * m * realRaw g m ≤ realS g R := by
  refine le_trans ?_ (axis_sum_mono m R h (realRaw g) fun t => (realRaw_pos g t).le)
  induction m with
  | zero => simp [axis, realRaw_zero]
  | succ m ih =>
    have hm : (0 : ℝ) ≤ m := Nat.cast_nonneg m
    have h1 : realRaw g ((m : ℤ) + 1) ≤ realRaw g m :=
      realRaw_anti g m _ (by push_cast; exact mul_self_le_mul_self hm (by linarith))
    rw [axis_sum_succ, realRaw_neg]
    push_cast
    linarith only [ih (by omega), mul_nonneg hm (sub_nonneg.2 h1)]

theorem realS_ge_one (g : ℝ) (R : ℕ) : 1 ≤ realS g R := by simpa using realS_ge g 0 R (Nat.zero_le _)

theorem realS_pos (g : ℝ) (R : ℕ) : 0 < realS g R := lt_of_lt_of_le one_pos (realS_ge_one g R)

theorem realS_ge_of_width (g a : ℝ) (m R : ℕ) (ha : 0 < a) (hag : a ≤ g) (hx : (m : ℝ) * m / (2 * (a * a)) ≤ 4) (hm : m ≤ R) :
    1 + 2 * m * (1 - (m : ℝ) * m / (2 * (a * a)) / 4) ^ 4 ≤ realS g R := by
  have h := realRaw_ge g a ha hag m (by simpa using hx)
  rw [Int.cast_natCast] at h
  have hm0 : (0 : ℝ) ≤ 2 * m := by positivity
  exact le_trans (add_le_add le_rfl (mul_le_mul_of_nonneg_left h hm0)) (realS_ge g m R hm)

def farOffset (g : Rat) (o : Int × Int × Int) : Bool :=
  decide ((g * 5) * (g * 5) < ((o.1 * o.1 + o.2.1 * o.2.1 + o.2.2 * o.2.2 : Int) : Rat))

theorem w3_realW (g : ℝ) (R : ℕ) (o : ℤ × ℤ × ℤ) : w3 (realW g R) o =
    Real.exp (-((((o.1 : ℝ) * o.1 + (o.2.1 : ℝ) * o.2.1 + (o.2.2 : ℝ) * o.2.2)) / (2 * (g * g)))) / realS g R ^ 3 := by
  unfold w3
  rw [realW_eq, realW_eq, realW_eq, realRaw_eq, realRaw_eq, realRaw_eq]
  rw [div_mul_div_comm, div_mul_div_comm, ← Real.exp_add, ← Real.exp_add]
  congr 1
  · congr 1; ring
  · ring

theorem w3_realW_le (g : ℝ) (hg : 0 < g) (R : ℕ) (o : ℤ × ℤ × ℤ) (c : ℝ)
    (h : c * (2 * (g * g)) ≤ (o.1 : ℝ) * o.1 + (o.2.1 : ℝ) * o.2.1 + (o.2.2 : ℝ) * o.2.2) :
    w3 (realW g R) o ≤ Real.exp (-c) / realS g R ^ 3 := by
  rw [w3_realW]
  refine div_le_div_of_nonneg_right (Real.exp_le_exp.mpr (neg_le_neg ?_)) (pow_pos (realS_pos g R) 3).le
  rwa [le_div_iff₀ (by positivity)]

theorem le_w3_realW (g : ℝ) (hg : 0 < g) (R : ℕ) (o : ℤ × ℤ × ℤ) (c : ℝ)
    (h : (o.1 : ℝ) * o.1 + (o.2.1 : ℝ) * o.2.1 + (o.2.2 : ℝ) * o.2.2 ≤ c * (2 * (g * g))) :
    Real.exp (-c) / realS g R ^ 3 ≤ w3 (realW g R) o := by
  rw [w3_realW]
  refine div_le_div_of_nonneg_right (Real.exp_le_exp.mpr (neg_le_neg ?_)) (pow_pos (realS_pos g R) 3).le
  rwa [div_le_iff₀ (by positivity)]

theorem far_weight_le (g : ℚ) (hg : 0 < g) (R : ℕ) (o : ℤ × ℤ × ℤ) (hfar : farOffset g o = true) :
    w3 (realW (g : ℝ) R) o ≤ Real.exp (-(25 / 2)) / realS (g : ℝ) R ^ 3 := by
  have hlt : (g * 5) * (g * 5) < ((o.1 * o.1 + o.2.1 * o.2.1 + o.2.2 * o.2.2 : ℤ) : ℚ) := by
    simpa [farOffset] using hfar
  have hlt' := (Rat.cast_lt (K := ℝ)).mpr hlt
  push_cast at hlt'
  exact w3_realW_le (g : ℝ) (by exact_mod_cast hg) R o (25 / 2) (by linarith only [hlt'])

theorem far_sum_le (g : ℚ) (hg : 0 < g) (R : ℕ) :
    (((cube R).filter (farOffset g)).map (w3 (realW (g : ℝ) R))).sum
      ≤ Real.exp (-(25 / 2)) * ((2 * (R : ℝ) + 1) / realS (g : ℝ) R) ^ 3 := by
  have hS := realS_pos (g : ℝ) R
  have h := sum_filter_le_length (cube R) (farOffset g) (w3 (realW (g : ℝ) R)) (Real.exp (-(25 / 2)) / realS (g : ℝ) R ^ 3)
    (by positivity) (fun o _ ho => far_weight_le g hg R o ho)
  rw [cube_length] at h
  push_cast at h
  rwa [div_pow, mul_div_assoc', ← div_mul_eq_mul_div]

theorem exp_natCast_bounds (n : ℕ) : (2.718 : ℝ) ^ n ≤ Real.exp n ∧ Real.exp n ≤ (2.7183 : ℝ) ^ n := by
  rw [← Real.exp_one_pow]
  exact ⟨pow_le_pow_left₀ (by norm_num) (le_of_lt (lt_trans (by norm_num) Real.exp_one_gt_d9)) n,
    pow_le_pow_left₀ (Real.exp_pos 1).le (le_of_lt (lt_trans Real.exp_one_lt_d9 (by norm_num))) n⟩

theorem exp_neg_twelve_half_le : Real.exp (-(25 / 2)) ≤ (4 / 25) ^ 3 / 1000 := by
  have hhalf : (1.625 : ℝ) ≤ Real.exp (1 / 2) := by
    have := Real.quadratic_le_exp_of_nonneg (x := 1 / 2) (by norm_num)
    norm_num at this ⊢
    linarith
  have hbig : (244141 : ℝ) ≤ Real.exp (25 / 2) := by
    rw [show (25 / 2 : ℝ) = (12 : ℕ) + 1 / 2 by norm_num, Real.exp_add]
    calc (244141 : ℝ) ≤ 2.718 ^ 12 * 1.625 := by norm_num
      _ ≤ _ := mul_le_mul (exp_natCast_bounds 12).1 hhalf (by norm_num) (Real.exp_pos _).le
  rw [Real.exp_neg]
  calc (Real.exp (25 / 2))⁻¹ ≤ (244141 : ℝ)⁻¹ := inv_anti₀ (by norm_num) hbig
    _ ≤ _ := by norm_num

theorem kernelRadius_bounds (g : ℚ) (hg : 0 < g) :
    ((2 * (kernelRadius g : ℚ) - 1) / 8 ≤ g) ∧ (g ≤ 3 → kernelRadius g ≤ 12) := by
  have hmk : mkRat 1 2 = (1 / 2 : ℚ) := by rw [Rat.mkRat_eq_div]; norm_num
  have hfl0 : 0 ≤ (4 * g + 1 / 2 : ℚ).floor := Rat.le_floor_iff.mpr (by norm_num; linarith only [hg])
  have hR : ((kernelRadius g : ℕ) : ℤ) = (4 * g + 1 / 2 : ℚ).floor := by
    unfold kernelRadius; rw [hmk]; exact Int.toNat_of_nonneg hfl0
  have hle : (((4 * g + 1 / 2 : ℚ).floor : ℤ) : ℚ) ≤ 4 * g + 1 / 2 := Rat.floor_le _
  have hRq : ((kernelRadius g : ℕ) : ℚ) = (((4 * g + 1 / 2 : ℚ).floor : ℤ) : ℚ) := by
    rw [← hR]; simp
  constructor
  · rw [hRq]; linarith only [hle]
  · intro h3
    have h13 : (4 * g + 1 / 2 : ℚ).floor < 13 := Rat.floor_lt_iff.mpr (by push_cast; linarith only [h3])
    have : ((kernelRadius g : ℕ) : ℤ) < 13 := by rw [hR]; exact h13
    omega

theorem realS_lower (g : ℚ) (hg : 0 < g) (hg3 : g ≤ 3) :
    (4 / 25 : ℝ) * (2 * (kernelRadius g : ℝ) + 1) ≤ realS (g : ℝ) (kernelRadius g) := by
  obtain ⟨ha, hR12⟩ := kernelRadius_bounds g hg
  have hR := hR12 hg3
  have haR : ((2 * (kernelRadius g : ℝ) - 1) / 8 : ℝ) ≤ (g : ℝ) := by
    have := (Rat.cast_le (K := ℝ)).mpr ha
    push_cast at this
    exact this
  generalize kernelRadius g = R at hR haR ⊢
  -- for `lo ≤ R ≤ hi` the width is at least `a = (2·lo − 1)/8`; the lower bound of the sum from `m` offsets on each side, valid for
  -- every width `≥ a`, that meets the need of `hi` settles the whole range
  have range : ∀ (lo hi m : ℕ) (a : ℝ), a = (2 * (lo : ℝ) - 1) / 8 → 1 ≤ m ∧ m ≤ lo ∧ lo ≤ R ∧ R ≤ hi →
      (m : ℝ) * m / (2 * (a * a)) ≤ 4 →
      (4 / 25 : ℝ) * (2 * (hi : ℝ) + 1) ≤ 1 + 2 * m * (1 - (m : ℝ) * m / (2 * (a * a)) / 4) ^ 4 →
      (4 / 25 : ℝ) * (2 * (R : ℝ) + 1) ≤ realS (g : ℝ) R := by
    intro lo hi m a ea h
    have h0 : (1 : ℝ) ≤ lo := Nat.one_le_cast.2 (h.1.trans h.2.1)
    have h1 : (lo : ℝ) ≤ R := Nat.cast_le.2 h.2.2.1
    have h2 : (R : ℝ) ≤ hi := Nat.cast_le.2 h.2.2.2
    have hhi : (4 / 25 : ℝ) * (2 * (R : ℝ) + 1) ≤ (4 / 25 : ℝ) * (2 * (hi : ℝ) + 1) := by linarith only [h2]
    exact fun hx hp => le_trans hhi (le_trans hp
      (realS_ge_of_width (g : ℝ) a m R (by linarith only [ea, h0]) (by linarith only [ea, h1, haR]) hx (h.2.1.trans h.2.2.1)))
  rcases (by omega : R ≤ 2 ∨ R = 3 ∨ (4 ≤ R ∧ R ≤ 5) ∨ (6 ≤ R ∧ R ≤ 7) ∨ (8 ≤ R ∧ R ≤ 9) ∨ (10 ≤ R ∧ R ≤ 11) ∨ R = 12)
    with h | h | h | h | h | h | h
  · have h2 : (R : ℝ) ≤ 2 := by exact_mod_cast h
    linarith only [h2, realS_ge_one (g : ℝ) R]
  · exact range 3 3 1 _ rfl (by omega) (by norm_num) (by norm_num)
  · exact range 4 5 1 _ rfl (by omega) (by norm_num) (by norm_num)
  · exact range 6 7 1 _ rfl (by omega) (by norm_num) (by norm_num)
  · exact range 8 9 2 _ rfl (by omega) (by norm_num) (by norm_num)
  · exact range 10 11 2 _ rfl (by omega) (by norm_num) (by norm_num)
  · exact range 12 12 2 _ rfl (by omega) (by norm_num) (by norm_num)

/-- the hypothesis `htail` of the soft-core theorems of `Props/C13.lean`, for the model's Gaussian kernel -/
theorem gauss_tail_le (g : ℚ) (hg : 0 < g) (hg3 : g ≤ 3) :
    (((cube (kernelRadius g)).filter (farOffset g)).map (w3 (realW (g : ℝ) (kernelRadius g)))).sum ≤ 1 / 1000 := by
  have hS := realS_pos (g : ℝ) (kernelRadius g)
  have hn : (2 * (kernelRadius g : ℝ) + 1) / realS (g : ℝ) (kernelRadius g) ≤ 25 / 4 := by
    rw [div_le_iff₀ hS]; linarith only [realS_lower g hg hg3]
  calc _ ≤ Real.exp (-(25 / 2)) * ((2 * (kernelRadius g : ℝ) + 1) / realS (g : ℝ) (kernelRadius g)) ^ 3 :=
        far_sum_le g hg _
    _ ≤ (4 / 25) ^ 3 / 1000 * (25 / 4) ^ 3 :=
        mul_le_mul exp_neg_twelve_half_le (pow_le_pow_left₀ (by positivity) hn 3) (by positivity) (by norm_num)
    _ = 1 / 1000 := by norm_num

/-! ### σ = 1: numeric bounds for the witness of C13-K2 -/

theorem axis_four : axis 4 = [-4, -3, -2, -1, 0, 1, 2, 3, 4] := by decide

theorem exp_neg_le_quadratic (x : ℝ) (hx : 0 ≤ x) : Real.exp (-x) ≤ 1 / (1 + x + x ^ 2 / 2) := by
  rw [Real.exp_neg, inv_eq_one_div]
  exact one_div_le_one_div_of_le (by positivity) (Real.quadratic_le_exp_of_nonneg hx)

/-- true value 2.5066… -/
theorem realS_one_four_le : realS 1 4 ≤ 2.81 := by
  unfold realS
  rw [axis_four]
  simp only [List.map_cons, List.map_nil, List.sum_cons, List.sum_nil, realRaw_eq]
  have h1 := exp_neg_le_quadratic (1 / 2) (by norm_num)
  have h2 := exp_neg_le_quadratic 2 (by norm_num)
  have h3 := exp_neg_le_quadratic (9 / 2) (by norm_num)
  have h4 := exp_neg_le_quadratic 8 (by norm_num)
  norm_num at h1 h2 h3 h4 ⊢
  linarith

theorem exp_neg_seven_ge : 1 / 1097 ≤ Real.exp (-7) := by
  have h7 : Real.exp 7 ≤ 1097 := by
    have := (exp_natCast_bounds 7).2
    norm_num at this ⊢
    linarith
  rw [Real.exp_neg, inv_eq_one_div]
  exact one_div_le_one_div_of_le (Real.exp_pos 7) h7

/-- for `σ = 1`: 28 offsets of squared length `≤ 14` carry more than `1e-3` of the kernel's weight -/
theorem weight_28_offsets_gt : (1 : ℝ) / 1000 < Real.exp (-7) / realS 1 4 ^ 3 * 28 := by
  have hS := realS_pos 1 4
  have hS3 : realS 1 4 ^ 3 ≤ 2.81 ^ 3 := pow_le_pow_left₀ (le_of_lt hS) realS_one_four_le 3
  have he := exp_neg_seven_ge
  rw [div_mul_eq_mul_div, lt_div_iff₀ (pow_pos hS 3)]
  have : (2.81 : ℝ) ^ 3 / 1000 < 1 / 1097 * 28 := by norm_num
  linarith only [hS3, he, this]

end CryoCat.C13
