import CryoCat.Model.C14
import Mathlib.Data.Rat.Floor
import Mathlib.Tactic.Ring
import Mathlib.Tactic.Linarith
import Mathlib.Tactic.FieldSimp
import Mathlib.Tactic.NormNum
/-! C14 — the window start `⌊coord − s/2⌋` of `get_start_end_indices`: as an integer division (`startOf`, positions `num/den`) and as a
floor on ℚ (`startOfQ`, the stamp start of `place_object`); how it moves under an integer offset, its value for even and odd sizes, and
that the two forms agree. -/
namespace CryoCat.C14

theorem ediv_floor (x d : Int) (hd : 0 < d) : d * (x / d) ≤ x ∧ x < d * (x / d + 1) :=
  ⟨Int.mul_ediv_self_le hd.ne', by rw [Int.mul_add, Int.mul_one]; exact Int.lt_mul_ediv_self_add hd⟩

theorem ratFloor_eq (q : ℚ) : q.floor = ⌊q⌋ := rfl

theorem startOfQ_eq (c : ℚ) (s : Nat) : startOfQ c s = ⌊c - (s : ℚ) / 2⌋ := rfl

theorem startOfQ_spec (c : ℚ) (s : Nat) :
    ((startOfQ c s : Int) : ℚ) ≤ c - (s : ℚ) / 2 ∧ c - (s : ℚ) / 2 < ((startOfQ c s : Int) : ℚ) + 1 := by
  rw [startOfQ_eq]
  exact ⟨Int.floor_le _, Int.lt_floor_add_one _⟩

theorem startOfQ_add_int (c : ℚ) (w : Int) (s : Nat) : startOfQ (c + (w : ℚ)) s = startOfQ c s + w := by
  rw [startOfQ_eq, startOfQ_eq, ← Int.floor_add_intCast]
  congr 1; ring

/-- voxel `h = ⌊s/2⌋` of the template lands on the voxel `⌊c⌋` holding `c` -/
theorem startOfQ_even (c : ℚ) (h : Nat) : startOfQ c (2 * h) = ⌊c⌋ - (h : Int) := by
  rw [startOfQ_eq, ← Int.floor_sub_natCast]
  congr 1; push_cast; ring

/-- voxel `h = ⌊s/2⌋` of the template lands on the voxel holding `c - 1/2` -/
theorem startOfQ_odd (c : ℚ) (h : Nat) : startOfQ c (2 * h + 1) = ⌊c - 1 / 2⌋ - (h : Int) := by
  rw [startOfQ_eq, ← Int.floor_sub_natCast]
  congr 1; push_cast; ring

theorem floor_sub_half (c : ℚ) : ⌊c - 1 / 2⌋ = if (⌊c⌋ : ℚ) + 1 / 2 ≤ c then ⌊c⌋ else ⌊c⌋ - 1 := by
  have h1 := Int.floor_le c
  have h2 := Int.lt_floor_add_one c
  split
  · rename_i h
    rw [Int.floor_eq_iff]
    constructor <;> linarith
  · rename_i h
    rw [Int.floor_eq_iff]
    push_cast
    constructor <;> linarith [not_le.mp h]

/-- the centre voxel of an odd template lands on the voxel of `c` exactly when `frac c ≥ 1/2`, else one voxel low -/
theorem startOfQ_odd_cases (c : ℚ) (h : Nat) :
    startOfQ c (2 * h + 1) + (h : Int) = if (⌊c⌋ : ℚ) + 1 / 2 ≤ c then ⌊c⌋ else ⌊c⌋ - 1 := by
  rw [startOfQ_odd, floor_sub_half]; split <;> ring

/-- whole-number coordinate, odd size: one voxel low -/
theorem startOfQ_odd_int (n : Int) (h : Nat) : startOfQ (n : ℚ) (2 * h + 1) + (h : Int) = n - 1 := by
  rw [startOfQ_odd_cases, Int.floor_intCast]
  have : ¬ ((n : ℚ) + 1 / 2 ≤ n) := by linarith
  rw [if_neg this]

/-- the numerator/denominator form used for the mask-driven path is the same floor -/
theorem startOf_eq_startOfQ (num : Int) (den : Nat) (hd : 0 < den) (s : Nat) :
    startOf num den s = startOfQ ((num : ℚ) / (den : ℚ)) s := by
  have hq : (0 : ℚ) < (den : ℚ) := by exact_mod_cast hd
  have e : (num : ℚ) / (den : ℚ) - (s : ℚ) / 2 = (((2 * num - (s : Int) * den : Int) : ℚ)) / (((2 * den : Nat)) : ℚ) := by
    push_cast; field_simp
  rw [startOfQ_eq, e, Rat.floor_intCast_div_natCast]
  unfold startOf; push_cast; rfl

/-- one axis of the repaired `place_object`: with the half voxel added on odd sizes the template's centre voxel `⌊s/2⌋` lands on the
voxel `⌊c⌋` that holds the 0-based position `c`, for every size -/
theorem startOfQ_centred (c : ℚ) (s : Nat) :
    startOfQ (c + ((s % 2 : Nat) : ℚ) / 2) s = ⌊c⌋ - ((s / 2 : Nat) : Int) := by
  -- `s = 2·⌊s/2⌋ + s mod 2`, so the half voxel added and `s/2` subtracted leave the whole number `⌊s/2⌋`
  have h : ((2 * (s / 2) + s % 2 : Nat) : ℚ) = s := congrArg _ (Nat.div_add_mod s 2)
  rw [startOfQ_eq, ← Int.floor_sub_natCast]
  congr 1; push_cast at h; linarith

theorem placeOffset_cast : ((Gen.C14.placeOffset : Int) : ℚ) = 1 := by
  have : Gen.C14.placeOffset = 1 := by decide
  rw [this]; norm_num

end CryoCat.C14
