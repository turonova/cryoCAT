import CryoCat.Lemmas.C18
import CryoCat.Lemmas.C06_Export
import Mathlib.Analysis.Real.Sqrt
import Mathlib.Analysis.SpecialFunctions.Trigonometric.Inverse
/-! C18 — over ℝ. (1) `Moved Q t p p'` can be met for every well-formed `p`, every PROPER rotation `Q` and every translation
(`exists_moved`), and by no reflection (`Moved.det_eq_one` of `Lemmas/C18`): `nnStats_rigid`, stated with `Q.Orth` only, is about
the rigid-motion group exactly. (2) The angle service `Num.ang (trace) (skewSq)`, instantiated as the driver instantiates it at
`Float` (`atan2(√skewSq / 2, (trace − 1)/2)` in degrees, `realNum`), gives the rotation angle `arccos((trace − 1)/2)` of the relative
orientation `R_qᵀ·R_n`, which is the quaternion form `2·arccos|q₁·q₂|` that `geom.angular_distance` evaluates (C06).

The C06 theorems come from `Lemmas/C06_Export.lean`, not from `Props/C06.lean`: the latter also holds C06's translator obligations
over the whole of `Gen/C06.lean` (functions C18 never calls) and stops building when one of those tables changes; C18 must keep
building then. `angular_distance` itself is anchored by C18 (`Gen/C18.lean`; `angular_formula_documented`, `body_geom_documented`). -/
namespace CryoCat.C18
open Real CryoCat.C06 CryoCat.C06.Export

theorem exists_moved (Q : M3 ℝ) (t : V3 ℝ) (p : Pt ℝ) (hp : p.WF) (hQ : IsRot Q) : ∃ p', Moved Q t p p' := by
  have hm : (Q * rot p).IsRot := hQ.rot.mul (rot_isRot p hp)
  obtain ⟨cp, sp, ct, st, cs, ss, u1, u2, u3, _, e⟩ :=
    hm.exists_zxz ⟨Real.sqrt (1 - (Q * rot p).a33 * (Q * rot p).a33), Real.sqrt_nonneg _, Real.mul_self_sqrt hm.sq_a33_le⟩
  refine ⟨{ tomo := p.tomo, sub := p.sub, base := Q.apply (pos p) + t - p.shift, shift := p.shift,
            phi := ⟨cp, sp⟩, theta := ⟨ct, st⟩, psi := ⟨cs, ss⟩ }, ?_⟩
  refine { tomo := rfl, sub := rfl, pos := ?_, rot := e, wf := hp, wf' := ⟨u1, u2, u3⟩ }
  simp only [pos]
  ext <;> simp only [V3.add_def, V3.sub_def, V3.add, V3.sub] <;> ring

theorem exists_moved_list (Q : M3 ℝ) (t : V3 ℝ) (hQ : IsRot Q) (l : List (Pt ℝ)) (hl : ∀ p ∈ l, p.WF) :
    ∃ l', List.Forall₂ (Moved Q t) l l' := by
  induction l with
  | nil => exact ⟨[], List.Forall₂.nil⟩
  | cons p r ih =>
    obtain ⟨p', hp'⟩ := exists_moved Q t p (hl p (List.mem_cons_self)) hQ
    obtain ⟨r', hr'⟩ := ih (fun q hq => hl q (List.mem_cons_of_mem _ hq))
    exact ⟨p' :: r', List.Forall₂.cons hp' hr'⟩

noncomputable def deg (r : ℝ) : ℝ := r * (180 / π)

/-- the numeric services over ℝ, the exact counterparts of the driver's `numF`: the real square root and
`atan2(√skewSq / 2, (trace − 1)/2)` in degrees (`atan2 y x` = argument of `x + iy`) -/
noncomputable def realNum : Num ℝ :=
  { sqrt := Real.sqrt,
    ang := fun tr sk => deg (atan2R (Real.sqrt sk / 2) ((tr - 1) / 2)) }

noncomputable def angOf (x : ℝ) : Ang ℝ := ⟨cos x, sin x⟩

/-- the particle's three Euler angles are the real numbers `φ θ ψ` (degrees already converted) -/
def Pt.HasAngles (p : Pt ℝ) (φ θ ψ : ℝ) : Prop := p.phi = angOf φ ∧ p.theta = angOf θ ∧ p.psi = angOf ψ

/-- the quaternion of `from_euler("zxz", [φ, θ, ψ])` (half-angle form, scalar last) -/
noncomputable def quatOf (φ θ ψ : ℝ) : Q4 ℝ :=
  qzxz (cos (φ/2)) (sin (φ/2)) (cos (θ/2)) (sin (θ/2)) (cos (ψ/2)) (sin (ψ/2))

theorem trace_eq (m : M3 ℝ) : trace m = C06.M3.trace m := rfl

theorem angOf_unit (x : ℝ) : (angOf x).Unit := RealAngle.cos_mul_self_add_sin_mul_self x

theorem Pt.HasAngles.wf {p : Pt ℝ} {φ θ ψ : ℝ} (h : p.HasAngles φ θ ψ) : p.WF := by
  obtain ⟨h1, h2, h3⟩ := h
  exact ⟨h1 ▸ angOf_unit φ, h2 ▸ angOf_unit θ, h3 ▸ angOf_unit ψ⟩

theorem Pt.HasAngles.quat {p : Pt ℝ} {φ θ ψ : ℝ} (h : p.HasAngles φ θ ψ) :
    qnormSq (quatOf φ θ ψ) = 1 ∧ toM3 (quatOf φ θ ψ) = rot p := by
  obtain ⟨h1, h2, h3⟩ := h
  obtain ⟨hn, hm⟩ := toM3_qzxz_real φ θ ψ
  refine ⟨hn, ?_⟩
  unfold quatOf rot
  rw [hm, h1, h2, h3]
  rfl

/-- both sides are `4·sin²` of the rotation angle -/
theorem skewSq_toM3 (r : Q4 ℝ) (h : qnormSq r = 1) :
    skewSq (toM3 r) = 4 - (trace (toM3 r) - 1) * (trace (toM3 r) - 1) := by
  simp only [qnormSq, qdot] at h
  simp only [skewSq, trace, toM3]
  linear_combination (9 * (r.w * r.w) + (r.x * r.x + r.y * r.y + r.z * r.z) + 3) * h

theorem skewSq_rel (p q : Q4 ℝ) (hp : qnormSq p = 1) (hq : qnormSq q = 1) :
    skewSq ((toM3 p).transpose * toM3 q)
      = 4 - (trace ((toM3 p).transpose * toM3 q) - 1) * (trace ((toM3 p).transpose * toM3 q) - 1) := by
  rw [← toM3_conj, ← toM3_mul']
  apply skewSq_toM3
  rw [qnormSq_mul, qnormSq_conj, hp, hq, one_mul]

theorem cos_rel_mem (p q : Q4 ℝ) (hp : qnormSq p = 1) (hq : qnormSq q = 1) :
    -1 ≤ (trace ((toM3 p).transpose * toM3 q) - 1) / 2 ∧ (trace ((toM3 p).transpose * toM3 q) - 1) / 2 ≤ 1 := by
  -- the cosine is `2·(p·q)² − 1` with `0 ≤ (p·q)² ≤ 1`
  rw [trace_eq, trace_rel p q hp hq]
  exact ⟨by linear_combination 2 * mul_self_nonneg (qdot p q), by linear_combination 2 * qdot_sq_le_one p q hp hq⟩

/-- the left side is what the driver evaluates, `t` being the trace -/
theorem atan2_form (t : ℝ) (h0 : -1 ≤ (t - 1) / 2) (h1 : (t - 1) / 2 ≤ 1) :
    atan2R (Real.sqrt (4 - (t - 1) * (t - 1)) / 2) ((t - 1) / 2) = arccos ((t - 1) / 2) := by
  have hs : Real.sqrt (4 - (t - 1) * (t - 1)) / 2 = sin (arccos ((t - 1) / 2)) := by
    rw [sin_arccos, show 4 - (t - 1) * (t - 1) = 2 ^ 2 * (1 - ((t - 1) / 2) ^ 2) by ring,
      Real.sqrt_mul (by positivity), Real.sqrt_sq (by norm_num)]
    ring
  have key : atan2R _ _ = _ := RealAngle.arg_cos_sin (θ := arccos ((t - 1) / 2)) ⟨by linarith [arccos_nonneg ((t - 1) / 2), pi_pos], arccos_le_pi _⟩
  rwa [cos_arccos h0 h1, ← hs] at key

theorem realNum_ang_rel (p q : Q4 ℝ) (hp : qnormSq p = 1) (hq : qnormSq q = 1) :
    realNum.ang (trace ((toM3 p).transpose * toM3 q)) (skewSq ((toM3 p).transpose * toM3 q))
      = deg (arccos ((trace ((toM3 p).transpose * toM3 q) - 1) / 2)) := by
  obtain ⟨h0, h1⟩ := cos_rel_mem p q hp hq
  simp only [realNum]
  rw [skewSq_rel p q hp hq, atan2_form _ h0 h1]

/-- the right side is the quaternion form `degrees(2·arccos(min(|p·q|, 1)))` of `geom.angular_distance` -/
theorem realNum_ang_quat (at2 : ℝ → ℝ → ℝ) (p q : Q4 ℝ) (hp : qnormSq p = 1) (hq : qnormSq q = 1) :
    realNum.ang (trace ((toM3 p).transpose * toM3 q)) (skewSq ((toM3 p).transpose * toM3 q))
      = angDist (realLibm at2) p q := by
  rw [realNum_ang_rel p q hp hq, trace_eq, ← angDist_is_rotation_angle at2 p q hp hq]
  rfl

theorem row_ang_real (at2 : ℝ → ℝ → ℝ) {r : Row ℝ} {q n : Pt ℝ} (hrel : r.rel = (rot q).transpose * rot n)
    (hang : r.ang = realNum.ang (trace r.rel) (skewSq r.rel)) {p p' : Q4 ℝ} (hp : qnormSq p = 1) (hp' : qnormSq p' = 1)
    (ep : toM3 p = rot q) (ep' : toM3 p' = rot n) :
    r.ang = deg (arccos ((trace ((rot q).transpose * rot n) - 1) / 2)) ∧ r.ang = angDist (realLibm at2) p p' := by
  rw [hang, hrel, ← ep, ← ep']
  exact ⟨realNum_ang_rel p p' hp hp', realNum_ang_quat at2 p p' hp hp'⟩

end CryoCat.C18
