import CryoCat.Lemmas.C19_Splice
/-! C19 — `add_chain_prefix` preserves `ChainsWellNumbered` and the link invariant, both when it
only attaches the new chain in front of an existing one (`class_max = None`) and in a two-sided
merge (`class_max = (cl_max, fresh id)`), with and without cutting the head of the target chain:
the new chain (object `gc`) is spliced with the target chain from the target row on; the cut-off
head takes the id `gc` resp. the fresh id. -/
namespace CryoCat.C19
set_option linter.unusedSectionVars false
variable {α : Type} [LE α] [LT α] [DecidableLE α] [DecidableLT α] [DecidableEq α]

/-- the accepting branches of the documented `add_chain_prefix`, as one: without a head cut (`t` is the
first of its chain) the selection `order < t.ord` is empty, so the cut's statements change nothing and
`cut_off_size = 0`; nor does the re-labelling of the temporary id `-1` when no row carries it -/
theorem addPrefix_doc (A C : List (Row α)) (m : Nat) (dm : α) (cm : Option (Int × Int))
    (hA : ∀ r ∈ A, 1 ≤ r.ord ∧ 1 ≤ r.obj) (hC : 1 ≤ headObj C) :
    ((addPrefix Opts.documented A C m dm cm).1 = A ∧ (addPrefix Opts.documented A C m dm cm).2.1 = C) ∨
    ∃ t, rowOf A m = some t ∧
      ((addPrefix Opts.documented A C m dm cm).1, (addPrefix Opts.documented A C m dm cm).2.1) =
        match cm with
        | none =>
          (addOrd (fun r => r.obj == t.obj)
             (maxOrd 0 (fun _ => true) C - ((A.filter (fun r => r.obj == t.obj && decide (r.ord < t.ord))).length : Int))
             (updObj (fun r => r.obj == t.obj && decide (r.ord < t.ord)) (headObj C) A),
           setLastDist dm (setObjChain t.obj C))
        | some (top, fresh) =>
          (updObj (fun r => r.obj == -1) fresh (updObj (fun r => r.obj == t.obj) (headObj C)
            (addOrd (fun r => r.obj == t.obj)
              (top - ((A.filter (fun r => r.obj == t.obj && decide (r.ord < t.ord))).length : Int))
              (updObj (fun r => r.obj == t.obj && decide (r.ord < t.ord)) (-1) A))),
           setLastDist dm C) := by
  cases h : rowOf A m with
  | none => left; unfold addPrefix; simp only [h, and_self]
  | some t =>
    unfold addPrefix
    simp only [h, Opts.documented, Cmp.eval]
    by_cases h1 : t.ord = 1
    · have hsel : ∀ r ∈ A, (r.obj == t.obj && decide (r.ord < t.ord)) = false := fun r hr => by
        have := (hA r hr).1; simp only [Bool.and_eq_false_imp, decide_eq_false_iff_not]; omega
      have e1 : ∀ v, updObj (fun r => r.obj == t.obj && decide (r.ord < t.ord)) v A = A := fun v =>
        map_unselected _ _ A hsel
      have e2 : A.filter (fun r => r.obj == t.obj && decide (r.ord < t.ord)) = [] :=
        List.filter_eq_nil_iff.2 (fun r hr => by simp only [hsel r hr, Bool.false_eq_true, not_false_eq_true])
      refine Or.inr ⟨t, rfl, ?_⟩
      rw [e2]
      simp only [e1]
      cases cm with
      | none => simp [h1]
      | some tf =>
        simp only [h1, decide_true, Bool.not_true, Bool.false_eq_true, if_false]
        refine congrArg (·, _) (Eq.symm (map_unselected (fun r : Row α => r.obj == -1) _ _ ?_))
        intro r hr
        simp only [updObj, addOrd, List.mem_map] at hr
        obtain ⟨_, ⟨r0, hr0, rfl⟩, rfl⟩ := hr
        have := (hA r0 hr0).2
        split <;> simp only [beq_eq_false_iff_ne] <;> omega
    · simp only [h1, decide_false, Bool.not_false, if_true]
      split
      · left; exact ⟨rfl, rfl⟩
      · split
        · left; exact ⟨rfl, rfl⟩
        · refine Or.inr ⟨t, rfl, ?_⟩
          cases cm <;> rfl

theorem count_head {A C : List (Row α)} {K : Int → Int} {cc : Int} (hT : WN (A ++ C) K cc) (hnd : (ids (A ++ C)).Nodup)
    (t : Row α) (ht : t ∈ A) (hC : ∀ r ∈ C, r.obj ≠ t.obj) :
    ((A.filter (fun r => r.obj == t.obj && decide (r.ord < t.ord))).length : Int) = t.ord - 1 := by
  have htT : t ∈ A ++ C := List.mem_append_left _ ht
  have hK := hT.ordA t htT
  have hp := (hT.ords_below hnd t htT t.ord (by omega)).length_eq
  have e1 : C.filter (fun r => r.obj == t.obj && decide (r.ord < t.ord)) = [] :=
    List.filter_eq_nil_iff.2 (fun r hr => by simp [hC r hr])
  rw [List.length_map, oneToK_length, List.filter_append, e1, List.append_nil] at hp
  omega

theorem preN_cut_table {A : List (Row α)} {gc top : Int} {t : Row α} (dm : α) (hfresh : ∀ r ∈ A, r.obj ≠ gc)
    (ht : t.obj ≠ gc) :
    addOrd (fun r => r.obj == t.obj) (top - (t.ord - 1))
      (updObj (fun r => r.obj == t.obj && decide (r.ord < t.ord)) gc A) =
      A.map (splice gc t.obj top t.ord t.obj gc dm) := by
  simp only [addOrd, updObj, List.map_map]
  apply List.map_congr_left
  intro r hr
  have := hfresh r hr
  obtain ⟨ri, ro, rk, rd⟩ := r
  simp only [Function.comp, splice]
  grind

/-- in a two-sided merge the table holds rows of `gc` (the chain the new one was appended to), all
below its top; `-1` is the code's temporary id for the head, never a real one -/
theorem preS_cut_table {A : List (Row α)} {gc top fresh : Int} {t : Row α} (dm : α)
    (htop : ∀ r ∈ A, r.obj = gc → r.ord < top) (ht : t.obj ≠ gc) (hro : ∀ r ∈ A, 1 ≤ r.obj) (hto : 1 ≤ t.obj)
    (hgc : 1 ≤ gc) :
    updObj (fun r => r.obj == -1) fresh (updObj (fun r => r.obj == t.obj) gc
      (addOrd (fun r => r.obj == t.obj) (top - (t.ord - 1))
        (updObj (fun r => r.obj == t.obj && decide (r.ord < t.ord)) (-1) A))) =
      A.map (splice gc t.obj top t.ord gc fresh dm) := by
  simp only [addOrd, updObj, List.map_map]
  apply List.map_congr_left
  intro r hr
  have := htop r hr
  have := hro r hr
  obtain ⟨ri, ro, rk, rd⟩ := r
  simp only [Function.comp, splice]
  grind

variable {c : Cfg α} {A : List (Row α)} {K : Int → Int} {cc gc k : Int} {ms : List (Nat × α)}

theorem Mid.setLastDist_splice (hM : Mid Opts.documented c A gc k ms K cc) (g a n2 : Int) (dm : α) :
    setLastDist dm (mkChainFrom gc k ms) = (mkChainFrom gc k ms).map (splice gc g (K gc) a gc n2 dm) ∧
    setLastDist dm (setObjChain g (mkChainFrom gc k ms)) = (mkChainFrom gc k ms).map (splice gc g (K gc) a g n2 dm) := by
  have row : ∀ n1, (n1 = gc ∨ n1 = g) → ∀ r ∈ mkChainFrom gc k ms,
      (if r.ord = K gc then { r with obj := n1, dist := dm } else { r with obj := n1 }) =
        splice gc g (K gc) a n1 n2 dm r := by
    intro n1 hn r hr
    have := mkChainFrom_mem gc ms k r hr
    have := hM.top
    obtain ⟨ri, ro, rk, rd⟩ := r
    simp only [splice]
    grind
  constructor
  · rw [setLastDist_mkChainFrom, ← hM.top]
    exact List.map_congr_left fun r hr => by rw [← row gc (.inl rfl) r hr, ← (mkChainFrom_mem gc ms k r hr).1]
  · rw [setObjChain_mkChainFrom, setLastDist_mkChainFrom, ← hM.top, ← setObjChain_mkChainFrom g gc, setObjChain, List.map_map]
    exact List.map_congr_left fun r hr => row g (.inr rfl) r hr

theorem addPrefix_none (hM : Mid Opts.documented c A gc k ms K cc) (hfresh : ∀ r ∈ A, r.obj ≠ gc) (i m : Nat) (dm : α)
    (hdm : dm = c.d (lastOf ms i) m ∧ inWin Opts.documented c (c.d (lastOf ms i) m) = true) :
    Traced Opts.documented c ((addPrefix Opts.documented A (mkChainFrom gc k ms) m dm none).1 ++
      (addPrefix Opts.documented A (mkChainFrom gc k ms) m dm none).2.1) cc := by
  rcases addPrefix_doc A _ m dm none hM.table_pos hM.head_pos with ⟨e1, e2⟩ | ⟨t, h, e⟩
  · rw [e1, e2]; exact ⟨K, hM.wn, hM.dl⟩
  · obtain ⟨e1, e2⟩ := Prod.mk.inj e
    obtain ⟨htm, rfl⟩ := rowOf_some h
    have htg : t.obj ≠ gc := hfresh t htm
    -- the new chain in front of the target chain from the target row on; the head keeps the id `gc`
    rw [e1, e2, hM.maxOrd, hM.head,
      count_head hM.wn hM.nd t htm (fun r hr => by rw [(mkChainFrom_mem _ _ _ r hr).1]; exact htg.symm),
      preN_cut_table dm hfresh htg, (hM.setLastDist_splice t.obj t.ord gc dm).2, ← List.map_append]
    exact hM.splice_traced i t htm htg t.obj gc cc dm (Or.inr rfl) ⟨htg.symm, Or.inl rfl⟩ (Int.le_refl _) hdm

theorem addPrefix_some (hM : Mid Opts.documented c A gc k ms K cc) (i m : Nat) (dm : α) (fresh : Int) (hfr : cc ≤ fresh)
    (hneq : ∀ t, rowOf A m = some t → t.obj ≠ gc)
    (hdm : dm = c.d (lastOf ms i) m ∧ inWin Opts.documented c (c.d (lastOf ms i) m) = true) :
    Traced Opts.documented c ((addPrefix Opts.documented A (mkChainFrom gc k ms) m dm (some (K gc, fresh))).1 ++
      (addPrefix Opts.documented A (mkChainFrom gc k ms) m dm (some (K gc, fresh))).2.1) (fresh + 1) := by
  have hfr1 : cc ≤ fresh + 1 := Int.le_add_one hfr
  rcases addPrefix_doc A _ m dm (some (K gc, fresh)) hM.table_pos hM.head_pos with ⟨e1, e2⟩ | ⟨t, h, e⟩
  · rw [e1, e2]; exact ⟨K, hM.wn.mono _ hfr1, hM.dl⟩
  · obtain ⟨e1, e2⟩ := Prod.mk.inj e
    obtain ⟨htm, rfl⟩ := rowOf_some h
    have htg : t.obj ≠ gc := hneq t h
    have hgc := hM.gc_rng
    -- the new chain's object continues with the target chain from the target row on; the head
    -- takes the fresh id
    rw [e1, e2, hM.head,
      count_head hM.wn hM.nd t htm (fun r hr => by rw [(mkChainFrom_mem _ _ _ r hr).1]; exact htg.symm),
      preS_cut_table dm hM.below_top htg (fun r hr => (hM.wn.rng r (List.mem_append_left _ hr)).1)
        (hM.wn.rng t (List.mem_append_left _ htm)).1 hgc.1,
      (hM.setLastDist_splice t.obj t.ord fresh dm).1, ← List.map_append]
    exact hM.splice_traced i t htm htg gc fresh (fresh + 1) dm (Or.inl rfl)
      ⟨by omega, Or.inr (Or.inr ⟨hfr, Int.lt_succ _⟩)⟩ hfr1 hdm

end CryoCat.C19
