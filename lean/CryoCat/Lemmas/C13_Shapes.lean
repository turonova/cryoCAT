import CryoCat.Model.C13
import CryoCat.Lemmas.Euclid3
import Mathlib.Tactic.Ring
import Mathlib.Tactic.Linarith
import Mathlib.Tactic.Positivity
import Mathlib.Algebra.Order.Field.Rat
import Mathlib.Data.Rat.Floor
import Mathlib.Analysis.Real.Sqrt
/-! C13 — helper lemmas about the solids (exact rational arithmetic), and the geometric fact behind "blurred
outwards": a ball of radius `r + s` contains every point within `s` of the ball of radius `r`. -/
namespace CryoCat.C13

theorem blurFactor_eq (h1 : Gen.C13.blurFactorNum = 5) (h2 : Gen.C13.blurFactorDen = 1) : blurFactor = 5 := by
  unfold blurFactor; rw [h1, h2]; rfl

theorem sqrtGt_eq_false (d2 : Int) (r : Rat) : sqrtGt d2 r = false ↔ 0 ≤ r ∧ (d2 : Rat) ≤ r * r := by
  simp [sqrtGt, not_lt]

/-- the test the code makes on `np.sqrt(d2)` is the test decided by `sqrtGt` -/
theorem sqrtGt_iff_real (d2 : Int) (r : Rat) : sqrtGt d2 r = true ↔ (r : ℝ) < Real.sqrt (d2 : ℝ) := by
  rw [← not_iff_not, Bool.not_eq_true, sqrtGt_eq_false, not_lt, Real.sqrt_le_iff, pow_two,
    ← Rat.cast_intCast (α := ℝ) d2, ← Rat.cast_mul, Rat.cast_le, Rat.cast_nonneg]

theorem d2_nonneg3 (a b c : Int) : (0 : Rat) ≤ ((sq a + sq b + sq c : Int) : Rat) :=
  Int.cast_nonneg (sq3_nonneg a b c)

theorem d2_nonneg2 (a b : Int) : (0 : Rat) ≤ ((sq a + sq b : Int) : Rat) :=
  Int.cast_nonneg (add_nonneg (mul_self_nonneg a) (mul_self_nonneg b))

theorem sphereIn_eq_true (cx cy cz : Int) (r : Rat) (i j k : Int) :
    sphereIn cx cy cz r i j k = true ↔
      (i = cx ∧ j = cy ∧ k = cz) ∨ (0 ≤ r ∧ ((sq (i - cx) + sq (j - cy) + sq (k - cz) : Int) : Rat) ≤ r * r) := by
  unfold sphereIn
  rw [Bool.or_eq_true, Bool.not_eq_true', sqrtGt_eq_false]
  simp only [Bool.and_eq_true, beq_iff_eq, and_assoc]

theorem sphereIn_iff (cx cy cz : Int) (r : Rat) (hr : 0 ≤ r) (i j k : Int) :
    sphereIn cx cy cz r i j k = true ↔ ((sq (i - cx) + sq (j - cy) + sq (k - cz) : Int) : Rat) ≤ r * r := by
  rw [sphereIn_eq_true]
  refine ⟨?_, fun h => Or.inr ⟨hr, h⟩⟩
  rintro (⟨rfl, rfl, rfl⟩ | h)
  · simpa [sq] using mul_self_nonneg r
  · exact h.2

/-- no sign condition on the radii: the centre voxel is always set -/
theorem sphereIn_mono (cx cy cz : Int) (r r' : Rat) (h : r ≤ r') (i j k : Int)
    (hin : sphereIn cx cy cz r i j k = true) : sphereIn cx cy cz r' i j k = true := by
  rw [sphereIn_eq_true] at hin ⊢
  exact hin.imp_right fun ⟨h0, h2⟩ => ⟨h0.trans h, h2.trans (mul_self_le_mul_self h0 h)⟩

theorem sphereIn_dilate (cx cy cz : Int) (r s : Rat) (hr : 0 ≤ r) (hs : 0 ≤ s) (i j k u v t : Int)
    (hin : sphereIn cx cy cz r i j k = true) (hoff : ((u * u + v * v + t * t : Int) : Rat) ≤ s * s) :
    sphereIn cx cy cz (r + s) (i + u) (j + v) (k + t) = true := by
  rw [sphereIn_iff _ _ _ _ hr] at hin
  rw [sphereIn_iff _ _ _ _ (add_nonneg hr hs)]
  simp only [sq] at hin ⊢
  push_cast at hin hoff ⊢
  rw [add_sub_right_comm (i : Rat), add_sub_right_comm (j : Rat), add_sub_right_comm (k : Rat)]
  -- `|p| ≤ r`, `|o| ≤ s` ⇒ `|p + o| ≤ r + s`, without square roots
  exact V3.normSq_add_le ⟨_, _, _⟩ ⟨_, _, _⟩ (r * r) (s * s) _ hin hoff (by linarith only [mul_nonneg hr hs]) (le_of_eq (by ring))

/-- the disc of `cylindrical_mask` is the section `k = cz` of the sphere, so the facts about spheres carry over -/
theorem discIn_eq_sphereIn (cx cy : Int) (r : Rat) (i j : Int) : discIn cx cy r i j = sphereIn cx cy 0 r i j 0 := by
  simp [discIn, sphereIn, sq]

theorem discIn_iff (cx cy : Int) (r : Rat) (hr : 0 ≤ r) (i j : Int) :
    discIn cx cy r i j = true ↔ ((sq (i - cx) + sq (j - cy) : Int) : Rat) ≤ r * r := by
  rw [discIn_eq_sphereIn, sphereIn_iff _ _ _ _ hr]
  simp [sq]

theorem discIn_mono (cx cy : Int) (r r' : Rat) (h : r ≤ r') (i j : Int) (hin : discIn cx cy r i j = true) :
    discIn cx cy r' i j = true := by
  rw [discIn_eq_sphereIn] at hin ⊢
  exact sphereIn_mono cx cy 0 r r' h i j 0 hin

theorem discIn_dilate (cx cy : Int) (r s : Rat) (hr : 0 ≤ r) (hs : 0 ≤ s) (i j u v : Int)
    (hin : discIn cx cy r i j = true) (hoff : ((u * u + v * v : Int) : Rat) ≤ s * s) :
    discIn cx cy (r + s) (i + u) (j + v) = true := by
  rw [discIn_eq_sphereIn] at hin ⊢
  exact sphereIn_dilate cx cy 0 r s hr hs i j 0 u v 0 hin (by simpa using hoff)

theorem slab_iff (nz : Nat) (cz h k : Int) (hk0 : 0 ≤ k) (hk1 : k < (nz : Int)) :
    (max (cz - h) 0 ≤ k ∧ k < min (cz + h + 1) (nz : Int)) ↔ |k - cz| ≤ h := by
  rw [abs_le]
  constructor
  · rintro ⟨h1, h2⟩
    have := le_trans (le_max_left _ _) h1
    have := lt_of_lt_of_le h2 (min_le_left _ _)
    constructor <;> omega
  · rintro ⟨h1, h2⟩
    refine ⟨max_le (by omega) hk0, lt_min (by omega) hk1⟩

theorem cylIn_iff (nz : Nat) (cx cy cz : Int) (r : Rat) (hr : 0 ≤ r) (h i j k : Int) (hk0 : 0 ≤ k) (hk1 : k < (nz : Int)) :
    cylIn nz cx cy cz r h i j k = true ↔ ((sq (i - cx) + sq (j - cy) : Int) : Rat) ≤ r * r ∧ |k - cz| ≤ h := by
  unfold cylIn
  rw [Bool.and_eq_true, Bool.and_eq_true, decide_eq_true_iff, decide_eq_true_iff, discIn_iff _ _ _ hr, and_assoc,
    slab_iff nz cz h k hk0 hk1]

theorem trunc_intCast (z : Int) : trunc (z : Rat) = z := by
  unfold trunc; split <;> simp [Rat.floor_intCast, Rat.ceil_intCast]

theorem trunc_natCast (n : Nat) : trunc (n : Rat) = (n : Int) := by
  simpa using trunc_intCast (n : Int)

theorem floor_half (x : ℚ) : ⌊x / 2⌋ = ⌊x⌋ / 2 := by
  simpa using Int.floor_div_natCast x 2

theorem preprocess_of_hard (r g : Rat) (ow : Bool) (h : g = 0 ∨ ow = false) : preprocess r g ow = r := by
  unfold preprocess
  rcases h with rfl | rfl <;> simp

/-- a radius that is given is drawn as given, for a hard edge or a centred blur -/
theorem preprocess_getD_hard (o : Option Rat) (d g : Rat) (ow : Bool) {r : Rat} (hr : o = some r) (h : g = 0 ∨ ow = false) :
    preprocess (o.getD d) g ow = r := by
  rw [hr, Option.getD_some, preprocess_of_hard _ _ _ h]

theorem preprocess_hard (r : Rat) (ow : Bool) : preprocess r 0 ow = r := preprocess_of_hard r 0 ow (Or.inl rfl)

theorem preprocess_centred (r g : Rat) : preprocess r g false = r := preprocess_of_hard r g false (Or.inr rfl)

theorem preprocess_outwards (r g : Rat) (hg : g ≠ 0) :
    preprocess r g true = (((r + g * blurFactor).ceil : Int) : Rat) := by simp [preprocess, hg]

theorem ellCoord_even (n : Nat) (hn : n % 2 = 0) (c i : Int) : ellCoord n c i = (c : Rat) - (i : Rat) := by
  unfold ellCoord
  obtain ⟨m, rfl⟩ : ∃ m, n = 2 * m := ⟨n / 2, by omega⟩
  have h1 : ((2 * m : Nat) : Int) / 2 = (m : Int) := by omega
  rw [h1]
  push_cast
  ring

theorem b2i_eq_ite (b : Bool) (p : Prop) [Decidable p] (h : b = true ↔ p) : b2i b = if p then 1 else 0 := by
  cases b
  · rw [if_neg fun hp => Bool.false_ne_true (h.2 hp)]; rfl
  · rw [if_pos (h.1 rfl)]; rfl

theorem sq_eq_pow (x : Int) : sq x = x ^ 2 := by unfold sq; ring

def dist2 (c : Int × Int × Int) (i j k : Int) : Int := (i - c.1) ^ 2 + (j - c.2.1) ^ 2 + (k - c.2.2) ^ 2
def dist2xy (c : Int × Int × Int) (i j : Int) : Int := (i - c.1) ^ 2 + (j - c.2.1) ^ 2

theorem sq_sum_eq_dist2 (c : Int × Int × Int) (i j k : Int) : sq (i - c.1) + sq (j - c.2.1) + sq (k - c.2.2) = dist2 c i j k := by
  simp only [dist2, sq_eq_pow]
theorem sq_sum_eq_dist2xy (c : Int × Int × Int) (i j : Int) : sq (i - c.1) + sq (j - c.2.1) = dist2xy c i j := by
  simp only [dist2xy, sq_eq_pow]

/-! numpy index wrapping: inside the box nothing wraps -/
theorem wrapIdx_of_nonneg (n : Nat) (c : Int) (h : 0 ≤ c) : wrapIdx n c = c := by
  unfold wrapIdx; rw [if_neg (not_lt.2 h)]

theorem wrapIdx_of_neg (n : Nat) (c : Int) (h : c < 0) : wrapIdx n c = c + n := by
  unfold wrapIdx; rw [if_pos h]

theorem idxOk_iff (n : Nat) (c : Int) : idxOk n c = true ↔ -(n : Int) ≤ c ∧ c < (n : Int) := by
  simp [idxOk]

theorem idxOk_of_inBox (n : Nat) (c : Int) (h0 : 0 ≤ c) (h1 : c < (n : Int)) : idxOk n c = true := by
  rw [idxOk_iff]; omega

theorem wrapIdx_inBox (n : Nat) (c : Int) (h : idxOk n c = true) : 0 ≤ wrapIdx n c ∧ wrapIdx n c < (n : Int) := by
  rw [idxOk_iff] at h
  unfold wrapIdx; split <;> omega

theorem sphereVox_inBox (nx ny nz : Nat) (cx cy cz : Int) (r : Rat) (hx : 0 ≤ cx) (hy : 0 ≤ cy) (hz : 0 ≤ cz) (i j k : Int) :
    sphereVox nx ny nz cx cy cz r i j k = sphereIn cx cy cz r i j k := by
  unfold sphereVox sphereIn
  rw [wrapIdx_of_nonneg _ _ hx, wrapIdx_of_nonneg _ _ hy, wrapIdx_of_nonneg _ _ hz, Bool.or_self_left]

theorem cylVox_inBox (nx ny nz : Nat) (cx cy cz : Int) (r : Rat) (h : Int) (hx : 0 ≤ cx) (hy : 0 ≤ cy) (i j k : Int) :
    cylVox nx ny nz cx cy cz r h i j k = cylIn nz cx cy cz r h i j k := by
  unfold cylVox cylIn discIn
  rw [wrapIdx_of_nonneg _ _ hx, wrapIdx_of_nonneg _ _ hy, Bool.or_self_left]

end CryoCat.C13
