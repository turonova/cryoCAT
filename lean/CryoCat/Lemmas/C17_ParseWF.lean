import CryoCat.Lemmas.C17_Mdoc
/-! C17 — closing the mdoc loop: a text the reader accepts yields a well-formed object (`wfb`) exactly when it belongs to the
class `textOk`, so that `read ∘ write ∘ read = read` holds unconditionally on that class. Every step of the reader is followed
once, as an equivalence between what is asked of the lines and what is asked of the values read from them; `text_class_exact`
(Props) puts the steps together. -/
namespace CryoCat.C17

theorem splitEq_no_eq : ∀ (l : Str), ∀ p ∈ splitEq l, '=' ∉ p
  | [] => by simp [splitEq]
  | c :: cs => by
    have ih := splitEq_no_eq cs
    unfold splitEq
    split
    · simpa using ih
    · rename_i hc
      have hne : '=' ≠ c := fun e => hc (by simp [← e])
      split
      · simpa using hne
      · rename_i q qs hs
        rw [hs] at ih
        rw [List.forall_mem_cons] at ih ⊢
        exact ⟨fun h => (List.mem_cons.1 h).elim hne ih.1, ih.2⟩

def kvGood (data : Bool) (kv : Str × Val) : Prop :=
  goodKey kv.1 = true ∧
  (if (data && kv.1 == Gen.C17.tiltKey) = true then ∀ t, toTilt kv.2 = some t → stableTilt t = true else stableVal kv.2 = true)

theorem kvOk_iff (data : Bool) (l : Str) (kv : Str × Val) (h : parseKV l = some kv) : kvOk data l = true ↔ kvGood data kv := by
  unfold parseKV at h
  unfold kvOk
  split at h
  · rename_i k v hs
    cases h
    have hk : (strip k).contains '=' = false := by
      simpa using fun hm => splitEq_no_eq l k (by rw [hs]; simp) (mem_of_mem_strip k '=' hm)
    have hv : '=' ∉ v := splitEq_no_eq l v (by rw [hs]; simp)
    -- the key is stripped and free of '=' already: `goodKey` asks no more than the line test does
    have hkey : goodKey (strip k) = (!(strip k).isEmpty && !(['['].isPrefixOf (strip k))) := by
      simp only [goodKey, strip_strip, beq_self_eq_true, hk, Bool.not_false, Bool.and_true]
    rw [hs]
    simp only [kvGood, ← hkey]
    rw [Bool.and_eq_true (goodKey (strip k))]
    refine and_congr Iff.rfl ?_
    by_cases hc : (data && strip k == Gen.C17.tiltKey) = true
    · simp only [hc, if_true]
      cases ht : toTilt (classify v) with
      | none => simp
      | some t => simp only [Option.some.injEq, forall_eq', stableTilt_toTilt v t ht]
    · simp only [hc, Bool.false_eq_true, if_false, stableVal_classify v hv]
  · cases h

theorem parseHeader_wf : ∀ (ls : List Str) (ts : List Str) (info : List (Str × Val)), parseHeader ls = some (ts, info) →
    (info.map (·.1)).Nodup ∧
    ((∀ l ∈ ls, headerLineOk l = true) ↔
      (∀ t ∈ ts, goodTitle t = true) ∧ ∀ kv ∈ info, goodKey kv.1 = true ∧ stableVal kv.2 = true)
  | [], ts, info, h => by
    cases h; simp
  | l :: ls, ts, info, h => by
    obtain ⟨ts0, info0, h0, hstep⟩ := parseHeader_cons l ls _ h
    obtain ⟨ihn, ih⟩ := parseHeader_wf ls ts0 info0 h0
    by_cases hb : ['['].isPrefixOf l = true
    · rw [if_pos hb] at hstep
      cases hstep
      have hl : headerLineOk l = goodTitle (parseTitle l) := by simp only [headerLineOk, hb, if_true]
      refine ⟨ihn, ?_⟩
      simp only [List.forall_mem_cons, ih, hl, and_assoc]
    · rw [if_neg hb] at hstep
      obtain ⟨kv, hkv, hany, e⟩ := hstep
      cases e
      have hl : headerLineOk l = true ↔ goodKey kv.1 = true ∧ stableVal kv.2 = true := by
        simpa only [headerLineOk, hb, if_false, kvGood, Bool.false_and, Bool.false_eq_true] using kvOk_iff false l kv hkv
      refine ⟨List.nodup_cons.2 ⟨(any_key_eq_false info0 kv.1).1 hany, ihn⟩, ?_⟩
      simp only [List.forall_mem_cons, ih, hl, and_left_comm]

theorem kvGood_convTilt (kv : Str × Val) (v : Val) (h : convTilt kv = some v) :
    kvGood true kv ↔ goodKey kv.1 = true ∧ stableCell kv.1 v = true := by
  unfold convTilt at h
  unfold kvGood stableCell
  refine and_congr Iff.rfl ?_
  by_cases hk : (kv.1 == Gen.C17.tiltKey) = true
  · simp only [hk, if_true, Bool.true_and] at h ⊢
    simp only [h, Option.some.injEq, forall_eq']
  · simp only [hk, Bool.false_eq_true, if_false, Bool.and_false, Option.some.injEq] at h ⊢
    rw [h]

theorem cells_wf : ∀ (kvs : List (Str × Val)) (cells : List Val), kvs.mapM convTilt = some cells →
    cells.length = kvs.length ∧
    ((∀ kv ∈ kvs, kvGood true kv) ↔
      (∀ kv ∈ kvs, goodKey kv.1 = true) ∧ ((kvs.map (·.1)).zip cells).all (fun p => stableCell p.1 p.2) = true)
  | [], cells, h => by
    simp at h; subst h; simp
  | kv :: kvs, cells, h => by
    obtain ⟨v, vs, hc, hm, rfl⟩ := (Lists.mapM_cons_some _ kv kvs cells).1 h
    obtain ⟨ihl, ih⟩ := cells_wf kvs vs hm
    refine ⟨by simp [ihl], ?_⟩
    simp only [List.forall_mem_cons, ih, kvGood_convTilt kv v hc, List.map_cons, List.zip_cons_cons, List.all_cons,
      Bool.and_eq_true, and_assoc, and_left_comm]

theorem mkRow_wf (cols : List Str) (sec : List Str) (r : Row) (h : mkRow cols sec = some r)
    (hnb : ∀ l ∈ sec.drop 1, isBlank l = false) :
    cols.Nodup ∧ ((∀ l ∈ sec.drop 1, dataLineOk l = true) ↔ goodRow cols r = true ∧ ∀ k ∈ cols, goodKey k = true) := by
  obtain ⟨hd, body, z, kvs, cells, rfl, _, hb, hz, rfl, hm, rfl⟩ := mkRow_some cols sec r h
  simp only [List.drop_succ_cons, List.drop_zero] at hnb ⊢
  obtain ⟨hbr, hlines, hnd⟩ := (parseBody_some body kvs).1 hb
  have hkv := Lists.mapM_forall_iff parseKV (kvOk true · = true) (kvGood true) body kvs hlines (fun l _ kv h => kvOk_iff true l kv h)
  obtain ⟨hlen, hcells⟩ := cells_wf kvs cells hm
  have hline : (∀ l ∈ body, dataLineOk l = true) ↔ ∀ l ∈ body, kvOk true l = true :=
    forall_congr' fun l => forall_congr' fun hl => by simp [dataLineOk, hnb l hl, hbr l hl]
  refine ⟨hnd, ?_⟩
  rw [hline, hkv, hcells]
  simp only [goodRow, canonI_normI z ((allDigits_iff z).1 hz).2, hlen, List.length_map, beq_self_eq_true, Bool.true_and,
    List.forall_mem_map, and_comm]

theorem flatten_secGo (p : Str) : ∀ (ls cur : List Str), (secGo p cur ls).flatten = cur ++ ls.filter (fun l => !isBlank l)
  | [], cur => by simp [secGo]
  | x :: ls, cur => by
    unfold secGo
    split
    · rw [List.flatten_cons, flatten_secGo p ls]
      cases hb : isBlank x <;> simp [hb]
    · rw [flatten_secGo p ls]
      cases hb : isBlank x <;> simp [hb]

theorem not_blank_of_bracket (x : Str) (h : (['['].isPrefixOf x) = true) : isBlank x = false := by
  cases x with
  | nil => cases h
  | cons c t =>
    simp only [List.isPrefixOf_cons_cons, Bool.and_eq_true, beq_iff_eq] at h
    exact not_blank_of_head _ '[' (by rw [h.1]; rfl) (by decide)

/-- every section the loop cuts begins with a bracket line (`headD []`: an empty section has none either) -/
theorem secGo_heads (sid : Str) : ∀ (ls cur : List Str), (['['].isPrefixOf (cur.headD [])) = true →
    ∀ sec ∈ secGo ('[' :: sid) cur ls, (['['].isPrefixOf (sec.headD [])) = true
  | [], cur, hc, sec, hs => by
    rw [List.mem_singleton.1 hs]; exact hc
  | x :: ls, cur, hc, sec, hs => by
    rw [secGo] at hs
    split at hs
    · rename_i hcond
      rcases List.mem_cons.1 hs with rfl | hs
      · exact hc
      · have hbx := bracket_of_prefix sid x (Bool.and_eq_true _ _ ▸ hcond).1
        rw [if_neg (by simp [not_blank_of_bracket x hbx])] at hs
        exact secGo_heads sid ls [x] hbx sec hs
    · refine secGo_heads sid ls _ ?_ sec hs
      split
      · exact hc
      · cases cur with
        | nil => cases hc
        | cons h0 t0 => exact hc

/-- `dataLineOk` passes blank and bracket lines, so it holds of every line exactly when it holds behind the bracket line of every
section -/
theorem secGo_tails (sid first : Str) (rest : List Str) (hfb : (['['].isPrefixOf first) = true) :
    (∀ sec ∈ secGo ('[' :: sid) [] (first :: rest), ∀ l ∈ sec.drop 1, isBlank l = false) ∧
    ((∀ l ∈ first :: rest, dataLineOk l = true) ↔
      ∀ sec ∈ secGo ('[' :: sid) [] (first :: rest), ∀ l ∈ sec.drop 1, dataLineOk l = true) := by
  have hmem : ∀ l, (∃ sec ∈ secGo ('[' :: sid) [] (first :: rest), l ∈ sec) ↔ l ∈ first :: rest ∧ isBlank l = false := fun l => by
    rw [← List.mem_flatten, flatten_secGo]; simp
  have hin : ∀ sec ∈ secGo ('[' :: sid) [] (first :: rest), ∀ l ∈ sec.drop 1, l ∈ first :: rest ∧ isBlank l = false :=
    fun sec hsec l hl => (hmem l).1 ⟨sec, hsec, (List.drop_sublist 1 sec).subset hl⟩
  -- the loop starts inside the section of the first line
  have hstep : secGo ('[' :: sid) [] (first :: rest) = secGo ('[' :: sid) [first] rest := by
    simp [secGo, not_blank_of_bracket first hfb]
  refine ⟨fun sec hsec l hl => (hin sec hsec l hl).2, fun hall sec hsec l hl => hall l (hin sec hsec l hl).1, fun hall l hl => ?_⟩
  by_cases hbl : isBlank l = true
  · simp [dataLineOk, hbl]
  by_cases hbr : (['['].isPrefixOf l) = true
  · simp [dataLineOk, hbr]
  obtain ⟨sec, hsec, hlsec⟩ := (hmem l).2 ⟨hl, Bool.eq_false_iff.2 hbl⟩
  have hb0 := secGo_heads sid rest [first] hfb sec (hstep ▸ hsec)
  refine hall _ hsec l ?_
  cases sec with
  | nil => cases hlsec
  | cons h0 t0 => exact (List.mem_cons.1 hlsec).resolve_left fun e => hbr (e ▸ hb0)

theorem secStart_some (l sid : Str) (h : secStart l = some sid) :
    (sid = zvalue ∨ sid = frameset) ∧ ('[' :: sid).isPrefixOf l = true := by
  obtain ⟨p, hp, hf⟩ := List.exists_of_findSome?_eq_some h
  split at hf
  · rename_i hpre
    cases hf
    -- both entries of the source's table have the form (`[` ++ id, id)
    simp only [Gen.C17.sectionPrefixes, List.mem_cons, List.not_mem_nil, or_false] at hp
    rcases hp with rfl | rfl
    · exact ⟨Or.inl rfl, hpre⟩
    · exact ⟨Or.inr rfl, hpre⟩
  · cases hf

end CryoCat.C17
