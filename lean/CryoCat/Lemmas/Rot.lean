import CryoCat.Lemmas.M3
import Mathlib.Tactic.Ring
import Mathlib.Tactic.Linarith
import Mathlib.Tactic.LinearCombination
/-! Proper rotations (`M3.IsRot`: orthogonal, determinant 1) over any commutative ring, and their zxz / ZYZ Euler angles.

* a proper rotation equals its cofactor matrix, hence its rows are orthonormal too;
* field: with `s² = 1 − m₃₃²`, `s ≠ 0` (away from gimbal lock), the pairs `(m₃₂,m₃₁)/s`, `(m₃₃,s)`, `(−m₂₃,m₁₃)/s` are points of the
  unit circle and `zxz` of them is `m` (in a domain: of any four numbers that `s` multiplies to those entries);
* ordered ring: at gimbal lock (`m₃₃² = 1`) `m = zxz (m₁₁,−m₁₂) (m₃₃,0) (1,0)`, that is `zxz (m₁₁,m₂₁) (1,0) (1,0)` resp.
  `zxz (m₁₁,−m₁₂) (−1,0) (1,0)`;
* so every proper rotation over an ordered field in which `1 − m₃₃²` has a square root is `zxz`, and `ZYZ`, of three points of the
  unit circle, the middle one with non-negative sine. -/
namespace CryoCat

section ring
variable {α : Type} [CommRing α]

theorem M3.det_mul (a b : M3 α) : (a * b).det = a.det * b.det := by
  simp only [M3.mul_def, M3.mul, M3.det]; ring

theorem rz_det (c s : α) : (rz c s).det = c * c + s * s := by simp only [rz, M3.det]; ring
theorem rx_det (c s : α) : (rx c s).det = c * c + s * s := by simp only [rx, M3.det]; ring
theorem ry_det (c s : α) : (ry c s).det = c * c + s * s := by simp only [ry, M3.det]; ring

def M3.IsRot (m : M3 α) : Prop := m.Orth ∧ m.det = 1

theorem M3.IsRot.mul {a b : M3 α} (ha : a.IsRot) (hb : b.IsRot) : (a * b).IsRot :=
  ⟨ha.1.mul hb.1, by rw [M3.det_mul, ha.2, hb.2, one_mul]⟩

theorem rz_isRot (c s : α) (h : c * c + s * s = 1) : (rz c s).IsRot := ⟨rz_orth c s h, by rw [rz_det, h]⟩
theorem rx_isRot (c s : α) (h : c * c + s * s = 1) : (rx c s).IsRot := ⟨rx_orth c s h, by rw [rx_det, h]⟩
theorem ry_isRot (c s : α) (h : c * c + s * s = 1) : (ry c s).IsRot := ⟨ry_orth c s h, by rw [ry_det, h]⟩

theorem zxz_isRot (cp sp ct st cs ss : α) (hp : cp * cp + sp * sp = 1) (ht : ct * ct + st * st = 1)
    (hs : cs * cs + ss * ss = 1) : (zxz cp sp ct st cs ss).IsRot :=
  ((rz_isRot cs ss hs).mul (rx_isRot ct st ht)).mul (rz_isRot cp sp hp)

theorem ZXZ_isRot (ca sa cb sb cc sc : α) (ha : ca * ca + sa * sa = 1) (hb : cb * cb + sb * sb = 1)
    (hc : cc * cc + sc * sc = 1) : (ZXZ ca sa cb sb cc sc).IsRot :=
  ((rz_isRot ca sa ha).mul (rx_isRot cb sb hb)).mul (rz_isRot cc sc hc)

theorem ZYZ_isRot (ca sa cb sb cc sc : α) (ha : ca * ca + sa * sa = 1) (hb : cb * cb + sb * sb = 1)
    (hc : cc * cc + sc * sc = 1) : (ZYZ ca sa cb sb cc sc).IsRot :=
  ((rz_isRot ca sa ha).mul (ry_isRot cb sb hb)).mul (rz_isRot cc sc hc)

def M3.cof (m : M3 α) : M3 α :=
  ⟨m.a22 * m.a33 - m.a23 * m.a32, m.a23 * m.a31 - m.a21 * m.a33, m.a21 * m.a32 - m.a22 * m.a31,
   m.a13 * m.a32 - m.a12 * m.a33, m.a11 * m.a33 - m.a13 * m.a31, m.a12 * m.a31 - m.a11 * m.a32,
   m.a12 * m.a23 - m.a13 * m.a22, m.a13 * m.a21 - m.a11 * m.a23, m.a11 * m.a22 - m.a12 * m.a21⟩

theorem M3.cof_mul_transpose (m : M3 α) : m.cof * m.transpose = ⟨m.det, 0, 0, 0, m.det, 0, 0, 0, m.det⟩ := by
  simp only [M3.cof, M3.mul_def, M3.mul, M3.transpose, M3.det]; congr 1 <;> ring

namespace M3.IsRot
variable {m : M3 α}

/-- `cof m = cof m·(mᵀ·m) = (cof m·mᵀ)·m = det m·m = m` -/
theorem eq_cof (h : m.IsRot) : m = m.cof := by
  have e : m.cof * m.transpose = M3.one := by rw [M3.cof_mul_transpose, h.2]; rfl
  have ho : m.transpose * m = M3.one := h.1
  rw [← M3.mul_one' m.cof, ← ho, ← M3.mul_assoc', e, M3.one_mul']

theorem mul_transpose (h : m.IsRot) : m * m.transpose = M3.one := by
  have e := M3.cof_mul_transpose m
  rw [← h.eq_cof, h.2] at e
  exact e

theorem transpose_orth (h : m.IsRot) : m.transpose.Orth := by
  unfold M3.Orth
  rw [M3.transpose_transpose]
  exact h.mul_transpose

theorem cofactor (h : m.IsRot) :
    m.a11 = m.a22 * m.a33 - m.a23 * m.a32 ∧ m.a12 = m.a23 * m.a31 - m.a21 * m.a33 ∧ m.a13 = m.a21 * m.a32 - m.a22 * m.a31 ∧
    m.a21 = m.a13 * m.a32 - m.a12 * m.a33 ∧ m.a22 = m.a11 * m.a33 - m.a13 * m.a31 ∧ m.a23 = m.a12 * m.a31 - m.a11 * m.a32 ∧
    m.a31 = m.a12 * m.a23 - m.a13 * m.a22 ∧ m.a32 = m.a13 * m.a21 - m.a11 * m.a23 ∧ m.a33 = m.a11 * m.a22 - m.a12 * m.a21 :=
  have e := h.eq_cof
  ⟨congrArg M3.a11 e, congrArg M3.a12 e, congrArg M3.a13 e, congrArg M3.a21 e, congrArg M3.a22 e, congrArg M3.a23 e,
    congrArg M3.a31 e, congrArg M3.a32 e, congrArg M3.a33 e⟩

theorem row3 (h : m.IsRot) : m.a31 * m.a31 + m.a32 * m.a32 + m.a33 * m.a33 = 1 :=
  congrArg M3.a33 h.mul_transpose

theorem col3 (h : m.IsRot) : m.a13 * m.a13 + m.a23 * m.a23 + m.a33 * m.a33 = 1 := h.1.col3

/-- the upper-left 2×2 block of a proper rotation in terms of its third row and column -/
theorem block (h : m.IsRot) :
    m.a11 * (1 - m.a33 * m.a33) = -(m.a23 * m.a32) - m.a13 * m.a33 * m.a31 ∧
    m.a12 * (1 - m.a33 * m.a33) = m.a23 * m.a31 - m.a13 * m.a33 * m.a32 ∧
    m.a21 * (1 - m.a33 * m.a33) = m.a13 * m.a32 - m.a23 * m.a33 * m.a31 ∧
    m.a22 * (1 - m.a33 * m.a33) = -(m.a13 * m.a31) - m.a23 * m.a33 * m.a32 := by
  obtain ⟨c11, c12, _, c21, c22, _, _, _, _⟩ := h.cofactor
  refine ⟨?_, ?_, ?_, ?_⟩
  · linear_combination c11 + m.a33 * c22
  · linear_combination c12 - m.a33 * c21
  · linear_combination c21 - m.a33 * c12
  · linear_combination c22 + m.a33 * c11

end M3.IsRot
end ring

section domain
variable {α : Type} [CommRing α] [IsDomain α] {m : M3 α}

/-- Away from gimbal lock, without division. With the third row and column of `m` written in terms of `s` and the angles,
`row3`, `col3` and `block` are the equations to be shown, each multiplied by `s²`. -/
theorem M3.IsRot.zxz_of_scaled (h : m.IsRot) {s cp sp cs ss : α} (hs : s * s = 1 - m.a33 * m.a33) (hs0 : s ≠ 0)
    (hcp : s * cp = m.a32) (hsp : s * sp = m.a31) (hcs : s * cs = -m.a23) (hss : s * ss = m.a13) :
    cp * cp + sp * sp = 1 ∧ cs * cs + ss * ss = 1 ∧ zxz cp sp m.a33 s cs ss = m := by
  have cancel : ∀ {x y : α}, s * s * x = s * s * y → x = y := fun e => mul_left_cancel₀ (mul_ne_zero hs0 hs0) e
  have h23 : m.a23 = -(s * cs) := by rw [hcs, neg_neg]
  have r3 := h.row3
  have c3 := h.col3
  obtain ⟨b11, b12, b21, b22⟩ := h.block
  rw [← hcp, ← hsp] at r3
  rw [← hss, h23] at c3
  rw [← hs, ← hcp, ← hsp, ← hss, h23] at b11 b12 b21 b22
  refine ⟨cancel (by linear_combination r3 - hs), cancel (by linear_combination c3 - hs), ?_⟩
  rw [zxz_eq]
  ext <;> dsimp only
  · exact cancel (by linear_combination (-1 : α) * b11)
  · exact cancel (by linear_combination (-1 : α) * b12)
  · linear_combination hss
  · exact cancel (by linear_combination (-1 : α) * b21)
  · exact cancel (by linear_combination (-1 : α) * b22)
  · linear_combination (-1 : α) * hcs
  · exact hsp
  · exact hcp

end domain

section field
variable {α : Type} [_root_.Field α] {m : M3 α}

theorem M3.IsRot.zxz_generic (h : m.IsRot) {s : α} (hs : s * s = 1 - m.a33 * m.a33) (hs0 : s ≠ 0) :
    (m.a32 / s) * (m.a32 / s) + (m.a31 / s) * (m.a31 / s) = 1 ∧ m.a33 * m.a33 + s * s = 1 ∧
    (-m.a23 / s) * (-m.a23 / s) + (m.a13 / s) * (m.a13 / s) = 1 ∧
    zxz (m.a32 / s) (m.a31 / s) m.a33 s (-m.a23 / s) (m.a13 / s) = m := by
  obtain ⟨u1, u3, e⟩ := h.zxz_of_scaled hs hs0 (mul_div_cancel₀ _ hs0) (mul_div_cancel₀ _ hs0)
    (mul_div_cancel₀ _ hs0) (mul_div_cancel₀ _ hs0)
  exact ⟨u1, by rw [hs]; ring, u3, e⟩

end field

section orderedRing
variable {α : Type} [CommRing α] [LinearOrder α] [IsStrictOrderedRing α] {m : M3 α}

theorem M3.IsRot.gimbal_zero (h : m.IsRot) (h33 : m.a33 * m.a33 = 1) :
    m.a13 = 0 ∧ m.a23 = 0 ∧ m.a31 = 0 ∧ m.a32 = 0 := by
  have e1 : m.a13 * m.a13 + m.a23 * m.a23 = 0 := by linear_combination h.col3 - h33
  have e2 : m.a31 * m.a31 + m.a32 * m.a32 = 0 := by linear_combination h.row3 - h33
  obtain ⟨z1, z2⟩ := (mul_self_add_mul_self_eq_zero).1 e1
  obtain ⟨z3, z4⟩ := (mul_self_add_mul_self_eq_zero).1 e2
  exact ⟨z1, z2, z3, z4⟩

/-- gimbal lock (`m₃₃ = ±1`): `m = Rx(theta)·Rz(phi)`, psi = 0 -/
theorem M3.IsRot.zxz_gimbal (h : m.IsRot) (h33 : m.a33 * m.a33 = 1) :
    m.a11 * m.a11 + (-m.a12) * (-m.a12) = 1 ∧ zxz m.a11 (-m.a12) m.a33 0 1 0 = m := by
  obtain ⟨z13, z23, z31, z32⟩ := h.gimbal_zero h33
  obtain ⟨_, _, _, c21, c22, _, _, _, _⟩ := h.cofactor
  have r1 : m.a11 * m.a11 + m.a12 * m.a12 + m.a13 * m.a13 = 1 := congrArg M3.a11 h.mul_transpose
  refine ⟨by linear_combination r1 - m.a13 * z13, ?_⟩
  rw [zxz_eq]
  ext <;> dsimp only
  · ring
  · ring
  · linear_combination (-1 : α) * z13
  · linear_combination (-1 : α) * c21 - m.a32 * z13
  · linear_combination (-1 : α) * c22 + m.a31 * z13
  · linear_combination (-1 : α) * z23
  · linear_combination (-1 : α) * z31
  · linear_combination (-1 : α) * z32

theorem M3.IsRot.zxz_gimbal_pos (h : m.IsRot) (h33 : m.a33 = 1) :
    m.a11 * m.a11 + m.a21 * m.a21 = 1 ∧ zxz m.a11 m.a21 1 0 1 0 = m := by
  have h33' : m.a33 * m.a33 = 1 := by rw [h33, mul_one]
  have e : -m.a12 = m.a21 := by
    linear_combination (-1 : α) * h.cofactor.2.1 - m.a31 * (h.gimbal_zero h33').2.1 + m.a21 * h33
  have g := h.zxz_gimbal h33'
  rwa [e, h33] at g

theorem M3.IsRot.zxz_gimbal_neg (h : m.IsRot) (h33 : m.a33 = -1) :
    m.a11 * m.a11 + (-m.a12) * (-m.a12) = 1 ∧ zxz m.a11 (-m.a12) (-1) 0 1 0 = m := by
  have g := h.zxz_gimbal (by rw [h33, neg_mul_neg, mul_one])
  rwa [h33] at g

theorem M3.IsRot.sq_a33_le (h : m.IsRot) : 0 ≤ 1 - m.a33 * m.a33 := by
  have e : 1 - m.a33 * m.a33 = m.a13 * m.a13 + m.a23 * m.a23 := by linear_combination (-1 : α) * h.col3
  rw [e]; exact add_nonneg (mul_self_nonneg _) (mul_self_nonneg _)

end orderedRing

section ordered
variable {α : Type} [_root_.Field α] [LinearOrder α] [IsStrictOrderedRing α] {m : M3 α}

/-- the case distinction of scipy's `as_euler("zxz")`, for `s` a square root of `1 − m₃₃²`: gimbal lock with theta = 0
(`s = 0`, `m₃₃ ≥ 0`), gimbal lock with theta = 180° (`s = 0`, `m₃₃ < 0`), generic (`s ≠ 0`) -/
theorem M3.IsRot.zxz_cases (h : m.IsRot) {s : α} (hs : s * s = 1 - m.a33 * m.a33) :
    (s = 0 ∧ 0 ≤ m.a33 ∧ m.a11 * m.a11 + m.a21 * m.a21 = 1 ∧ zxz m.a11 m.a21 1 0 1 0 = m) ∨
    (s = 0 ∧ ¬ 0 ≤ m.a33 ∧ m.a11 * m.a11 + (-m.a12) * (-m.a12) = 1 ∧ zxz m.a11 (-m.a12) (-1) 0 1 0 = m) ∨
    (s ≠ 0 ∧ (m.a32 / s) * (m.a32 / s) + (m.a31 / s) * (m.a31 / s) = 1 ∧ m.a33 * m.a33 + s * s = 1 ∧
      (-m.a23 / s) * (-m.a23 / s) + (m.a13 / s) * (m.a13 / s) = 1 ∧
      zxz (m.a32 / s) (m.a31 / s) m.a33 s (-m.a23 / s) (m.a13 / s) = m) := by
  by_cases hz : s = 0
  · have h33 : m.a33 * m.a33 = 1 := by rw [hz] at hs; linear_combination hs
    rcases mul_self_eq_one_iff.1 h33 with e | e
    · exact .inl ⟨hz, by rw [e]; exact zero_le_one, h.zxz_gimbal_pos e⟩
    · exact .inr (.inl ⟨hz, by rw [e, not_le]; exact neg_one_lt_zero, h.zxz_gimbal_neg e⟩)
  · exact .inr (.inr ⟨hz, h.zxz_generic hs hz⟩)

/-- `hsq` always holds over ℝ (`sq_a33_le`); `0 ≤ st` is theta in [0°, 180°], as scipy returns it -/
theorem M3.IsRot.exists_zxz (h : m.IsRot) (hsq : ∃ s : α, 0 ≤ s ∧ s * s = 1 - m.a33 * m.a33) :
    ∃ cp sp ct st cs ss : α, cp * cp + sp * sp = 1 ∧ ct * ct + st * st = 1 ∧ cs * cs + ss * ss = 1 ∧ 0 ≤ st ∧
      zxz cp sp ct st cs ss = m := by
  obtain ⟨s, hs0, hs⟩ := hsq
  rcases h.zxz_cases hs with ⟨-, -, u, e⟩ | ⟨-, -, u, e⟩ | ⟨-, u1, u2, u3, e⟩
  · exact ⟨_, _, 1, 0, 1, 0, u, by ring, by ring, le_refl 0, e⟩
  · exact ⟨_, _, -1, 0, 1, 0, u, by ring, by ring, le_refl 0, e⟩
  · exact ⟨_, _, _, _, _, _, u1, u2, u3, hs0, e⟩

theorem M3.IsRot.exists_ZYZ (h : m.IsRot) (hsq : ∃ s : α, 0 ≤ s ∧ s * s = 1 - m.a33 * m.a33) :
    ∃ ca sa cb sb cc sc : α, ca * ca + sa * sa = 1 ∧ cb * cb + sb * sb = 1 ∧ cc * cc + sc * sc = 1 ∧ 0 ≤ sb ∧
      ZYZ ca sa cb sb cc sc = m := by
  obtain ⟨cp, sp, ct, st, cs, ss, hp, ht, hs, hst, e⟩ := h.exists_zxz hsq
  exact ⟨ss, -cs, ct, st, -sp, cp, by linear_combination hs, ht, by linear_combination hp, hst,
    by rw [ZYZ_of_zxz]; exact e⟩

end ordered
end CryoCat
