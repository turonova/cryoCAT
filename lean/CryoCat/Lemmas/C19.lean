import CryoCat.Model.C19
import CryoCat.Lemmas.List
/-! C19 — what holds for every operator table (core Lean only): no relabelling touches the particle positions
`ids` of a table, the inner loop returns a linked chain of fresh particles (`traceChain_spec`), so the main loop
ends with every particle exactly once; `argmin`; the output of all tomograms read tomogram by tomogram; the
arrangements of the witnesses in `Props/C19`. -/
namespace CryoCat.C19
open CryoCat.Lists
set_option linter.unusedSectionVars false
variable {α : Type} [LE α] [LT α] [DecidableLE α] [DecidableLT α] [DecidableEq α]

def ids (l : List (Row α)) : List Nat := l.map (·.idx)

theorem ids_append (a b : List (Row α)) : ids (a ++ b) = ids a ++ ids b := List.map_append

theorem ids_map_of (f : Row α → Row α) (hf : ∀ r, (f r).idx = r.idx) (l : List (Row α)) :
    ids (l.map f) = ids l := by
  simp only [ids, List.map_map]
  apply List.map_congr_left
  intro r _
  exact hf r

@[simp] theorem ids_updObj (p : Row α → Bool) (v : Int) (l : List (Row α)) : ids (updObj p v l) = ids l := by
  unfold updObj; apply ids_map_of; intro r; split <;> rfl
@[simp] theorem ids_addOrd (p : Row α → Bool) (v : Int) (l : List (Row α)) : ids (addOrd p v l) = ids l := by
  unfold addOrd; apply ids_map_of; intro r; split <;> rfl
@[simp] theorem ids_setDist (p : Row α → Bool) (v : α) (l : List (Row α)) : ids (setDist p v l) = ids l := by
  unfold setDist; apply ids_map_of; intro r; split <;> rfl

@[simp] theorem ids_relabelChain (a b : Int) (l : List (Row α)) : ids (relabelChain a b l) = ids l := by
  unfold relabelChain; apply ids_map_of; intro r; rfl
@[simp] theorem ids_setObjChain (a : Int) (l : List (Row α)) : ids (setObjChain a l) = ids l := by
  unfold setObjChain; apply ids_map_of; intro r; rfl

@[simp] theorem ids_renumRows (p : Row α → Bool) (k : Int) (l : List (Row α)) : ids (renumRows p k l) = ids l := by
  induction l generalizing k with
  | nil => rfl
  | cons r rs ih =>
    simp only [renumRows]
    split
    · simp only [ids, List.map_cons] at ih ⊢; rw [ih]
    · simp only [ids, List.map_cons] at ih ⊢; rw [ih]

@[simp] theorem ids_setLastDist (v : α) : ∀ l : List (Row α), ids (setLastDist v l) = ids l
  | [] => rfl
  | [_] => rfl
  | r :: r' :: rs => by
    have ih := ids_setLastDist v (r' :: rs)
    simp only [setLastDist, ids, List.map_cons] at ih ⊢
    rw [ih]

theorem mkChainFrom_eq (cls : Int) (k : Int) (ms : List (Nat × α)) :
    mkChainFrom cls k ms = ms.zipIdx.map (fun p => ⟨p.1.1, cls, k + p.2, p.1.2⟩) := by
  have aux : ∀ (ms : List (Nat × α)) (n : Nat),
      mkChainFrom cls (k + n) ms = (ms.zipIdx n).map (fun p => ⟨p.1.1, cls, k + p.2, p.1.2⟩) := by
    intro ms
    induction ms with
    | nil => intro _; rfl
    | cons m ms ih =>
      intro n
      have := ih (n + 1)
      rw [Int.natCast_succ, ← Int.add_assoc] at this
      simp only [mkChainFrom, List.zipIdx_cons, List.map_cons, this]
  simpa using aux ms 0

theorem mem_mkChainFrom (cls k : Int) (ms : List (Nat × α)) (r : Row α) :
    r ∈ mkChainFrom cls k ms ↔ r.obj = cls ∧ ∃ n : Nat, r.ord = k + n ∧ ms[n]? = some (r.idx, r.dist) := by
  rw [mkChainFrom_eq, List.mem_map]
  constructor
  · rintro ⟨⟨m, n⟩, hp, rfl⟩
    exact ⟨rfl, n, rfl, List.mk_mem_zipIdx_iff_getElem?.1 hp⟩
  · rintro ⟨rfl, n, hk, e⟩
    exact ⟨((r.idx, r.dist), n), List.mk_mem_zipIdx_iff_getElem?.2 e, by rw [← hk]⟩

@[simp] theorem ids_mkChainFrom (cls : Int) (k : Int) (ms : List (Nat × α)) :
    ids (mkChainFrom cls k ms) = ms.map Prod.fst := by
  rw [mkChainFrom_eq, ids, List.map_map]
  exact (List.map_map (f := Prod.fst) (g := Prod.fst) (l := ms.zipIdx)).symm.trans
    (congrArg _ (List.zipIdx_map_fst 0 ms))

theorem mkChainFrom_ords (cls : Int) (k : Int) (ms : List (Nat × α)) :
    (mkChainFrom cls k ms).map (·.ord) = (List.range ms.length).map (fun (i : Nat) => Int.ofNat i + k) := by
  rw [mkChainFrom_eq, List.map_map, List.range_eq_range', ← List.zipIdx_map_snd 0 ms, List.map_map]
  exact List.map_congr_left (fun p _ => Int.add_comm _ _)

theorem addSuffix_ids (o : Opts) (nfm ch : List (Row α)) (j : Nat) (dj : α) :
    ids (addSuffix o nfm ch j dj).1 = ids nfm ∧ ids (addSuffix o nfm ch j dj).2.1 = ids ch := by
  unfold addSuffix
  split
  · exact ⟨rfl, rfl⟩
  · dsimp only
    repeat' split
    all_goals exact ⟨by simp only [ids_setDist, ids_addOrd, ids_updObj, ids_renumRows],
      by simp only [ids_relabelChain]⟩

theorem addPrefix_ids (o : Opts) (nfm ch : List (Row α)) (j : Nat) (dj : α) (cm : Option (Int × Int)) :
    ids (addPrefix o nfm ch j dj cm).1 = ids nfm ∧ ids (addPrefix o nfm ch j dj cm).2.1 = ids ch := by
  unfold addPrefix
  split
  · exact ⟨rfl, rfl⟩
  · dsimp only
    repeat' split
    all_goals exact ⟨by simp only [ids_addOrd, ids_updObj], by simp only [ids_setLastDist, ids_setObjChain]⟩

theorem suffixPart_ids (o : Opts) (nfm ch : List (Row α)) (fi : Option (Nat × α)) :
    ids (suffixPart o nfm ch fi).1 = ids nfm ∧ ids (suffixPart o nfm ch fi).2.1 = ids ch := by
  unfold suffixPart
  split
  · exact addSuffix_ids ..
  · exact ⟨rfl, rfl⟩

theorem prefixPart_ids (o : Opts) (s : List (Row α) × List (Row α) × Bool × List Tag) (nm : Option (Nat × α))
    (classC : Int) :
    ids (prefixPart o s nm classC).1 = ids s.1 ∧ ids (prefixPart o s nm classC).2.1 = ids s.2.1 := by
  unfold prefixPart
  split
  · exact addPrefix_ids ..
  · exact ⟨rfl, rfl⟩

theorem merge_ids (o : Opts) (c : Cfg α) (nfm ch : List (Row α)) (first last : Nat) (single : Bool) (classC : Int) :
    ids (merge o c nfm ch first last single classC).1 = ids nfm ∧
    ids (merge o c nfm ch first last single classC).2.1 = ids ch := by
  unfold merge
  dsimp only
  exact ⟨(prefixPart_ids ..).1.trans (suffixPart_ids ..).1, (prefixPart_ids ..).2.trans (suffixPart_ids ..).2⟩

theorem argmin_cons_some {key : Nat → α} {a : Nat} {as : List Nat} {j : Nat} {x : α}
    (h : argmin key (a :: as) = some (j, x)) :
    (argmin key as = some (j, x) ∧ x < key a) ∨
    (j = a ∧ x = key a ∧ ∀ k dk, argmin key as = some (k, dk) → ¬ dk < key a) := by
  simp only [argmin] at h
  split at h
  · rename_i hn; cases h; exact Or.inr ⟨rfl, rfl, fun k dk e => by rw [hn] at e; cases e⟩
  · rename_i k dk hk
    split at h <;> cases h
    · rename_i hlt; exact Or.inl ⟨hk, hlt⟩
    · rename_i hnlt; exact Or.inr ⟨rfl, rfl, fun k' dk' e => by rw [hk] at e; cases e; exact hnlt⟩

theorem argmin_some (key : Nat → α) : ∀ (l : List Nat) (j : Nat) (x : α),
    argmin key l = some (j, x) → j ∈ l ∧ x = key j
  | [], _, _, h => by simp [argmin] at h
  | a :: as, j, x, h => by
    rcases argmin_cons_some h with ⟨h', _⟩ | ⟨rfl, rfl, _⟩
    · have := argmin_some key as j x h'; exact ⟨List.mem_cons_of_mem _ this.1, this.2⟩
    · exact ⟨by simp, rfl⟩

theorem nearestEntry_some (o : Opts) (c : Cfg α) (i : Nat) (ok : Nat → Bool) (j : Nat) (x : α)
    (h : nearestEntry o c i ok = some (j, x)) :
    j < c.n ∧ ok j = true ∧ inWin o c (c.d i j) = true ∧ x = c.d i j := by
  obtain ⟨hm, hx⟩ := argmin_some _ _ _ _ h
  simp only [List.mem_filter, List.mem_range, Bool.and_eq_true] at hm
  exact ⟨hm.1, hm.2.1, hm.2.2, hx⟩

/-- the tomogram with the roles of exit and entry sites exchanged -/
def Cfg.swap (c : Cfg α) : Cfg α := { c with d := fun a b => c.d b a }

theorem nearestExit_eq (o : Opts) (c : Cfg α) (i : Nat) (ok : Nat → Bool) :
    nearestExit o c i ok = nearestEntry o c.swap i ok := rfl

theorem nearestExit_some (o : Opts) (c : Cfg α) (i : Nat) (ok : Nat → Bool) (j : Nat) (x : α)
    (h : nearestExit o c i ok = some (j, x)) :
    j < c.n ∧ ok j = true ∧ inWin o c (c.d j i) = true ∧ x = c.d j i :=
  nearestEntry_some o c.swap i ok j x h

/-- consecutive members of a freshly traced chain: the stored value is the exit→entry squared
distance and it passed the radius/min filter -/
def Linked (o : Opts) (c : Cfg α) (ms : List (Nat × α)) : Prop :=
  ∀ (n : Nat) (a b : Nat × α), ms[n]? = some a → ms[n + 1]? = some b →
    a.2 = c.d a.1 b.1 ∧ inWin o c (c.d a.1 b.1) = true

theorem Linked.single {o : Opts} {c : Cfg α} (m : Nat × α) : Linked o c [m] := fun _ _ _ _ h => by simp at h

theorem Linked.cons {o : Opts} {c : Cfg α} {a b : Nat × α} {tl : List (Nat × α)}
    (h : a.2 = c.d a.1 b.1 ∧ inWin o c (c.d a.1 b.1) = true) (ht : Linked o c (b :: tl)) : Linked o c (a :: b :: tl)
  | 0, _, _, h1, h2 => by cases h1; cases h2; exact h
  | n + 1, x, y, h1, h2 => ht n x y h1 h2

/-- what the inner `while` loop returns: a linked chain that starts with `p` and goes on through distinct
particles, none of them traced or used before -/
theorem traceChain_spec (o : Opts) (c : Cfg α) (traced : List Nat) : ∀ (fuel p : Nat) (used : List Nat),
    ∃ x tl, traceChain o c traced fuel p used = (p, x) :: tl ∧ Linked o c ((p, x) :: tl) ∧
      (∀ m ∈ tl.map Prod.fst, m < c.n ∧ m ∉ traced ∧ m ∉ p :: used) ∧ (p :: tl.map Prod.fst).Nodup
  | 0, p, used => ⟨_, [], rfl, Linked.single _, by simp, by simp⟩
  | fuel + 1, p, used => by
    unfold traceChain
    split
    · exact ⟨_, [], rfl, Linked.single _, by simp, by simp⟩
    · rename_i j dj hj
      obtain ⟨hjn, hok, hw, hx⟩ := nearestEntry_some o c p _ j dj hj
      obtain ⟨x, tl, htl, hl, hmem, hnd⟩ := traceChain_spec o c traced fuel j (p :: used)
      simp only [Bool.and_eq_true, Bool.not_eq_true', List.contains_eq_mem, decide_eq_false_iff_not] at hok
      refine ⟨dj, (j, x) :: tl, by rw [htl], Linked.cons ⟨hx, hw⟩ hl, ?_, List.nodup_cons.2 ⟨?_, hnd⟩⟩
      · intro m hm
        rcases List.mem_cons.1 hm with rfl | hm
        · exact ⟨hjn, hok.1, hok.2⟩
        · exact ⟨(hmem m hm).1, (hmem m hm).2.1, fun h => (hmem m hm).2.2 (List.mem_cons_of_mem _ h)⟩
      · intro hp
        rcases List.mem_cons.1 hp with rfl | hp
        · exact hok.2 (by simp)
        · exact (hmem p hp).2.2 (by simp)

/-- the invariant of the outer loop: the table holds distinct particles of this tomogram -/
def Inv (c : Cfg α) (st : State α) : Prop := (ids st.nfm).Nodup ∧ ∀ j ∈ ids st.nfm, j < c.n

theorem step_ids (o : Opts) (c : Cfg α) (st : State α) (i : Nat) :
    ids (step o c st i).nfm =
      if i ∈ ids st.nfm then ids st.nfm
      else ids st.nfm ++ (traceChain o c (ids st.nfm) c.n i []).map Prod.fst := by
  unfold step
  by_cases h : i ∈ ids st.nfm
  · have : (List.map (fun x => x.idx) st.nfm).contains i = true := by simpa [ids] using h
    simp only [this, if_true, h]
  · have : (List.map (fun x => x.idx) st.nfm).contains i = false := by simpa [ids] using h
    simp only [this, if_neg h]
    simp only [Bool.false_eq_true, if_false]
    split
    · rw [ids_append, ids_mkChainFrom]; rfl
    · rw [ids_append, (merge_ids ..).1, (merge_ids ..).2, ids_mkChainFrom]; rfl

theorem step_inv (o : Opts) (c : Cfg α) (st : State α) (i : Nat) (hi : i < c.n) (h : Inv c st) :
    Inv c (step o c st i) ∧ i ∈ ids (step o c st i).nfm ∧ ∀ j ∈ ids st.nfm, j ∈ ids (step o c st i).nfm := by
  rw [step_ids]
  unfold Inv
  rw [step_ids]
  by_cases hin : i ∈ ids st.nfm
  · simp only [if_pos hin]
    exact ⟨h, hin, fun j hj => hj⟩
  · simp only [if_neg hin]
    obtain ⟨x, tl, htl, -, hmem, hnd⟩ := traceChain_spec o c (ids st.nfm) c.n i []
    rw [htl, List.map_cons]
    refine ⟨⟨?_, ?_⟩, by simp, fun j hj => List.mem_append_left _ hj⟩
    · refine List.nodup_append.2 ⟨h.1, hnd, ?_⟩
      intro a ha b hb hab
      subst hab
      rcases List.mem_cons.1 hb with rfl | hb
      · exact hin ha
      · exact (hmem a hb).2.1 ha
    · intro j hj
      rcases List.mem_append.1 hj with hj | hj
      · exact h.2 j hj
      · rcases List.mem_cons.1 hj with rfl | hj
        · exact hi
        · exact (hmem j hj).1

theorem fold_inv (o : Opts) (c : Cfg α) : ∀ (L : List Nat) (st : State α), (∀ i ∈ L, i < c.n) → Inv c st →
    Inv c (L.foldl (step o c) st) ∧ (∀ j ∈ ids st.nfm, j ∈ ids (L.foldl (step o c) st).nfm) ∧
      ∀ i ∈ L, i ∈ ids (L.foldl (step o c) st).nfm
  | [], st, _, h => ⟨h, fun _ hj => hj, by simp⟩
  | a :: L, st, hL, h => by
    obtain ⟨h1, h2, h3⟩ := step_inv o c st a (hL a (by simp)) h
    obtain ⟨g1, g2, g3⟩ := fold_inv o c L (step o c st a) (fun i hi => hL i (List.mem_cons_of_mem _ hi)) h1
    simp only [List.foldl_cons]
    refine ⟨g1, fun j hj => g2 j (h3 j hj), ?_⟩
    intro i hi
    rcases List.mem_cons.1 hi with rfl | hi
    · exact g2 _ h2
    · exact g3 i hi

theorem run_ids_perm (o : Opts) (c : Cfg α) : (ids (run o c).nfm).Perm (List.range c.n) := by
  obtain ⟨⟨hnd, hlt⟩, _, hall⟩ := fold_inv o c (List.range c.n) { nfm := [], classC := 1, tags := [] }
    (fun i hi => List.mem_range.1 hi) ⟨by simp [ids], by simp [ids]⟩
  refine (List.perm_ext_iff_of_nodup hnd List.nodup_range).2 ?_
  intro a
  exact ⟨fun ha => List.mem_range.2 (hlt a ha), fun ha => hall a ha⟩

theorem mem_runAll {o : Opts} {cs : List (Cfg α)} {t : Nat} {r : Row α} :
    (t, r) ∈ runAll o cs ↔ ∃ c, cs[t]? = some c ∧ r ∈ (run o c).nfm :=
  mem_flatMap_zipIdx (f := fun c : Cfg α => (run o c).nfm)

theorem mem_allKeys {cs : List (Cfg α)} {t i : Nat} : (t, i) ∈ allKeys cs ↔ ∃ c, cs[t]? = some c ∧ i < c.n := by
  unfold allKeys
  simpa only [List.mem_range] using mem_flatMap_zipIdx (f := fun c : Cfg α => List.range c.n) (l := cs) (t := t) (b := i)

/-- the chain `g` of tomogram `t` in the output of all tomograms is the chain `g` of that tomogram's table -/
theorem group_runAll (o : Opts) (cs : List (Cfg α)) (t : Nat) (g : Int) :
    group (runAll o cs) t g =
      cs[t]?.toList.flatMap (fun c => ((run o c).nfm.filter (fun r => r.obj == g)).map (fun r => (t, r))) := by
  unfold group runAll
  rw [filter_flatMap_blocks _ (fun p => ((run o p.1).nfm.filter (fun r => r.obj == g)).map (fun r => (t, r))) _
    (fun p => p.2 == t), filter_zipIdx_snd, List.flatMap_map]
  intro p _
  rw [List.filter_map]
  by_cases e : p.2 = t
  · subst e; simp [Function.comp_def]
  · simp [Function.comp_def, e]

/-- the filter of `get_nn_dist` with the documented operators: what passes lies in `(lo, hi]`,
whatever `min_distance` is (also 0) -/
theorem inWin_documented_iff (c : Cfg α) (x : α) :
    inWin Opts.documented c x = true ↔ x ≤ c.hi ∧ c.lo < x := by
  simp only [inWin, Opts.documented, Cmp.eval, Bool.and_eq_true, decide_eq_true_eq, Bool.true_or,
    if_true]

theorem inWin_documented (c : Cfg α) (x : α) (h : inWin Opts.documented c x = true) :
    x ≤ c.hi ∧ c.lo < x := (inWin_documented_iff c x).1 h

/-- consecutive members of a chain: the stored value is the exit→entry squared distance of the link
and lies in `(lo, hi]` -/
def LinkedWin (c : Cfg α) : List (Nat × α) → Prop
  | [] => True
  | [_] => True
  | (a, da) :: (b, db) :: rest => da = c.d a b ∧ c.lo < da ∧ da ≤ c.hi ∧ LinkedWin c ((b, db) :: rest)

theorem linked_win (c : Cfg α) : ∀ l : List (Nat × α), Linked Opts.documented c l → LinkedWin c l
  | [], _ => trivial
  | [_], _ => trivial
  | (a, da) :: (b, db) :: rest, h => by
    obtain ⟨h1, h2⟩ : da = c.d a b ∧ _ := h 0 _ _ rfl rfl
    obtain ⟨h4, h5⟩ := inWin_documented c _ h2
    exact ⟨h1, h1 ▸ h5, h1 ▸ h4, linked_win c _ fun n x y => h (n + 1) x y⟩

/-! Concrete arrangements (coordinates in units of 1/10 resp. 1/8) for the witnesses in `Props/C19`. -/

def d2Int (a b : Int × Int × Int) : Int :=
  (a.1 - b.1) * (a.1 - b.1) + (a.2.1 - b.2.1) * (a.2.1 - b.2.1) + (a.2.2 - b.2.2) * (a.2.2 - b.2.2)

/-- tomogram from (entry, exit) integer coordinates -/
def cfgOfPts (pts : List ((Int × Int × Int) × (Int × Int × Int))) (maxS minS : Int) : Cfg Int :=
  { n := pts.length
    d := fun i j => d2Int (pts.getD i ((0, 0, 0), (0, 0, 0))).2 (pts.getD j ((0, 0, 0), (0, 0, 0))).1
    g4 := fun _ => 0, hi := maxS * maxS, lo := minS * minS, minD := minS, zero := 0 }

/-- D18 (units 1/10, max_distance 3): a1, P, S0, L, b1, F -/
def ptsD18 : List ((Int × Int × Int) × (Int × Int × Int)) :=
  [((-60, 0, 0), (-600, 0, 0)), ((0, -200, 0), (0, 0, 0)), ((20, 0, 0), (20, 300, 0)),
   ((500, 500, 0), (35, -10, 0)), ((-29, 0, 0), (-50, 0, 0)), ((0, 25, 0), (0, 400, 0))]

/-- the double-cut arrangement (units 1/8, max_distance 3): a1, P, S0, L, b1, X, Y, F -/
def ptsDoubleCut : List ((Int × Int × Int) × (Int × Int × Int)) :=
  [((-48, 0, 0), (-480, 0, 0)), ((0, -160, 0), (0, 0, 0)), ((16, 0, 0), (16, 240, 0)),
   ((400, 400, 0), (28, -8, 0)), ((-23, 0, 0), (-40, 0, 0)), ((800, 328, 0), (8, 328, 0)),
   ((8, 345, 0), (8, 640, 0)), ((0, 20, 0), (8, 332, 0))]

/-- coincidence at `min_distance = 0` (units 1, max_distance 3): the exit site of particle 0 IS the
entry site of particle 1 -/
def ptsCoincide : List ((Int × Int × Int) × (Int × Int × Int)) :=
  [((0, 0, 0), (4, 0, 0)), ((4, 0, 0), (20, 0, 0))]

end CryoCat.C19
