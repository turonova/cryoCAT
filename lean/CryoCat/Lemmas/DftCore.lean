import Mathlib.RingTheory.RootsOfUnity.Complex
import Mathlib.RingTheory.RootsOfUnity.PrimitiveRoots
import Mathlib.Algebra.Ring.GeomSum
import Mathlib.Algebra.BigOperators.Fin
/-! The discrete Fourier transform on `Fin n → C` over any field with a primitive `n`-th root of unity `ω`, as the two
developments of the project use it (`Lemmas/C12_Dft`: functions on `Int`, any field; `Lemmas/C16_DftN`: `Fin n → ℂ`):
orthogonality of the characters, inversion in both orders (the second is the first for `ω⁻¹`), the conjugation rule, and
numpy's twiddle `exp(-2πi/n)`. -/
namespace CryoCat.Dft
open Finset

/-- what a bijection intertwines, its inverse intertwines the other way round (shifts and phases, conjugation and Hermitian reflection) -/
theorem inv_intertwine {X Y : Type} {F : X → Y} {Finv : Y → X} (l : ∀ x, Finv (F x) = x) (r : ∀ y, F (Finv y) = y)
    {A : X → X} {B : Y → Y} (h : ∀ x, F (A x) = B (F x)) (y : Y) : Finv (B y) = A (Finv y) := by
  rw [← l (A (Finv y)), h, r]

section field
variable {C : Type} [Field C] {n : Nat} {ω : C}

/-- `ω^{(n-k) mod n} = ω^{-k}` -/
theorem pow_sub_mod (h : ω ^ n = 1) {k : Nat} (hk : k ≤ n) : ω ^ ((n - k) % n) = (ω ^ k)⁻¹ := by
  rw [← pow_eq_pow_mod _ h]
  apply eq_inv_of_mul_eq_one_left
  rw [← pow_add, Nat.sub_add_cancel hk, h]

/-- orthogonality of the characters: a geometric sum of a root of unity other than 1 -/
theorem orth (h : IsPrimitiveRoot ω n) (a b : Fin n) :
    ∑ k : Fin n, (ω ^ b.val * (ω ^ a.val)⁻¹) ^ k.val = if a = b then (n : C) else 0 := by
  have h0 : ω ^ a.val ≠ 0 := pow_ne_zero _ (h.ne_zero a.pos.ne')
  split_ifs with hab
  · rw [← hab, mul_inv_cancel₀ h0]
    simp only [one_pow, sum_const, card_univ, Fintype.card_fin, nsmul_eq_mul, mul_one]
  · have h1 : ω ^ b.val * (ω ^ a.val)⁻¹ ≠ 1 := fun h1 =>
      hab (Fin.ext (h.pow_inj a.isLt b.isLt ((mul_inv_eq_one₀ h0).1 h1).symm))
    rw [Fin.sum_univ_eq_sum_range ((ω ^ b.val * (ω ^ a.val)⁻¹) ^ ·) n, geom_sum_eq h1, mul_pow, inv_pow, pow_right_comm,
      pow_right_comm _ a.val, h.pow_eq_one, one_pow, one_pow, inv_one, mul_one, sub_self, zero_div]

/-- `x_a = (1/n) Σ_k ω^{-ka} Σ_j ω^{jk} x_j` -/
theorem inversion (h : IsPrimitiveRoot ω n) (hn : (n : C) ≠ 0) (x : Fin n → C) (a : Fin n) :
    (n : C)⁻¹ * ∑ k : Fin n, (ω ^ (k.val * a.val))⁻¹ * ∑ j : Fin n, ω ^ (j.val * k.val) * x j = x a := by
  simp only [mul_sum]
  rw [sum_comm]
  have e : ∀ j : Fin n, ∑ k : Fin n, (n : C)⁻¹ * ((ω ^ (k.val * a.val))⁻¹ * (ω ^ (j.val * k.val) * x j))
      = (n : C)⁻¹ * (if a = j then (n : C) else 0) * x j := fun j => by
    rw [← orth h a j, mul_sum, sum_mul]
    refine sum_congr rfl fun k _ => ?_
    rw [mul_pow, inv_pow, ← pow_mul, ← pow_mul, mul_comm a.val]
    ring
  simp only [e, mul_ite, mul_zero, ite_mul, zero_mul, inv_mul_cancel₀ hn, one_mul, sum_ite_eq, mem_univ, if_true]

/-- `y_k = Σ_j ω^{jk} (1/n) Σ_m ω^{-mj} y_m`: `inversion` for the root `ω⁻¹` -/
theorem inversion' (h : IsPrimitiveRoot ω n) (hn : (n : C) ≠ 0) (y : Fin n → C) (k : Fin n) :
    ∑ j : Fin n, ω ^ (j.val * k.val) * ((n : C)⁻¹ * ∑ m : Fin n, (ω ^ (m.val * j.val))⁻¹ * y m) = y k := by
  have := inversion h.inv hn y k
  simp only [inv_pow, inv_inv] at this
  rw [← this, mul_sum]
  exact sum_congr rfl fun j _ => by rw [mul_left_comm]

/-- conjugation: for a ring homomorphism with `conj ω = ω⁻¹`, bin `-k` of the transform of the conjugated sequence -/
theorem conj_rule (h : ω ^ n = 1) (conj : C →+* C) (hω : conj ω = ω⁻¹) (x : Fin n → C) (k : Fin n) :
    ∑ j : Fin n, ω ^ (j.val * ((n - k.val) % n)) * conj (x j) = conj (∑ j : Fin n, ω ^ (j.val * k.val) * x j) := by
  rw [map_sum]
  refine sum_congr rfl fun j _ => ?_
  rw [map_mul, map_pow, hω, inv_pow, mul_comm j.val (_ % _), pow_mul, pow_sub_mod h k.isLt.le, inv_pow, ← pow_mul, mul_comm k.val]

end field

open Complex in
/-- numpy's forward twiddle `exp(-2πi/n)`, as `Model`-level definitions of the two developments write it -/
theorem expRoot_prim {n : Nat} (hn : 0 < n) : IsPrimitiveRoot (exp (2 * Real.pi * I / n))⁻¹ n :=
  (Complex.isPrimitiveRoot_exp n hn.ne').inv

open Complex in
theorem expRoot_conj (n : Nat) : (starRingEnd ℂ) (exp (2 * Real.pi * I / n))⁻¹ = ((exp (2 * Real.pi * I / n))⁻¹)⁻¹ := by
  rw [map_inv₀, ← Complex.exp_conj, inv_inv, ← Complex.exp_neg]
  congr 1
  simp only [map_div₀, map_mul, Complex.conj_ofReal, Complex.conj_I, map_natCast, map_ofNat]
  ring

end CryoCat.Dft
