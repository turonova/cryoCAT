import CryoCat.Lemmas.C05
import CryoCat.Lemmas.RealAngle
/-! C05 — the numeric services over ℝ (`realSvc`: cos/sin of degrees, an explicit zxz extraction `eulerR` by the case distinction of
scipy's `as_euler("zxz")`, rounding half away from zero): they meet every hypothesis of `Props/C05` at once, in particular
`EulerOK` for EVERY proper rotation. Apart from `Lemmas/C05` because of the analysis it imports. -/
namespace CryoCat.C05
open CryoCat

section real
open Real

/-- `atan2(s, c)` in degrees -/
noncomputable def degOf (c s : ℝ) : ℝ := Complex.arg ⟨c, s⟩ * (180 / π)

/-- what scipy computes for `degrees=True` -/
noncomputable def csR (a : ℝ) : ℝ × ℝ := (cos (a * (π / 180)), sin (a * (π / 180)))

theorem csR_unit (a : ℝ) : (csR a).1 * (csR a).1 + (csR a).2 * (csR a).2 = 1 := RealAngle.cos_mul_self_add_sin_mul_self _

theorem csR_neg (a : ℝ) : csR (-a) = ((csR a).1, -(csR a).2) := by
  simp only [csR, neg_mul, cos_neg, sin_neg]

theorem csR_degOf (c s : ℝ) (h : c * c + s * s = 1) : csR (degOf c s) = (c, s) :=
  Prod.ext (RealAngle.cos_sin_argDeg_of_unit h).1 (RealAngle.cos_sin_argDeg_of_unit h).2

theorem csR_zero : csR 0 = (1, 0) := by simp [csR]
theorem csR_180 : csR 180 = (-1, 0) := by
  have : (180 : ℝ) * (π / 180) = π := by field_simp
  simp [csR, this]

open Classical in
/-- an explicit zxz Euler extraction (what `as_euler("zxz", degrees=True)` does, including its gimbal-lock
convention psi = 0): theta from m₃₃, phi from the third row, psi from the third column -/
noncomputable def eulerR (m : M3 ℝ) : ℝ × ℝ × ℝ :=
  let s := sqrt (1 - m.a33 * m.a33)
  if s = 0 then
    if 0 ≤ m.a33 then (degOf m.a11 m.a21, 0, 0) else (degOf m.a11 (-m.a12), 180, 0)
  else (degOf (m.a32 / s) (m.a31 / s), degOf m.a33 s, degOf (-m.a23 / s) (m.a13 / s))

/-- `decimal … ROUND_HALF_UP` on a real number: half away from zero -/
noncomputable def rndR (v : ℝ) : Int := if 0 ≤ v then ⌊v + 1 / 2⌋ else -⌊-v + 1 / 2⌋

noncomputable def realSvc : Svc ℝ := { cs := csR, euler := eulerR, rnd := rndR }

theorem rndR_eq (v : ℝ) : rndR v = Round.roundAway v := (Round.roundAway_eq_floor' v).symm

theorem rndR_close (v : ℝ) : |v - ((rndR v : Int) : ℝ)| ≤ 1 / 2 := rndR_eq v ▸ Round.abs_sub_roundAway v

theorem realSvc_unit (a : ℝ) : (realSvc.cs a).1 * (realSvc.cs a).1 + (realSvc.cs a).2 * (realSvc.cs a).2 = 1 := csR_unit a

theorem realSvc_csOdd : CsOdd realSvc := fun a => csR_neg a

theorem realSvc_eulerOK (m : M3 ℝ) (h : IsRot m) : EulerOK realSvc m := by
  unfold EulerOK eulerMat
  simp only [realSvc, eulerR]
  rcases h.rot.zxz_cases (mul_self_sqrt h.rot.sq_a33_le) with ⟨hz, hp, u, e⟩ | ⟨hz, hp, u, e⟩ | ⟨hz, u1, u2, u3, e⟩
  · rw [if_pos hz, if_pos hp]
    simp only [csR_degOf _ _ u, csR_zero]
    exact e
  · rw [if_pos hz, if_neg hp]
    simp only [csR_degOf _ _ u, csR_zero, csR_180]
    exact e
  · rw [if_neg hz]
    simp only [csR_degOf _ _ u1, csR_degOf _ _ u2, csR_degOf _ _ u3]
    exact e

theorem exists_euler_angles (m : M3 ℝ) (h : IsRot m) :
    ∃ phi theta psi : ℝ, zxz (csR phi).1 (csR phi).2 (csR theta).1 (csR theta).2 (csR psi).1 (csR psi).2 = m :=
  ⟨_, _, _, realSvc_eulerOK m h⟩

end real
end CryoCat.C05
