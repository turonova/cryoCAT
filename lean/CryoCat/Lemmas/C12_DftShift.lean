import CryoCat.Lemmas.C12_Dft
import CryoCat.Lemmas.C12
import Mathlib.Algebra.GroupWithZero.Basic
import Mathlib.Tactic.LinearCombination
/-! The two classical facts about the model's own DFT that discharge the hypotheses of the operator theorems `filt_shift`,
`filt_effective_gain`, in 1-D; lifted axis by axis to `dft3` here (conjugation) and in `Props/C12` (shift):

* **shift theorem** `dft1_roll`: the transform of a circularly shifted sequence is a phase times the transform
  (re-indexing the sum over `range n` by the rotation `j ↦ (j + s) mod n`);
* **conjugation / Hermitian symmetry** `dft1_conj`: for a ring automorphism `conj` with `conj ω = ω⁻¹`, the transform of
  the conjugated sequence at bin `-k` is the conjugate of the transform at bin `k`; hence the spectrum of a
  `conj`-fixed ("real") sequence is Hermitian (`Props/C12.dft1_hermitian_symmetry`, `dft3_hermitian_symmetry`).

Over any field with a primitive `n`-th root of unity; then over ℂ, where the hypotheses are met: `exp(-2πi/n)` (numpy's sign
convention) is a primitive `n`-th root of unity that complex conjugation inverts, and `c ↦ Re c` is a real part (`dftC`, `idftC`,
`dft3_transform_complex`, `dftC_conj`, `idftC_conj`). -/
namespace CryoCat.C12
open Finset

section one
variable {C : Type} [Field C] {n : Nat} {ω : C}

theorem roll_fwd_bwd (n s a : Int) : ((a + s) % n - s) % n = a % n := by
  rw [Int.emod_sub_emod, add_sub_cancel_right]

theorem roll_bwd_fwd (n s a : Int) : ((a - s) % n + s) % n = a % n := by
  rw [Int.emod_add_emod, sub_add_cancel]

theorem roll1_in (n : Nat) (s i : Int) (hi : 0 ≤ i ∧ i < (n : Int)) : roll1 n s i = (i + s) % (n : Int) := by
  unfold roll1; rw [if_pos hi]

theorem roll1_out (n : Nat) (s i : Int) (hi : ¬ (0 ≤ i ∧ i < (n : Int))) : roll1 n s i = i := by
  unfold roll1; rw [if_neg hi]

theorem roll1_range (n : Nat) (s i : Int) (hi : 0 ≤ i ∧ i < (n : Int)) : 0 ≤ roll1 n s i ∧ roll1 n s i < (n : Int) := by
  rw [roll1_in n s i hi]
  exact emod_range n (by omega) _

theorem roll1_roll1_neg (n : Nat) (s i : Int) : roll1 n (-s) (roll1 n s i) = i := by
  by_cases hi : 0 ≤ i ∧ i < (n : Int)
  · rw [roll1_in n (-s) _ (roll1_range n s i hi), roll1_in n s i hi, ← sub_eq_add_neg, roll_fwd_bwd,
      Int.emod_eq_of_lt hi.1 hi.2]
  · rw [roll1_out n s i hi, roll1_out n (-s) i hi]

theorem roll1_period (n : Nat) (c i : Int) : roll1 n ((n : Int) * c) i = i := by
  by_cases hi : 0 ≤ i ∧ i < (n : Int)
  · rw [roll1_in n _ i hi, Int.add_mul_emod_self_left, Int.emod_eq_of_lt hi.1 hi.2]
  · rw [roll1_out n _ i hi]

theorem Root.zpow_eq (h : Root n ω) (a b c : Int) (e : a = b + (n : Int) * c) : ω ^ a = ω ^ b := by
  rw [e, zpow_add₀ h.ne_zero, zpow_mul, zpow_natCast, h.pow_n, one_zpow, mul_one]

/-- the phase the shift theorem multiplies bin `k` with: `ω^{-sk}` (numpy's `ω = exp(-2πi/n)`: `exp(2πi·sk/n)`) -/
def phase1 (n : Nat) (ω : C) (s k : Int) : C := if 0 ≤ k ∧ k < (n : Int) then ω ^ (-(s * k)) else 1

theorem phase1_ne_zero (h : Root n ω) (s k : Int) : phase1 n ω s k ≠ 0 := by
  unfold phase1
  split_ifs
  · exact zpow_ne_zero _ h.ne_zero
  · exact one_ne_zero

/-- Off the axis range both sides are `x k`. -/
theorem dft1_roll (h : Root n ω) (s : Int) (x : Int → C) (k : Int) :
    dft1 n (fun m => ω ^ m) (fun i => x (roll1 n s i)) k = phase1 n ω s k * dft1 n (fun m => ω ^ m) x k := by
  by_cases hk : 0 ≤ k ∧ k < (n : Int)
  · obtain ⟨a, ha, rfl⟩ := int_of_range n k hk
    have hn : (0 : Int) < n := by exact_mod_cast h.pos
    have hn0 : (n : Int) ≠ 0 := by omega
    rw [dft1_apply h _ a ha, dft1_apply h x a ha, phase1, if_pos hk, mul_sum]
    refine sum_nbij' (fun j => (((j : Int) + s) % (n : Int)).toNat) (fun m => (((m : Int) - s) % (n : Int)).toNat)
      ?_ ?_ ?_ ?_ ?_
    · intro j _
      have := emod_range n h.pos ((j : Int) + s)
      rw [mem_range]; omega
    · intro m _
      have := emod_range n h.pos ((m : Int) - s)
      rw [mem_range]; omega
    · intro j hj
      have hj' := mem_range.1 hj
      rw [Int.toNat_of_nonneg (Int.emod_nonneg _ hn0), roll_fwd_bwd, Int.emod_eq_of_lt (by omega) (by omega)]
      simp
    · intro m hm
      have hm' := mem_range.1 hm
      rw [Int.toNat_of_nonneg (Int.emod_nonneg _ hn0), roll_bwd_fwd, Int.emod_eq_of_lt (by omega) (by omega)]
      simp
    · intro j hj
      have hj' := mem_range.1 hj
      rw [roll1_in n s j ⟨by omega, by omega⟩, Int.toNat_of_nonneg (Int.emod_nonneg _ hn0), ← mul_assoc]
      congr 1
      rw [← zpow_natCast ω (j * a), ← zpow_natCast ω (_ * a), ← zpow_add₀ h.ne_zero]
      apply h.zpow_eq _ _ ((((j : Int) + s) / (n : Int)) * (a : Int))
      have e := Int.emod_add_mul_ediv ((j : Int) + s) (n : Int)
      have hm : ((((((j : Int) + s) % (n : Int)).toNat * a : Nat)) : Int) = (((j : Int) + s) % (n : Int)) * (a : Int) := by
        rw [Nat.cast_mul, Int.toNat_of_nonneg (Int.emod_nonneg _ hn0)]
      rw [hm]
      push_cast
      linear_combination (-(a : Int)) * e
  · unfold dft1 phase1
    rw [if_neg hk, if_neg hk, if_neg hk]
    simp only [roll1_out n s k hk, one_mul]

theorem negBox1_in (n : Nat) (k : Int) (hk : 0 ≤ k ∧ k < (n : Int)) : negBox1 n k = negIdx n k := by
  unfold negBox1; rw [if_pos hk]

theorem negBox1_out (n : Nat) (k : Int) (hk : ¬ (0 ≤ k ∧ k < (n : Int))) : negBox1 n k = k := by
  unfold negBox1; rw [if_neg hk]

theorem negBox1_range (n : Nat) (k : Int) (hk : 0 ≤ k ∧ k < (n : Int)) : 0 ≤ negBox1 n k ∧ negBox1 n k < (n : Int) := by
  rw [negBox1_in n k hk]
  exact negIdx_range n (by omega) k

theorem negBox1_invol (n : Nat) (k : Int) : negBox1 n (negBox1 n k) = k := by
  by_cases hk : 0 ≤ k ∧ k < (n : Int)
  · rw [negBox1_in n _ (negBox1_range n k hk), negBox1_in n k hk]
    unfold negIdx
    rw [← zero_sub, Int.sub_emod_emod, zero_sub, neg_neg, Int.emod_eq_of_lt hk.1 hk.2]
  · rw [negBox1_out n k hk, negBox1_out n k hk]

theorem freq_negBox1_sq (n : Nat) (hn : 0 < n) (j : Int) : freq n (negBox1 n j) * freq n (negBox1 n j) = freq n j * freq n j := by
  unfold negBox1
  split_ifs
  · exact freq_neg_sq n hn j
  · rfl

theorem negIdx_nat (n a : Nat) (ha : a < n) : negIdx n (a : Int) = (((n - a) % n : Nat) : Int) := by
  unfold negIdx
  have e : (-(a : Int)) = ((n - a : Nat) : Int) + (n : Int) * (-1) := by
    rw [Nat.cast_sub ha.le]; ring
  rw [e, Int.add_mul_emod_self_left]
  rfl

variable (conj : C →+* C)

theorem dft1_conj (h : Root n ω) (hω : conj ω = ω⁻¹) (x : Int → C) (k : Int) :
    dft1 n (fun m => ω ^ m) (fun u => conj (x u)) (negBox1 n k) = conj (dft1 n (fun m => ω ^ m) x k) := by
  by_cases hk : 0 ≤ k ∧ k < (n : Int)
  · obtain ⟨a, ha, rfl⟩ := int_of_range n k hk
    rw [negBox1_in n _ hk, negIdx_nat n a ha, dft1_apply h _ _ (Nat.mod_lt _ h.pos), dft1_apply h x a ha, sum_range, sum_range]
    exact Dft.conj_rule h.pow_n conj hω (fun j => x j.val) ⟨a, ha⟩
  · rw [negBox1_out n k hk]
    unfold dft1
    rw [if_neg hk, if_neg hk]

end one

section three
variable {C : Type} [Field C]

theorem dft1_mul_left (n : Nat) (tw : Nat → C) (c : C) (f : Int → C) (k : Int) :
    dft1 n tw (fun u => c * f u) k = c * dft1 n tw f k :=
  dft1_smul (R := C) n tw c f k

def phase3 (d : Dims) (ωx ωy ωz : C) (s k : Idx) : C :=
  phase1 d.nx ωx s.1 k.1 * phase1 d.ny ωy s.2.1 k.2.1 * phase1 d.nz ωz s.2.2 k.2.2

variable {d : Dims} {ωx ωy ωz : C}

theorem dft3_conj (conj : C →+* C) (hx : Root d.nx ωx) (hy : Root d.ny ωy) (hz : Root d.nz ωz)
    (cx : conj ωx = ωx⁻¹) (cy : conj ωy = ωy⁻¹) (cz : conj ωz = ωz⁻¹) (x : Idx → C) (k : Idx) :
    dft3 d (fun m => ωx ^ m) (fun m => ωy ^ m) (fun m => ωz ^ m) (fun i => conj (x i)) (negBoxIdx d k)
      = conj (dft3 d (fun m => ωx ^ m) (fun m => ωy ^ m) (fun m => ωz ^ m) x k) := by
  obtain ⟨a, b, c⟩ := k
  simp only [dft3, alongZ, alongY, alongX, negBoxIdx]
  have e1 := fun b' c' : Int => dft1_conj conj hx cx (fun u => x (u, b', c')) a
  simp only [e1]
  have e2 := fun c' : Int => dft1_conj conj hy cy (fun v => dft1 d.nx (fun m => ωx ^ m) (fun a' => x (a', v, c')) a) b
  simp only [e2]
  exact dft1_conj conj hz cz (fun w => dft1 d.ny (fun m => ωy ^ m) (fun b' => dft1 d.nx (fun m => ωx ^ m) (fun a' => x (a', b', w)) a) b) c

end three

theorem negBoxIdx_invol (d : Dims) (k : Idx) : negBoxIdx d (negBoxIdx d k) = k := by
  obtain ⟨a, b, c⟩ := k
  simp only [negBoxIdx, negBox1_invol]

theorem rollIdx_rollIdx_neg (d : Dims) (s i : Idx) : rollIdx d (-s.1, -s.2.1, -s.2.2) (rollIdx d s i) = i := by
  obtain ⟨a, b, c⟩ := i
  simp only [rollIdx, roll1_roll1_neg]

section inverse
variable {C : Type} {F Finv : (Idx → C) → (Idx → C)}

theorem inv_conj_of_fwd (left_inv : ∀ x, Finv (F x) = x) (right_inv : ∀ y, F (Finv y) = y)
    (conj : C → C) (ν : Idx → Idx) (hν : ∀ k, ν (ν k) = k)
    (hF : ∀ (x : Idx → C) k, F (fun i => conj (x i)) (ν k) = conj (F x k)) (y : Idx → C) :
    Finv (fun k => conj (y (ν k))) = fun i => conj (Finv y i) :=
  Dft.inv_intertwine left_inv right_inv (A := fun x i => conj (x i)) (B := fun y k => conj (y (ν k)))
    (fun x => funext fun k => by rw [← hF x (ν k), hν]) y

end inverse

/-! ### over ℂ: numpy's twiddles, complex conjugation, `np.real` -/
open Complex

/-- numpy's forward twiddle `exp(-2πi/n)` -/
noncomputable def omegaC (n : Nat) : ℂ := (exp (2 * Real.pi * I / n))⁻¹

theorem omegaC_root (n : Nat) (hn : 0 < n) : Root n (omegaC n) :=
  ⟨Dft.expRoot_prim hn, hn, by exact_mod_cast hn.ne'⟩

/-- `np.real` on ℂ, as a map ℂ → ℂ -/
noncomputable def reC (c : ℂ) : ℂ := (c.re : ℂ)

theorem reC_realPart : RealPart ℝ reC :=
  ⟨fun a b => by simp [reC], fun a c => by simp [reC], fun c => by simp [reC]⟩

theorem dft3_transform_complex (d : Dims) (hd : 0 < d.nx ∧ 0 < d.ny ∧ 0 < d.nz) :
    Transform ℝ (dft3 d (fun m => omegaC d.nx ^ m) (fun m => omegaC d.ny ^ m) (fun m => omegaC d.nz ^ m))
      (idft3 d (fun m => omegaC d.nx ^ m) (fun m => omegaC d.ny ^ m) (fun m => omegaC d.nz ^ m) (d.nx : ℂ)⁻¹ (d.ny : ℂ)⁻¹ (d.nz : ℂ)⁻¹)
      reC :=
  dft3_transform d _ _ _ (omegaC_root _ hd.1) (omegaC_root _ hd.2.1) (omegaC_root _ hd.2.2) reC reC_realPart


/-- numpy's `fftn` and (`idftC`) `ifftn` on the box `d`, exact over ℂ -/
noncomputable abbrev dftC (d : Dims) : (Idx → ℂ) → (Idx → ℂ) :=
  dft3 d (fun m => omegaC d.nx ^ m) (fun m => omegaC d.ny ^ m) (fun m => omegaC d.nz ^ m)
noncomputable abbrev idftC (d : Dims) : (Idx → ℂ) → (Idx → ℂ) :=
  idft3 d (fun m => omegaC d.nx ^ m) (fun m => omegaC d.ny ^ m) (fun m => omegaC d.nz ^ m) (d.nx : ℂ)⁻¹ (d.ny : ℂ)⁻¹ (d.nz : ℂ)⁻¹

/-- the phase of numpy's shift theorem, `exp(2πi (s·k)/n)` per axis -/
noncomputable abbrev phaseC (d : Dims) (s k : Idx) : ℂ := phase3 d (omegaC d.nx) (omegaC d.ny) (omegaC d.nz) s k

theorem omegaC_conj (n : Nat) : (starRingEnd ℂ) (omegaC n) = (omegaC n)⁻¹ := Dft.expRoot_conj n

theorem reC_half (c : ℂ) : reC c = (1 / 2 : ℝ) • (c + (starRingEnd ℂ) c) := by
  unfold reC
  apply Complex.ext <;> simp
  ring

theorem conj_real_smul (a : ℝ) (c : ℂ) : (starRingEnd ℂ) (a • c) = a • (starRingEnd ℂ) c := by
  rw [Complex.real_smul, Complex.real_smul, map_mul, Complex.conj_ofReal]

theorem dftC_conj (d : Dims) (hd : 0 < d.nx ∧ 0 < d.ny ∧ 0 < d.nz) (x : Idx → ℂ) (k : Idx) :
    dftC d (fun i => (starRingEnd ℂ) (x i)) (negBoxIdx d k) = (starRingEnd ℂ) (dftC d x k) :=
  dft3_conj (starRingEnd ℂ) (omegaC_root _ hd.1) (omegaC_root _ hd.2.1) (omegaC_root _ hd.2.2)
    (omegaC_conj _) (omegaC_conj _) (omegaC_conj _) x k

theorem idftC_conj (d : Dims) (hd : 0 < d.nx ∧ 0 < d.ny ∧ 0 < d.nz) (y : Idx → ℂ) :
    idftC d (fun k => (starRingEnd ℂ) (y (negBoxIdx d k))) = fun i => (starRingEnd ℂ) (idftC d y i) :=
  inv_conj_of_fwd (dft3_transform_complex d hd).left_inv (dft3_transform_complex d hd).right_inv (starRingEnd ℂ) (negBoxIdx d)
    (negBoxIdx_invol d) (fun x k => dftC_conj d hd x k) y

end CryoCat.C12
