import CryoCat.Lemmas.C15
import CryoCat.Lemmas.List
/-! C15 — helper lemmas about the single operations (core Lean only): what each does to the list of images or inside
the images, that each keeps the stack rectangular, truncation toward zero. -/
namespace CryoCat.C15
variable {α β ι κ : Type}

theorem argsort_perm (le : κ → κ → Bool) (angles : List κ) :
    (argsort le angles).Perm (List.range' 0 angles.length) := by
  unfold argsort
  have := (List.mergeSort_perm angles.zipIdx (fun a b => le a.1 b.1)).map (·.2)
  rwa [List.zipIdx_map_snd] at this

theorem argsort_all_lt (le : κ → κ → Bool) (angles : List κ) (n : Nat) :
    (argsort le angles).all (· < n) = true ↔ angles.length ≤ n := by
  -- a test on all entries does not see their order: test the positions `0 .. angles.length - 1` instead
  rw [(argsort_perm le angles).all_eq]
  simp only [List.all_eq_true, List.mem_range'_1, decide_eq_true_eq, Nat.zero_le, true_and, Nat.zero_add]
  exact ⟨fun h => Nat.le_of_not_lt fun hn => Nat.lt_irrefl n (h n hn), fun h i hi => Nat.lt_of_lt_of_le hi h⟩

theorem filterMap_get_length (imgs : List ι) (idx : List Nat) (h : ∀ i ∈ idx, i < imgs.length) :
    (idx.filterMap (imgs[·]?)).length = idx.length := by
  induction idx with
  | nil => rfl
  | cons a t ih =>
    have ha : a < imgs.length := h a (by simp)
    rw [List.filterMap_cons]
    simp only [List.getElem?_eq_getElem ha, List.length_cons, ih (fun i hi => h i (by simp [hi]))]

/-- `imgs[np.argsort(angles)]` is the stable sort of the (angle, image) pairs by angle -/
theorem argsort_filterMap_getElem? (le : κ → κ → Bool) (angles : List κ) (imgs : List ι) (h : angles.length ≤ imgs.length) :
    (argsort le angles).filterMap (imgs[·]?) = ((angles.zip imgs).mergeSort fun p q => le p.1 q.1).map (·.2) := by
  -- sort the pairs together with their positions: without the images that is the list `argsort` sorts,
  -- without the positions it is the sorted pairs
  have hpos : ((angles.zip imgs).zipIdx.mergeSort fun a b => le a.1.1 b.1.1).map (fun a => (a.1.1, a.2))
      = angles.zipIdx.mergeSort fun a b => le a.1 b.1 := by
    refine (List.map_mergeSort (s := fun (a b : κ × Nat) => le a.1 b.1) (fun _ _ _ _ => rfl)).trans ?_
    congr 1
    conv => rhs; rw [← List.map_fst_zip (l₂ := imgs) h, List.zipIdx_map]
    rfl
  have hpairs : ((angles.zip imgs).zipIdx.mergeSort fun a b => le a.1.1 b.1.1).map (·.1)
      = (angles.zip imgs).mergeSort fun p q => le p.1 q.1 := by
    refine (List.map_mergeSort (s := fun (p q : κ × ι) => le p.1 q.1) (fun _ _ _ _ => rfl)).trans ?_
    rw [List.zipIdx_map_fst]
  have himg : ∀ a ∈ (angles.zip imgs).zipIdx.mergeSort fun a b => le a.1.1 b.1.1, imgs[a.2]? = some a.1.2 := fun a ha =>
    (List.getElem?_zip_eq_some.1 (List.mem_zipIdx_iff_getElem?.1 ((List.mergeSort_perm _ _).mem_iff.1 ha))).2
  rw [argsort, ← hpos, ← hpairs, List.map_map, List.map_map, List.filterMap_map, ← List.filterMap_eq_map]
  exact Lists.filterMap_congr himg

/-- the bounds check on the permutation `argsort` is a comparison of lengths -/
theorem sortTilts_eq (le : κ → κ → Bool) (angles : List κ) (imgs : List ι) :
    sortTilts le angles imgs
      = if angles.length ≤ imgs.length then .ok (((angles.zip imgs).mergeSort fun p q => le p.1 q.1).map (·.2))
        else .error .angleIndex := by
  unfold sortTilts
  by_cases h : angles.length ≤ imgs.length
  · rw [if_pos h, if_pos ((argsort_all_lt le angles _).2 h), argsort_filterMap_getElem? le angles imgs h]
  · rw [if_neg h]; exact if_neg (mt (argsort_all_lt le angles _).1 h)

theorem length_sorted_zip (le : κ → κ → Bool) (angles : List κ) (imgs : List ι) (h : angles.length ≤ imgs.length) :
    (((angles.zip imgs).mergeSort fun p q => le p.1 q.1).map (·.2)).length = angles.length := by
  rw [List.length_map, List.length_mergeSort, List.length_zip, Nat.min_eq_left h]

theorem sortTilts_mem (le : κ → κ → Bool) (angles : List κ) (imgs r : List ι)
    (h : sortTilts le angles imgs = .ok r) : ∀ x ∈ r, x ∈ imgs := by
  rw [sortTilts_eq] at h
  split at h
  · cases h
    intro x hx
    obtain ⟨p, hp, rfl⟩ := List.mem_map.1 hx
    exact (List.of_mem_zip ((List.mergeSort_perm _ _).mem_iff.1 hp)).2
  · cases h

theorem sortTiltsLines_mem (lines : List String) (imgs r : List ι) (h : sortTiltsLines lines imgs = .ok r) :
    ∀ x ∈ r, x ∈ imgs := by
  unfold sortTiltsLines at h
  split at h
  · cases h
  · exact sortTilts_mem _ _ imgs r h

theorem removeTilts_iff (base1 : Bool) (idxs : List Int) (imgs r : List ι) (hs : Gen.C15.indexShift = 1) :
    removeTilts base1 idxs imgs = .ok r ↔
      idxs ≠ [] ∧ (∀ i ∈ idxs, (if base1 then 1 else 0) ≤ i ∧ i < (imgs.length : Int) + (if base1 then 1 else 0))
      ∧ r = (imgs.zipIdx.filter (fun p => !(idxs.contains ((p.2 : Int) + (if base1 then 1 else 0))))).map (·.1) := by
  have hload : indicesLoad base1 idxs
      = if idxs.isEmpty then .error .emptyIdx else .ok (idxs.map (· - (if base1 then 1 else 0))) := by
    cases base1 <;> simp [indicesLoad, hs]
  unfold removeTilts
  rw [hload]
  generalize (if base1 = true then (1 : Int) else 0) = b
  by_cases hne : idxs = []
  · subst hne; simp
  · have he : idxs.isEmpty = false := by simpa using hne
    have hall : ((idxs.map (· - b)).any fun i => decide (i < 0) || decide (i ≥ (imgs.length : Int))) = false
        ↔ ∀ i ∈ idxs, b ≤ i ∧ i < (imgs.length : Int) + b := by
      simp only [List.any_map, List.any_eq_false, Function.comp, Bool.or_eq_true, decide_eq_true_eq]
      exact forall₂_congr fun i _ => by omega
    have hfil : ∀ p : ι × Nat, (idxs.map (· - b)).contains (p.2 : Int) = idxs.contains ((p.2 : Int) + b) := by
      intro p
      rw [Bool.eq_iff_iff]
      simp only [List.contains_iff_mem, List.mem_map]
      exact ⟨fun ⟨x, hx, e⟩ => (by omega : x = p.2 + b) ▸ hx, fun hx => ⟨_, hx, by omega⟩⟩
    simp only [he, Bool.false_eq_true, if_false, hne, ne_eq, not_false_eq_true, true_and, hfil, ← hall]
    cases (idxs.map (· - b)).any fun i => decide (i < 0) || decide (i ≥ (imgs.length : Int))
    · exact ⟨fun h => ⟨rfl, (Except.ok.inj h).symm⟩, fun h => congrArg Except.ok h.2.symm⟩
    · exact ⟨fun h => (by cases h), fun h => (by cases h.1)⟩

theorem removeTilts_sublist {base1 : Bool} {idxs : List Int} {imgs r : List ι} (h : removeTilts base1 idxs imgs = .ok r) :
    r.Sublist imgs := by
  unfold removeTilts at h
  split at h
  · cases h
  · split at h
    · cases h
    · cases h
      have key : ∀ s : List (ι × Nat), s.Sublist imgs.zipIdx → (s.map (·.1)).Sublist imgs := fun s hs => by
        have := hs.map (·.1)
        rwa [List.zipIdx_map_fst] at this
      exact key _ List.filter_sublist

theorem removeTiltsSrc_sublist {src : IdxSrc} {base1 : Bool} {idxs : List Int} {imgs r : List ι}
    (h : removeTiltsSrc src base1 idxs imgs = .ok r) : r.Sublist imgs := by
  cases src with
  | list => exact removeTilts_sublist h
  | other => cases h
  | txt | csv =>
    simp only [removeTiltsSrc] at h
    split at h
    · cases h; exact .refl _
    · exact removeTilts_sublist h

theorem zipIdx_filter_fst (imgs : List ι) (q : Nat → Bool) :
    (imgs.zipIdx.filter (fun p => q p.2)).map (·.1) = ((List.range imgs.length).filter q).filterMap (imgs[·]?) := by
  rw [List.range_eq_range', ← List.zipIdx_map_snd 0 imgs, List.filter_map, List.filterMap_map, ← List.filterMap_eq_map]
  refine Lists.filterMap_congr fun p hp => ?_
  have := List.mem_zipIdx_iff_getElem?.1 (List.mem_filter.1 hp).1
  simp [Function.comp, this]

theorem interleave_nil_left (ys : List ι) : interleave [] ys = ys := by
  unfold interleave; rfl

theorem interleave_cons (x : ι) (xs ys : List ι) : interleave (x :: xs) ys = x :: interleave ys xs := by
  rw [interleave]

theorem interleave_sel (l : List ι) : interleave (sel0 l) (sel0.sel1 l) = l := by
  induction l with
  | nil => simp [sel0, sel0.sel1, interleave_nil_left]
  | cons a t ih => simp only [sel0, sel0.sel1, interleave_cons, ih]

theorem sel_getElem? (l : List ι) :
    (∀ k, (sel0 l)[k]? = l[2 * k]?) ∧ (∀ k, (sel0.sel1 l)[k]? = l[2 * k + 1]?) := by
  induction l with
  | nil => simp [sel0, sel0.sel1]
  | cons a t ih =>
    refine ⟨?_, ?_⟩
    · intro k
      cases k with
      | zero => simp [sel0]
      | succ k =>
        simp only [sel0, List.getElem?_cons_succ, ih.2 k]
        have : 2 * (k + 1) = (2 * k + 1) + 1 := by omega
        rw [this, List.getElem?_cons_succ]
    · intro k
      simp only [sel0.sel1, List.getElem?_cons_succ, ih.1 k]

theorem sel_sublist (l : List ι) : (sel0 l).Sublist l ∧ (sel0.sel1 l).Sublist l := by
  induction l with
  | nil => simp [sel0, sel0.sel1]
  | cons a t ih =>
    exact ⟨by simp only [sel0]; exact ih.2.cons_cons a, by simp only [sel0.sel1]; exact ih.1.cons a⟩

theorem evens_odds_sublist (l : List ι) : (evens l).Sublist l ∧ (odds l).Sublist l := by
  unfold evens odds
  split
  · exact sel_sublist l
  · exact (sel_sublist l).symm

theorem splitTilts_ok {imgs : List ι} {p : List ι × List ι} (h : splitTilts imgs = .ok p) :
    2 ≤ imgs.length ∧ p = (evens imgs, odds imgs) := by
  unfold splitTilts at h
  split at h
  · cases h
  · split at h
    · cases h
    · cases h; exact ⟨by omega, rfl⟩

theorem sel_length (l : List ι) :
    (sel0 l).length = (l.length + 1) / 2 ∧ (sel0.sel1 l).length = l.length / 2 := by
  induction l with
  | nil => simp [sel0, sel0.sel1]
  | cons a t ih =>
    refine ⟨?_, ?_⟩
    · simp only [sel0, List.length_cons, ih.2]; omega
    · simp only [sel0.sel1, List.length_cons, ih.1]

theorem flipAxis_comm (j k : Nat) (v : L3 α) : flipAxis j (flipAxis k v) = flipAxis k (flipAxis j v) := by
  match j, k with
  | 0, 0 | 1, 1 | 2, 2 => rfl
  | 0, 1 | 1, 0 | 0, 2 | 2, 0 => simp only [flipAxis, List.map_reverse]
  | 1, 2 | 2, 1 => simp only [flipAxis, List.map_map, Function.comp_def, List.map_reverse]
  | _ + 3, _ => rfl
  | 0, _ + 3 | 1, _ + 3 | 2, _ + 3 => rfl

theorem flipAll_flipAxis (k : Nat) : ∀ (axes : List String) (v : L3 α),
    flipAll axes (flipAxis k v) = (flipAll axes v).map (flipAxis k)
  | [], _ => rfl
  | a :: as, v => by
    unfold flipAll
    cases flipNamed a with
    | none => rfl
    | some j =>
      simp only
      rw [flipAxis_comm j k v]
      exact flipAll_flipAxis k as _

theorem Rect.map_img {n0 n1 n2 m1 m2 : Nat} {v : L3 α} (h : Rect n0 n1 n2 v) (g : List (List α) → List (List α))
    (hg : ∀ img, img.length = n1 → (∀ row ∈ img, row.length = n2) → (g img).length = m1 ∧ ∀ row ∈ g img, row.length = m2) :
    Rect n0 m1 m2 (v.map g) := by
  refine ⟨by rw [List.length_map, h.1], fun img himg => ?_⟩
  obtain ⟨img', h', rfl⟩ := List.mem_map.1 himg
  exact hg img' (h.2 img' h').1 (h.2 img' h').2

theorem flipAxis_rect (k : Nat) {n0 n1 n2 : Nat} {v : L3 α} (h : Rect n0 n1 n2 v) : Rect n0 n1 n2 (flipAxis k v) := by
  match k with
  | 0 => exact ⟨by rw [flipAxis, List.length_reverse, h.1], fun img himg => h.2 img (List.mem_reverse.1 himg)⟩
  | 1 =>
    exact h.map_img List.reverse fun img h1 h2 =>
      ⟨by rw [List.length_reverse, h1], fun row hr => h2 row (List.mem_reverse.1 hr)⟩
  | 2 =>
    refine h.map_img (List.map List.reverse) fun img h1 h2 => ⟨by rw [List.length_map, h1], fun row hr => ?_⟩
    obtain ⟨row', hr', rfl⟩ := List.mem_map.1 hr
    rw [List.length_reverse, h2 row' hr']
  | _ + 3 => exact h

theorem flipAll_rect {n0 n1 n2 : Nat} : ∀ (axes : List String) {v w : L3 α},
    flipAll axes v = .ok w → Rect n0 n1 n2 v → Rect n0 n1 n2 w
  | [], _, _, h, hv => by cases h; exact hv
  | a :: as, v, w, h, hv => by
    unfold flipAll at h
    split at h
    · exact flipAll_rect as h (flipAxis_rect _ hv)
    · cases h

theorem flipArg_rect {n0 n1 n2 : Nat} {arg : AxesArg} {v w : L3 α} (h : flipArg arg v = .ok w) (hv : Rect n0 n1 n2 v) :
    Rect n0 n1 n2 w := by
  cases arg with
  | one a => exact flipAll_rect [a] h hv
  | list as => exact flipAll_rect as h hv
  | other => cases h

theorem cropStart_fits {full new : Nat} (h : new ≤ full) : cropStart full new + new ≤ full := by
  unfold cropStart; omega

theorem window_length {s len : Nat} {l : List β} (h : s + len ≤ l.length) : (window s len l).length = len := by
  simp [window]; omega

theorem window_getElem? {s len i : Nat} (l : List β) (hi : i < len) : (window s len l)[i]? = l[s + i]? := by
  simp [window, hi]

theorem get3_cropV (d : α) (H W h w : Nat) (v : L3 α) {z j i : Nat} (hj : j < h) (hi : i < w) :
    get3 d (cropV H W h w v) z j i = get3 d v z (cropStart H h + j) (cropStart W w + i) := by
  simp only [get3, cropV, List.getD_eq_getElem?_getD, List.getElem?_map]
  cases v[z]? with
  | none => simp
  | some img =>
    simp only [Option.map_some, Option.getD_some, List.getElem?_map, window_getElem? img hj]
    cases img[cropStart H h + j]? with
    | none => simp
    | some row => simp [window_getElem? row hi]

theorem cropV_rect {n H W h w : Nat} {v : L3 α} (hv : Rect n H W v) (hh : h ≤ H) (hw : w ≤ W) :
    Rect n h w (cropV H W h w v) := by
  refine hv.map_img _ fun img h1 h2 =>
    ⟨by rw [List.length_map, window_length (by rw [h1]; exact cropStart_fits hh)], fun row hr => ?_⟩
  obtain ⟨row', hr', rfl⟩ := List.mem_map.1 hr
  have hmem : row' ∈ img := List.mem_of_mem_drop (List.mem_of_mem_take hr')
  exact window_length (by rw [h2 row' hmem]; exact cropStart_fits hw)

theorem crop_ok {newW newH : Option Nat} {a r : A3 α} (h : crop newW newH a = .ok r) :
    newW.getD a.d2 ≤ a.d2 ∧ newH.getD a.d1 ≤ a.d1
    ∧ r = { d0 := a.d0, d1 := newH.getD a.d1, d2 := newW.getD a.d2, v := cropV a.d1 a.d2 (newH.getD a.d1) (newW.getD a.d2) a.v } := by
  unfold crop at h
  simp only at h
  split at h
  · cases h
  · split at h
    · cases h
    · cases h; exact ⟨by omega, by omega, rfl⟩

theorem rect_of_mem {n h w : Nat} {v v' : L3 α} (hv : Rect n h w v) (hsub : ∀ x ∈ v', x ∈ v) :
    Rect v'.length h w v' := ⟨rfl, fun img himg => hv.2 img (hsub img himg)⟩

theorem wf_of_select {a : A3 α} (h : a.WF) {e : Except Err (L3 α)} (hsel : ∀ v, e = .ok v → ∀ x ∈ v, x ∈ a.v)
    {rs : List (A3 α)} (hrs : e.map (fun v => [{ a with d0 := v.length, v := v }]) = .ok rs) : ∀ r ∈ rs, r.WF := by
  obtain ⟨v, rfl, rfl⟩ := except_map_ok hrs
  exact List.forall_mem_singleton.2 (rect_of_mem h (hsel v rfl))

variable {a : A3 α} {rs : List (A3 α)}

theorem opSort_wf (h : a.WF) {le : κ → κ → Bool} {angles : List κ} (hrs : opSort le angles a = .ok rs) : ∀ r ∈ rs, r.WF :=
  wf_of_select h (fun v hv => sortTilts_mem le angles a.v v hv) hrs

theorem opSortArg_wf (h : a.WF) {arg : AngArg} (hrs : opSortArg arg a = .ok rs) : ∀ r ∈ rs, r.WF := by
  unfold opSortArg at hrs
  split at hrs
  · cases hrs
  · exact wf_of_select h (fun v hv => sortTiltsLines_mem _ a.v v hv) hrs

theorem opRemoveSrc_wf (h : a.WF) {src : IdxSrc} {base1 : Bool} {idxs : List Int} (hrs : opRemoveSrc src base1 idxs a = .ok rs) :
    ∀ r ∈ rs, r.WF :=
  wf_of_select h (fun _ hv => (removeTiltsSrc_sublist hv).subset) hrs

theorem opSplit_wf (h : a.WF) (hrs : opSplit a = .ok rs) : ∀ r ∈ rs, r.WF := by
  obtain ⟨p, hs, rfl⟩ := except_map_ok hrs
  cases (splitTilts_ok hs).2
  intro r hr
  simp only [List.mem_cons, List.not_mem_nil, or_false] at hr
  rcases hr with rfl | rfl
  · exact rect_of_mem h (evens_odds_sublist a.v).1.subset
  · exact rect_of_mem h (evens_odds_sublist a.v).2.subset

theorem opFlipArg_wf (h : a.WF) {arg : AxesArg} (hrs : opFlipArg arg a = .ok rs) : ∀ r ∈ rs, r.WF := by
  obtain ⟨w, hf, rfl⟩ := except_map_ok hrs
  exact List.forall_mem_singleton.2 (flipArg_rect hf h)

theorem opCrop_wf (h : a.WF) {newW newH : Option Nat} (hrs : opCrop newW newH a = .ok rs) : ∀ r ∈ rs, r.WF := by
  obtain ⟨c, hc, rfl⟩ := except_map_ok hrs
  obtain ⟨hw, hh, rfl⟩ := crop_ok hc
  exact List.forall_mem_singleton.2 (cropV_rect h hh hw)

/-! truncation toward zero: numpy's `astype(int16)` of a float -/

theorem tdiv_toward_zero (num : Int) (den : Nat) (hden : 0 < den) :
    (0 ≤ num → 0 ≤ Int.tdiv num den ∧ Int.tdiv num den * den ≤ num ∧ num < (Int.tdiv num den + 1) * den)
    ∧ (num ≤ 0 → Int.tdiv num den ≤ 0 ∧ num ≤ Int.tdiv num den * den ∧ (Int.tdiv num den - 1) * den < num) := by
  have hd : (0 : Int) < den := Int.natCast_pos.2 hden
  -- `num = t * den + m` where the remainder `m` has the sign of `num` and `|m| < den`
  have hdm := Int.tdiv_mul_add_tmod num den
  have hlt := Int.tmod_lt_of_pos num hd
  have hgt := Int.lt_tmod_of_pos num hd
  rw [Int.add_mul, Int.sub_mul, Int.one_mul]
  constructor
  · intro h
    have := Int.tmod_nonneg den h
    exact ⟨Int.tdiv_nonneg h (Int.le_of_lt hd), by omega, by omega⟩
  · intro h
    have h1 := Int.tdiv_nonneg (Int.neg_nonneg_of_nonpos h) (Int.le_of_lt hd)
    have h2 := Int.tmod_nonneg den (Int.neg_nonneg_of_nonpos h)
    rw [Int.neg_tdiv] at h1
    rw [Int.neg_tmod] at h2
    exact ⟨by omega, by omega, by omega⟩

end CryoCat.C15
