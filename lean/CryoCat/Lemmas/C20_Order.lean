import CryoCat.Lemmas.C20_Greedy
import CryoCat.Lemmas.Sort
import Mathlib.Data.Prod.Lex
/-! C20 — the order laws of the tuple order `LexLe`, and what they give for `sortCands`: a sorted list, the same for every
production order of the candidates.

A module of its own because of its import: with `Mathlib.Order.Lattice` in scope, `<` of a `LinearOrder` elaborates through
the lattice instances, and the definition `LexLe` (`Lemmas/C20_Greedy`) would elaborate to another term. -/
namespace CryoCat.C20
variable {α : Type} [LinearOrder α]

/-- Python's tuple order is the lexicographic product order: `LexLe a b` unfolds to `a.key ≤ b.key`, so its order laws are
those of `α ×ₗ ℕ ×ₗ ℕ` -/
def Cand.key (a : Cand α) : α ×ₗ ℕ ×ₗ ℕ := toLex (a.d, toLex (a.s, a.t))

theorem lexLe_iff_key (a b : Cand α) : LexLe a b ↔ a.key ≤ b.key := by
  simp only [LexLe, Cand.key, Prod.Lex.toLex_le_toLex]

omit [LinearOrder α] in
theorem Cand.key_inj {a b : Cand α} (h : a.key = b.key) : a = b := by
  cases a; cases b
  simp only [Cand.key, EmbeddingLike.apply_eq_iff_eq, Prod.mk.injEq] at h
  obtain ⟨rfl, rfl, rfl⟩ := h; rfl

theorem lexLe_trans {a b c : Cand α} (h1 : LexLe a b) (h2 : LexLe b c) : LexLe a c :=
  (lexLe_iff_key a c).2 (le_trans ((lexLe_iff_key a b).1 h1) ((lexLe_iff_key b c).1 h2))

theorem lexLe_total (a b : Cand α) : LexLe a b ∨ LexLe b a := by
  rw [lexLe_iff_key, lexLe_iff_key]; exact le_total _ _

theorem lexLe_antisymm {a b : Cand α} (h1 : LexLe a b) (h2 : LexLe b a) : a = b :=
  Cand.key_inj (le_antisymm ((lexLe_iff_key a b).1 h1) ((lexLe_iff_key b a).1 h2))

theorem sortCands_pairwise (cs : List (Cand α)) : (sortCands cs).Pairwise LexLe :=
  Lists.pairwise_mergeSort_of_iff candLe LexLe candLe_iff (fun _ _ _ => lexLe_trans) lexLe_total cs

theorem sortCands_perm {cs cs' : List (Cand α)} (h : cs.Perm cs') : sortCands cs = sortCands cs' := by
  refine List.Perm.eq_of_pairwise (le := LexLe) (fun a b _ _ h1 h2 => lexLe_antisymm h1 h2)
    (sortCands_pairwise cs) (sortCands_pairwise cs') ?_
  unfold sortCands
  exact ((List.mergeSort_perm cs candLe).trans h).trans (List.mergeSort_perm cs' candLe).symm

end CryoCat.C20
