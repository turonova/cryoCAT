import CryoCat.Model.C02_Remove
import CryoCat.Model.C02_Layout
/-! C02 — the operations on the blocks read: `data_id` (Python list indexing), `get_specifier_id` (which `get_frame_and_comments`
and `remove_lines` look a block up by), `remove_lines`. Core Lean only. -/
namespace CryoCat.C02

theorem pyIndex_nonneg (len k : Nat) (h : k < len) : pyIndex len (k : Int) = some k := by
  simp [pyIndex, h]

theorem pyIndex_neg (len k : Nat) (h1 : 0 < k) (h2 : k ≤ len) : pyIndex len (-(k : Int)) = some (len - k) := by
  have : ¬ (0 : Int) ≤ -(k : Int) := by omega
  simp only [pyIndex, this, if_false, Int.neg_neg, Int.toNat_natCast, h2, if_true]

theorem pyIndex_lt (len : Nat) (i : Int) (k : Nat) (h : pyIndex len i = some k) : k < len := by
  unfold pyIndex at h
  split at h
  · split at h
    · cases h; assumption
    · cases h
  · split at h
    · cases h; omega
    · cases h

theorem specifierId_some (names : List Word) (s : Word) (k : Nat) :
    specifierId names s = some k ↔ names[k]? = some s ∧ ∀ j < k, names[j]? ≠ some s := by
  induction names generalizing k with
  | nil => simp [specifierId]
  | cons n ns ih =>
    unfold specifierId
    cases k with
    | zero => by_cases hn : n = s <;> simp [hn]
    | succ a => by_cases hn : n = s <;> simp [hn, ih a, Nat.forall_lt_succ_left]

theorem specifierId_none (names : List Word) (s : Word) : specifierId names s = none ↔ s ∉ names := by
  induction names with
  | nil => simp [specifierId]
  | cons n ns ih =>
    unfold specifierId
    by_cases hn : n = s
    · subst hn; simp
    · simp only [hn, if_false, Option.map_eq_none_iff, ih, List.mem_cons, not_or]
      exact ⟨fun h => ⟨fun e => hn e.symm, h⟩, fun h => h.2⟩

/-! ### `remove_lines` -/

theorem dropRowsGo_sublist {α : Type} (idx : List Nat) : ∀ (i : Nat) (rows : List α), (dropRowsGo idx i rows).Sublist rows
  | _, [] => by simp [dropRowsGo]
  | i, r :: rs => by
    unfold dropRowsGo
    split
    · exact (dropRowsGo_sublist idx (i + 1) rs).cons _
    · exact (dropRowsGo_sublist idx (i + 1) rs).cons_cons _

theorem dropRows_sublist {α : Type} (idx : List Nat) (rows : List α) : (dropRows idx rows).Sublist rows :=
  dropRowsGo_sublist idx 0 rows

theorem dropRowsGo_nil {α : Type} : ∀ (i : Nat) (rows : List α), dropRowsGo [] i rows = rows
  | _, [] => rfl
  | i, r :: rs => by simp [dropRowsGo, dropRowsGo_nil (i + 1) rs]

theorem exists_getElem?_cons {α : Type} (r : α) (rs : List α) (x : α) (P : Nat → Prop) :
    (∃ k, (r :: rs)[k]? = some x ∧ P k) ↔ (r = x ∧ P 0) ∨ ∃ k, rs[k]? = some x ∧ P (k + 1) := by
  constructor
  · rintro ⟨_ | k, hk, hP⟩
    · exact Or.inl ⟨by simpa using hk, hP⟩
    · exact Or.inr ⟨k, by simpa using hk, hP⟩
  · rintro (⟨rfl, hP⟩ | ⟨k, hk, hP⟩)
    · exact ⟨0, rfl, hP⟩
    · exact ⟨k + 1, by simpa using hk, hP⟩

theorem dropRowsGo_mem {α : Type} (idx : List Nat) : ∀ (i : Nat) (rows : List α) (x : α),
    x ∈ dropRowsGo idx i rows ↔ ∃ k, rows[k]? = some x ∧ (i + k) ∉ idx
  | _, [], x => by simp [dropRowsGo]
  | i, r :: rs, x => by
    have ih := dropRowsGo_mem idx (i + 1) rs x
    simp only [Nat.add_assoc, Nat.add_comm 1] at ih
    rw [exists_getElem?_cons, ← ih]
    by_cases hc : i ∈ idx
    · simp [dropRowsGo, hc]
    · simp [dropRowsGo, hc, eq_comm]

theorem dropAt_ok : ∀ (bs : List Block) (k : Nat) (idx : List Nat), (∀ b ∈ bs, BlockOk b) → ∀ b ∈ dropAt bs k idx, BlockOk b
  | [], _, _, _ => by simp [dropAt]
  | b :: bs, 0, idx, h => by
    intro b' hb'
    simp only [dropAt, List.mem_cons] at hb'
    rcases hb' with rfl | hb'
    · obtain ⟨h1, h2, h3, h4⟩ := h b (by simp)
      exact ⟨h1, h2, h3, fun r hr => h4 r ((dropRows_sublist idx b.rows).subset hr)⟩
    · exact h b' (by simp [hb'])
  | b :: bs, k + 1, idx, h => by
    intro b' hb'
    simp only [dropAt, List.mem_cons] at hb'
    rcases hb' with rfl | hb'
    · exact h _ (by simp)
    · exact dropAt_ok bs k idx (fun x hx => h x (by simp [hx])) b' hb'

theorem dropAt_length : ∀ (bs : List Block) (k : Nat) (idx : List Nat), (dropAt bs k idx).length = bs.length
  | [], _, _ => rfl
  | _ :: _, 0, _ => rfl
  | _ :: bs, k + 1, idx => by simp [dropAt, dropAt_length bs k idx]

/-- the block `remove_lines` works on: block 0, or the first block called `data_specifier` -/
def removeTarget (bcs : List (Block × List Comment)) (spec : Option Word) : Option Nat :=
  match spec with
  | none => some 0
  | some s => specifierId ((blocksOf bcs).map Block.name) s

/-- the lists `remove_lines` hands to the writer have equal lengths: never the `ValueError` -/
theorem printStarC_dropAt (nc : Bool) (bcs : List (Block × List Comment)) (k : Nat) (idx : List Nat) :
    printStarC nc (comsOf bcs) (dropAt (blocksOf bcs) k idx) = some (printAllC nc (comsOf bcs) (dropAt (blocksOf bcs) k idx)) := by
  simp [printStarC, dropAt_length, comsOf, blocksOf]

theorem removeLines_read (txt : List Char) (idx : List Nat) (spec : Option Word) (nc : Bool) (bcs : List (Block × List Comment))
    (hb : readStarC txt = .ok bcs) :
    removeLines txt idx spec nc =
      match removeTarget bcs spec with
      | none => .error .notFound
      | some k =>
        match bcs[k]? with
        | none => .error (.sel .index)
        | some bc =>
          if idx.all (· < bc.1.rows.length) then .ok (printAllC nc (comsOf bcs) (dropAt (blocksOf bcs) k idx)) else .error .rowIndex := by
  unfold removeLines
  simp only [hb, printStarC_dropAt]
  cases spec <;> rfl

end CryoCat.C02
