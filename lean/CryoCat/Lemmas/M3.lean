import CryoCat.Model.M3
import Mathlib.Tactic.Ring
import Mathlib.Tactic.LinearCombination
/-! Algebra of `M3` and `V3` over any commutative ring (exact arithmetic; no trigonometry): products, transposes, the action
`M3.apply` on vectors (linear; a rigid motion `x ↦ a·x + t` turns differences by `a`), what orthogonality gives (`qᵀ` undoes `q`,
cancellation, conjugation `q·z·qᵀ`), the elementary rotations, conjugation by an involution (`Mz`, `Qy`), `zxz` / `ZYZ`.

Matrix identities are checked entry by entry: unfold the matrices involved with `simp only`, split into entries (`congr 1`
between two unfolded matrices, `ext` against a variable), `ring` (the full simp set is slow on nine entries of a product).
Identities that follow from others (orthogonality from angle addition, `ry` from `rx` by a quarter turn about z, conjugation
by `Mz`, `Qy` from their action on rows and columns) are derived from them. -/
namespace CryoCat
variable {α : Type} [CommRing α]

theorem M3.mul_def (m n : M3 α) : m * n = M3.mul m n := rfl

theorem M3.mul_assoc' (a b c : M3 α) : a * b * c = a * (b * c) := by
  simp only [M3.mul_def, M3.mul]; congr 1 <;> ring

theorem M3.one_mul' (m : M3 α) : M3.one * m = m := by
  ext <;> simp only [M3.mul_def, M3.mul, M3.one] <;> ring
theorem M3.mul_one' (m : M3 α) : m * M3.one = m := by
  ext <;> simp only [M3.mul_def, M3.mul, M3.one] <;> ring

theorem M3.transpose_mul (a b : M3 α) : (a * b).transpose = b.transpose * a.transpose := by
  simp only [M3.mul_def, M3.mul, M3.transpose]; congr 1 <;> ring
omit [CommRing α] in
theorem M3.transpose_transpose (a : M3 α) : a.transpose.transpose = a := by
  ext <;> rfl

theorem M3.apply_mul (a b : M3 α) (v : V3 α) : (a * b).apply v = a.apply (b.apply v) := by
  simp only [M3.mul_def, M3.mul, M3.apply]; congr 1 <;> ring
theorem M3.apply_one (v : V3 α) : (M3.one : M3 α).apply v = v := by
  ext <;> simp only [M3.apply, M3.one] <;> ring
theorem M3.apply_ez (m : M3 α) : m.apply ⟨0, 0, 1⟩ = m.col3 := by
  simp only [M3.apply, M3.col3, mul_zero, mul_one, zero_add]
theorem V3.add_def (u v : V3 α) : u + v = V3.add u v := rfl
theorem V3.sub_def (u v : V3 α) : u - v = V3.sub u v := rfl
theorem V3.neg_def (u : V3 α) : -u = V3.neg u := rfl
theorem M3.apply_add (a : M3 α) (u v : V3 α) : a.apply (u + v) = a.apply u + a.apply v := by
  simp only [M3.apply, V3.add_def, V3.add]; congr 1 <;> ring
theorem M3.apply_sub (a : M3 α) (u v : V3 α) : a.apply (u - v) = a.apply u - a.apply v := by
  simp only [M3.apply, V3.sub_def, V3.sub]; congr 1 <;> ring
theorem M3.apply_smul (a : M3 α) (k : α) (v : V3 α) : a.apply (V3.smul k v) = V3.smul k (a.apply v) := by
  simp only [M3.apply, V3.smul]; congr 1 <;> ring

theorem V3.add_sub_add_right (u v t : V3 α) : (u + t) - (v + t) = u - v := by
  simp only [V3.add_def, V3.sub_def, V3.add, V3.sub, add_sub_add_right_eq_sub]
theorem V3.add_sub_cancel_right (u v : V3 α) : u + v - v = u := by
  simp only [V3.add_def, V3.sub_def, V3.add, V3.sub, _root_.add_sub_cancel_right]
theorem V3.add_sub_cancel_left (u v : V3 α) : u + v - u = v := by
  simp only [V3.add_def, V3.sub_def, V3.add, V3.sub, _root_.add_sub_cancel_left]
theorem V3.add_sub_cancel (u v : V3 α) : u + (v - u) = v := by
  simp only [V3.add_def, V3.sub_def, V3.add, V3.sub, _root_.add_sub_cancel]
theorem V3.smul_add (k : α) (u v : V3 α) : V3.smul k (u + v) = V3.smul k u + V3.smul k v := by
  simp only [V3.add_def, V3.add, V3.smul, mul_add]
theorem V3.smul_sub (k : α) (u v : V3 α) : V3.smul k (u - v) = V3.smul k u - V3.smul k v := by
  simp only [V3.sub_def, V3.sub, V3.smul, mul_sub]
theorem V3.normSq_smul (k : α) (u : V3 α) : V3.normSq (V3.smul k u) = k * k * V3.normSq u := by
  simp only [V3.normSq, V3.dot, V3.smul]; ring

/-- the rigid motion `x ↦ a·x + t` turns differences by `a` -/
theorem M3.move_sub (a : M3 α) (t u v : V3 α) : (a.apply v + t) - (a.apply u + t) = a.apply (v - u) := by
  rw [V3.add_sub_add_right, M3.apply_sub]

theorem M3.dot_apply_left (a : M3 α) (u v : V3 α) : V3.dot (a.apply u) v = V3.dot u (a.transpose.apply v) := by
  simp only [V3.dot, M3.apply, M3.transpose]; ring

def M3.Orth (q : M3 α) : Prop := q.transpose * q = M3.one

theorem M3.Orth.dot_apply {q : M3 α} (h : q.Orth) (u v : V3 α) : V3.dot (q.apply u) (q.apply v) = V3.dot u v := by
  have h' : q.transpose * q = M3.one := h
  rw [M3.dot_apply_left, ← M3.apply_mul, h', M3.apply_one]

theorem M3.Orth.normSq_apply {q : M3 α} (h : q.Orth) (u : V3 α) : V3.normSq (q.apply u) = V3.normSq u :=
  h.dot_apply u u

theorem M3.Orth.mul {p q : M3 α} (hp : p.Orth) (hq : q.Orth) : (p * q).Orth := by
  unfold M3.Orth at *
  rw [M3.transpose_mul, M3.mul_assoc', ← M3.mul_assoc' p.transpose, hp, M3.one_mul', hq]

theorem M3.Orth.transpose_apply_apply {q : M3 α} (h : q.Orth) (v : V3 α) : q.transpose.apply (q.apply v) = v := by
  have h' : q.transpose * q = M3.one := h
  rw [← M3.apply_mul, h', M3.apply_one]

theorem M3.Orth.mul_left_cancel {q a b : M3 α} (hq : q.Orth) (h : q * a = q * b) : a = b := by
  have h' := congrArg (q.transpose * ·) h
  simp only [← M3.mul_assoc'] at h'
  rwa [hq, M3.one_mul', M3.one_mul'] at h'

/-- conjugation `q·z·qᵀ` by an orthogonal matrix acts on what `q` has turned as `z` acts before the turn -/
theorem M3.Orth.conj_mul {q : M3 α} (hq : q.Orth) (z w : M3 α) : (q * z * q.transpose) * (q * w) = q * (z * w) := by
  calc (q * z * q.transpose) * (q * w) = q * (z * ((q.transpose * q) * w)) := by simp only [M3.mul_assoc']
    _ = q * (z * w) := by rw [hq, M3.one_mul']

theorem M3.Orth.conj_apply {q : M3 α} (hq : q.Orth) (z : M3 α) (v : V3 α) :
    (q * z * q.transpose).apply (q.apply v) = q.apply (z.apply v) := by
  rw [M3.apply_mul, M3.apply_mul, hq.transpose_apply_apply]

theorem M3.Orth.col3 {q : M3 α} (h : q.Orth) : q.a13 * q.a13 + q.a23 * q.a23 + q.a33 * q.a33 = 1 :=
  congrArg M3.a33 h

theorem rz_transpose (c s : α) : (rz c s).transpose = rz c (-s) := by
  simp only [rz, M3.transpose, neg_neg]
theorem rx_transpose (c s : α) : (rx c s).transpose = rx c (-s) := by
  simp only [rx, M3.transpose, neg_neg]
theorem ry_transpose (c s : α) : (ry c s).transpose = ry c (-s) := by
  simp only [ry, M3.transpose, neg_neg]

theorem rz_apply_ez (c s : α) : (rz c s).apply ⟨0, 0, 1⟩ = ⟨0, 0, 1⟩ := M3.apply_ez _
theorem M3.col3_mul_rz (m : M3 α) (c s : α) : (m * rz c s).col3 = m.col3 := by
  rw [← M3.apply_ez, M3.apply_mul, rz_apply_ez, M3.apply_ez]

theorem rz_mul (c1 s1 c2 s2 : α) : rz c1 s1 * rz c2 s2 = rz (c1*c2 - s1*s2) (s1*c2 + c1*s2) := by
  simp only [M3.mul_def, M3.mul, rz]; congr 1 <;> ring
theorem rx_mul (c1 s1 c2 s2 : α) : rx c1 s1 * rx c2 s2 = rx (c1*c2 - s1*s2) (s1*c2 + c1*s2) := by
  simp only [M3.mul_def, M3.mul, rx]; congr 1 <;> ring
theorem rz_zero : rz (1 : α) 0 = M3.one := by simp only [rz, M3.one, neg_zero]
theorem rx_zero : rx (1 : α) 0 = M3.one := by simp only [rx, M3.one, neg_zero]

theorem ry_eq_conj (c s : α) : ry c s = rz 0 1 * rx c s * rz 0 (-1) := by
  simp only [M3.mul_def, M3.mul, rz, rx, ry]; congr 1 <;> ring

theorem rz_orth (c s : α) (h : c*c + s*s = 1) : (rz c s).Orth := by
  unfold M3.Orth
  rw [rz_transpose, rz_mul, ← rz_zero]
  congr 1
  · linear_combination h
  · ring
theorem rx_orth (c s : α) (h : c*c + s*s = 1) : (rx c s).Orth := by
  unfold M3.Orth
  rw [rx_transpose, rx_mul, ← rx_zero]
  congr 1
  · linear_combination h
  · ring
theorem ry_orth (c s : α) (h : c*c + s*s = 1) : (ry c s).Orth := by
  rw [ry_eq_conj]
  exact ((rz_orth 0 1 (by ring)).mul (rx_orth c s h)).mul (rz_orth 0 (-1) (by ring))

theorem rz_inv (c s : α) (h : c*c + s*s = 1) : rz c (-s) * rz c s = M3.one := by
  rw [← rz_transpose]; exact rz_orth c s h
theorem rx_inv (c s : α) (h : c*c + s*s = 1) : rx c (-s) * rx c s = M3.one := by
  rw [← rx_transpose]; exact rx_orth c s h
theorem ry_inv (c s : α) (h : c*c + s*s = 1) : ry c (-s) * ry c s = M3.one := by
  rw [← ry_transpose]; exact ry_orth c s h

theorem Mz_mul (m : M3 α) : Mz * m = ⟨m.a11, m.a12, m.a13, m.a21, m.a22, m.a23, -m.a31, -m.a32, -m.a33⟩ := by
  simp only [M3.mul_def, M3.mul, Mz]; congr 1 <;> ring
theorem mul_Mz (m : M3 α) : m * Mz = ⟨m.a11, m.a12, -m.a13, m.a21, m.a22, -m.a23, m.a31, m.a32, -m.a33⟩ := by
  simp only [M3.mul_def, M3.mul, Mz]; congr 1 <;> ring
theorem Qy_mul (m : M3 α) : Qy * m = ⟨-m.a11, -m.a12, -m.a13, m.a21, m.a22, m.a23, -m.a31, -m.a32, -m.a33⟩ := by
  simp only [M3.mul_def, M3.mul, Qy]; congr 1 <;> ring
theorem mul_Qy (m : M3 α) : m * Qy = ⟨-m.a11, m.a12, -m.a13, -m.a21, m.a22, -m.a23, -m.a31, m.a32, -m.a33⟩ := by
  simp only [M3.mul_def, M3.mul, Qy]; congr 1 <;> ring

theorem Mz_Mz : (Mz : M3 α) * Mz = M3.one := by rw [Mz_mul]; simp only [Mz, M3.one, neg_neg, neg_zero]
theorem Qy_Qy : (Qy : M3 α) * Qy = M3.one := by rw [Qy_mul]; simp only [Qy, M3.one, neg_neg, neg_zero]
theorem Mz_rz (c s : α) : Mz * rz c s * Mz = rz c s := by simp only [Mz_mul, mul_Mz, rz, neg_neg, neg_zero]
theorem Mz_rx (c s : α) : Mz * rx c s * Mz = rx c (-s) := by simp only [Mz_mul, mul_Mz, rx, neg_neg, neg_zero]
theorem Qy_rz (c s : α) : Qy * rz c s * Qy = rz c (-s) := by simp only [Qy_mul, mul_Qy, rz, neg_neg, neg_zero]
theorem Qy_ry (c s : α) : Qy * ry c s * Qy = ry c s := by simp only [Qy_mul, mul_Qy, ry, neg_neg, neg_zero]
theorem Qy_rx (c s : α) : Qy * rx c s * Qy = rx c (-s) := by simp only [Qy_mul, mul_Qy, rx, neg_neg, neg_zero]

theorem conj_conj {J : M3 α} (hJ : J * J = M3.one) (a : M3 α) : J * (J * a * J) * J = a := by
  rw [M3.mul_assoc', M3.mul_assoc', hJ, M3.mul_one', ← M3.mul_assoc', hJ, M3.one_mul']

/-- conjugation by an involution is multiplicative -/
theorem conj_mul {J : M3 α} (hJ : J * J = M3.one) (a b : M3 α) : J * (a * b) * J = (J * a * J) * (J * b * J) := by
  rw [M3.mul_assoc' (J * a) J, ← M3.mul_assoc' J (J * b) J, ← M3.mul_assoc' J J b, hJ, M3.one_mul',
    ← M3.mul_assoc' (J * a) b J, M3.mul_assoc' J a b]

theorem conj3 (J a b c : M3 α) (hJ : J * J = M3.one) :
    J * (a * b * c) * J = (J * a * J) * (J * b * J) * (J * c * J) := by
  rw [conj_mul hJ, conj_mul hJ]

theorem zxz_orth (cp sp ct st cs ss : α) (hp : cp*cp + sp*sp = 1) (ht : ct*ct + st*st = 1) (hs : cs*cs + ss*ss = 1) :
    (zxz cp sp ct st cs ss).Orth :=
  ((rz_orth cs ss hs).mul (rx_orth ct st ht)).mul (rz_orth cp sp hp)

theorem zxz_transpose (cp sp ct st cs ss : α) : (zxz cp sp ct st cs ss).transpose = zxz cs (-ss) ct (-st) cp (-sp) := by
  unfold zxz
  rw [M3.transpose_mul, M3.transpose_mul, rz_transpose, rx_transpose, rz_transpose, M3.mul_assoc']


/-- conjugation by the z-mirror changes the sign of theta: what `Motl.flip_handedness` does to the angles -/
theorem Mz_zxz (cp sp ct st cs ss : α) : Mz * zxz cp sp ct st cs ss * Mz = zxz cp sp ct (-st) cs ss := by
  unfold zxz
  rw [conj3 Mz _ _ _ Mz_Mz, Mz_rz, Mz_rx, Mz_rz]

theorem zxz_eq (cp sp ct st cs ss : α) : zxz cp sp ct st cs ss =
    ⟨cs * cp - ss * ct * sp, -(cs * sp) - ss * ct * cp, ss * st,
     ss * cp + cs * ct * sp, cs * ct * cp - ss * sp, -(cs * st),
     st * sp, st * cp, ct⟩ := by
  simp only [zxz, M3.mul_def, M3.mul, rz, rx]; congr 1 <;> ring

theorem zxz_col3 (cp sp ct st cs ss : α) :
    (zxz cp sp ct st cs ss).col3 = ⟨ss * st, -(cs * st), ct⟩ := by
  rw [zxz_eq]; rfl

/-- `ZYZ(a, b, c) = zxz(phi = c − 90°, theta = b, psi = a + 90°)` — with (cos a, sin a) = (sin psi, −cos psi) and
(cos c, sin c) = (−sin phi, cos phi) — because `Ry(b) = Rz(90°)·Rx(b)·Rz(−90°)` and quarter turns add to the outer angles -/
theorem ZYZ_of_zxz (cp sp ct st cs ss : α) : ZYZ ss (-cs) ct st (-sp) cp = zxz cp sp ct st cs ss := by
  have e1 : rz ss (-cs) * rz 0 1 = rz cs ss := by rw [rz_mul]; congr 1 <;> ring
  have e2 : rz 0 (-1) * rz (-sp) cp = rz cp sp := by rw [rz_mul]; congr 1 <;> ring
  unfold ZYZ zxz
  rw [ry_eq_conj, ← e1, ← e2]
  simp only [M3.mul_assoc']

end CryoCat
