import CryoCat.Model.C13
import CryoCat.Lemmas.Layout
import CryoCat.Lemmas.C13_Conv
import Mathlib.Tactic.Ring
/-! C13 — the kernel model `blurAt` (`Model/C13.lean`): `mode="nearest"` reads a voxel that lies between the centre
voxel and the unclamped one; the offsets `axis R` are `-R … R`, one pair `±(R+1)` more at every step, and `cube R` is
`[-R,R]³`; a separable kernel has the cube of its 1-D weight. -/
namespace CryoCat.C13

theorem clampIdx_between (n : Nat) (i t : Int) (hi0 : 0 ≤ i) (hi1 : i < (n : Int)) :
    ∃ t' : Int, clampIdx n (i + t) = i + t' ∧ t' * t' ≤ t * t ∧ 0 ≤ i + t' ∧ i + t' < (n : Int) := by
  refine ⟨clampIdx n (i + t) - i, by ring, ?_, ?_, ?_⟩
  · exact Layout.sq_le_of_between (by unfold clampIdx; omega)
  · unfold clampIdx; omega
  · unfold clampIdx; omega

theorem mem_axis_iff (R : Nat) (t : Int) : t ∈ axis R ↔ -(R : Int) ≤ t ∧ t ≤ R := Layout.mem_offsets_iff R t

theorem mem_cube_iff (R : Nat) (q : Int × Int × Int) :
    q ∈ cube R ↔ (-(R : Int) ≤ q.1 ∧ q.1 ≤ R) ∧ (-(R : Int) ≤ q.2.1 ∧ q.2.1 ≤ R) ∧ (-(R : Int) ≤ q.2.2 ∧ q.2.2 ≤ R) := by
  obtain ⟨a, b, c⟩ := q
  simp only [cube, List.mem_flatMap, List.mem_map, Prod.mk.injEq, mem_axis_iff]
  constructor
  · rintro ⟨a', ha, b', hb, c', hc, rfl, rfl, rfl⟩
    exact ⟨ha, hb, hc⟩
  · rintro ⟨ha, hb, hc⟩
    exact ⟨a, ha, b, hb, c, hc, rfl, rfl, rfl⟩

theorem axis_succ (m : ℕ) : axis (m + 1) = -((m : ℤ) + 1) :: (axis m ++ [(m : ℤ) + 1]) := by
  have e : ∀ t : ℕ, ((t + 1 : ℕ) : ℤ) - ((m + 1 : ℕ) : ℤ) = (t : ℤ) - (m : ℤ) := fun t => by omega
  unfold axis
  rw [show 2 * (m + 1) + 1 = (2 * m + 1 + 1) + 1 by ring, List.range_succ_eq_map, List.range_succ]
  simp only [List.map_cons, List.map_append, List.map_map, List.map_nil, Function.comp_def, Nat.succ_eq_add_one, e]
  rw [show ((0 : ℕ) : ℤ) - ((m + 1 : ℕ) : ℤ) = -((m : ℤ) + 1) by omega, show ((2 * m + 1 : ℕ) : ℤ) - (m : ℤ) = (m : ℤ) + 1 by omega]

theorem axis_length (R : ℕ) : (axis R).length = 2 * R + 1 := by simp [axis]

theorem cube_length (R : ℕ) : (cube R).length = (2 * R + 1) ^ 3 := by
  unfold cube
  rw [Layout.length_flatMap_blocks fun a _ => (Layout.length_flatMap_blocks fun b _ => List.length_map _), axis_length]
  ring

section
variable {α : Type} [Field α]

theorem sum_map_flatMap {β γ : Type} (l : List β) (g : β → List γ) (f : γ → α) :
    ((l.flatMap g).map f).sum = (l.map fun b => ((g b).map f).sum).sum := by
  rw [List.map_flatMap, List.flatMap_def, List.sum_flatten, List.map_map]; rfl

theorem cube_weight_sum (R : Nat) (w1 : Int → α) :
    ((cube R).map (w3 w1)).sum = ((axis R).map w1).sum * ((axis R).map w1).sum * ((axis R).map w1).sum := by
  have e : cube R = (axis R).flatMap fun a => (axis R).flatMap fun b => (axis R).map fun c => (a, b, c) := rfl
  rw [e, sum_map_flatMap]
  simp only [sum_map_flatMap, List.map_map, Function.comp_def, w3]
  simp only [List.sum_map_mul_left, List.sum_map_mul_right]

theorem axis_sum_succ (m : ℕ) (f : ℤ → α) :
    ((axis (m + 1)).map f).sum = ((axis m).map f).sum + (f (-((m : ℤ) + 1)) + f ((m : ℤ) + 1)) := by
  rw [axis_succ, List.map_cons, List.sum_cons, List.map_append, List.sum_append, List.map_singleton, List.sum_singleton]
  ring

theorem axis_sum_mono [LinearOrder α] [IsStrictOrderedRing α] (m R : ℕ) (h : m ≤ R) (e : ℤ → α) (he : ∀ t, 0 ≤ e t) :
    ((axis m).map e).sum ≤ ((axis R).map e).sum := by
  induction R, h using Nat.le_induction with
  | base => exact le_rfl
  | succ R _ ih => rw [axis_sum_succ]; exact ih.trans (le_add_of_nonneg_right (add_nonneg (he _) (he _)))
end

end CryoCat.C13
