import CryoCat.Lemmas.C06
import CryoCat.Lemmas.C06_Real
/-! C06 — the pure property theorems that other properties build on (C18: `Lemmas/C18_Real.lean`, `Props/C18.lean`).

They live here, not in `Props/C06.lean`, so that a user imports them WITHOUT the translator obligations of C06
(`anchors_ok`, `*_documented`, and the theorems stated about `Gen.C06.compareBranches` / `n2eOrders` / defaults):
an edit of `cryocat/geom.py` that changes a regenerated table of `Gen/C06.lean` breaks `Props/C06.lean` (as it
must), but not the build of this file, hence not the build of a property that only needs the theorems below.
`Props/C06.lean` re-exports every theorem of this file under the same name with the same statement
(`theorem C06.x … := C06.Export.x …`), so the audit of C06 lists and checks all of them.

Dependence on `Gen/C06.lean`: `Model/C06.lean` imports it, so this file needs `Gen/C06.lean` to be WELL-TYPED
(it is generated from a fixed template; only the right-hand sides vary). It depends on NO VALUE of it: no
definition of `Model/C06.lean` reads a `Gen.C06` constant (`compareRotations` / `n2eColumns` take the table as an
argument, the in-plane tolerance is a parameter `tol`), and none of `Lemmas/C06.lean`, `Lemmas/C06_Geom.lean`,
`Lemmas/C06_Real.lean` mentions one. So no theorem below needs a hypothesis "the regenerated value is the documented one".
What ties `angDist` (the definition these theorems are about) to `geom.angular_distance` is, for C06, the
obligation `C06.ang_expr_documented` plus C06's correspondence run; a property that uses `angDist` as its
reference for that function has to anchor the function's text itself (C18 does: `C18.body_geom_documented`,
`C18.angular_formula_documented` over `Gen/C18.lean`). -/
namespace CryoCat.C06.Export
open Real

/-- `4(p·q)² − 1` is `1 + 2·cos(angle)` with `cos(angle) = 2(p·q)² − 1` -/
theorem trace_rel {α : Type} [CommRing α] (p q : Q4 α) (hp : qnormSq p = 1) (hq : qnormSq q = 1) :
    M3.trace ((toM3 p).transpose * toM3 q) = 4 * (qdot p q * qdot p q) - 1 := by
  rw [trace_rel', hp, hq]; ring

section real
variable (at2 : ℝ → ℝ → ℝ)

theorem angDist_range (p q : Q4 ℝ) : 0 ≤ angDist (realLibm at2) p q ∧ angDist (realLibm at2) p q ≤ 180 := by
  obtain ⟨h0, h1⟩ := angDistRad_range at2 p q
  exact deg_range h0 h1

/-- the rotation angle of `R_pᵀ·R_q` is the angle in [0, π] whose cosine is `(trace − 1)/2` -/
theorem angDist_is_rotation_angle (p q : Q4 ℝ) (hp : qnormSq p = 1) (hq : qnormSq q = 1) :
    angDistRad (realLibm at2) p q = arccos ((M3.trace ((toM3 p).transpose * toM3 q) - 1) / 2) := by
  obtain ⟨h0, h1⟩ := absDot_mem p q
  rw [trace_rel p q hp hq, angDistRad_real, two_arccos _ h0 h1, absDot_eq_abs p q (qdot_sq_le_one p q hp hq),
    abs_mul_abs_self]
  congr 1; ring
end real

/-- the quaternion the driver builds from the half angles is a unit quaternion whose matrix is `Rz(ψ)·Rx(θ)·Rz(φ)`,
scipy's extrinsic "zxz" -/
theorem toM3_qzxz_real (φ θ ψ : ℝ) :
    qnormSq (qzxz (cos (φ/2)) (sin (φ/2)) (cos (θ/2)) (sin (θ/2)) (cos (ψ/2)) (sin (ψ/2))) = 1 ∧
    toM3 (qzxz (cos (φ/2)) (sin (φ/2)) (cos (θ/2)) (sin (θ/2)) (cos (ψ/2)) (sin (ψ/2)))
      = zxz (cos φ) (sin φ) (cos θ) (sin θ) (cos ψ) (sin ψ) := by
  have u : ∀ x : ℝ, cos x * cos x + sin x * sin x = 1 := fun x => by
    rw [← sq, ← sq]; exact cos_sq_add_sin_sq x
  have c2 : ∀ x : ℝ, cos x = cos (x/2) * cos (x/2) - sin (x/2) * sin (x/2) := fun x => by
    rw [← sq, ← sq, ← cos_two_mul', mul_div_cancel₀ x two_ne_zero]
  have s2 : ∀ x : ℝ, sin x = 2 * cos (x/2) * sin (x/2) := fun x => by
    rw [mul_right_comm, ← sin_two_mul, mul_div_cancel₀ x two_ne_zero]
  refine ⟨qnormSq_qzxz _ _ _ _ _ _ (u _) (u _) (u _), ?_⟩
  rw [toM3_qzxz' _ _ _ _ _ _ (u _) (u _) (u _), ← c2, ← c2, ← c2, ← s2, ← s2, ← s2]

end CryoCat.C06.Export
