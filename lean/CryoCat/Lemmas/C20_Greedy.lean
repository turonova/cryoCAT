import CryoCat.Model.C20
import CryoCat.Lemmas.Greedy
import CryoCat.Lemmas.List
import Mathlib.Order.Defs.LinearOrder
import Mathlib.Order.Basic
/-! C20 — the assignment loop (`greedy`): the greedy pass of `Lemmas/Greedy` in which a pair blocks every later pair
with the same source or the same target; and the tuple order `LexLe` that `candLe`, the comparison of `sortCands`, decides
(its order laws: `Lemmas/C20_Order`). -/
namespace CryoCat.C20

section loop
variable {α : Type}

def OneToOne (m : List (Cand α)) : Prop := m.Pairwise (fun a b => a.s ≠ b.s ∧ a.t ≠ b.t)

/-- `a` blocks `c`: the test `s in S or t in T` of the loop -/
def blocks (a c : Cand α) : Bool := a.s == c.s || a.t == c.t

theorem step_eq : (step : List (Cand α) → Cand α → List (Cand α)) = Greedy.step blocks := rfl

theorem blocks_iff (a c : Cand α) : blocks a c = true ↔ a.s = c.s ∨ a.t = c.t := by simp [blocks]

theorem oneToOne_iff (m : List (Cand α)) : OneToOne m ↔ m.Pairwise (fun a b => blocks a b = false) :=
  List.Pairwise.iff (by simp [blocks])

theorem step_oneToOne (acc : List (Cand α)) (c : Cand α) (h : OneToOne acc) : OneToOne (step acc c) :=
  (oneToOne_iff _).2 (Greedy.step_separated blocks acc c ((oneToOne_iff _).1 h))

theorem foldl_oneToOne (cs acc : List (Cand α)) (h : OneToOne acc) : OneToOne (cs.foldl step acc) :=
  (oneToOne_iff _).2 (Greedy.foldl_separated blocks cs acc ((oneToOne_iff _).1 h))

theorem greedy_oneToOne (cs : List (Cand α)) : OneToOne (greedy cs) :=
  foldl_oneToOne cs [] List.Pairwise.nil

theorem step_mono (acc : List (Cand α)) (c : Cand α) : ∀ a ∈ acc, a ∈ step acc c :=
  Greedy.step_mono blocks acc c

theorem foldl_mono (cs acc : List (Cand α)) : ∀ a ∈ acc, a ∈ cs.foldl step acc :=
  Greedy.foldl_mono blocks cs acc

theorem greedy_sub (cs : List (Cand α)) : ∀ a ∈ greedy cs, a ∈ cs :=
  fun _ ha => (Greedy.foldl_sublist blocks cs []).subset ha

theorem greedy_blocked (R : Cand α → Cand α → Prop) (cs : List (Cand α)) (hs : cs.Pairwise R) :
    ∀ c ∈ cs, ∃ a ∈ greedy cs, (a.s = c.s ∨ a.t = c.t) ∧ (a = c ∨ R a c) := by
  intro c hc
  rcases Greedy.foldl_dominated blocks R cs [] hs c hc with h | ⟨a, ha, hb, hr⟩
  · exact ⟨c, h, Or.inl rfl, Or.inl rfl⟩
  · exact ⟨a, ha, (blocks_iff a c).1 hb, Or.inr hr⟩

theorem oneToOneB_iff (out : List (Nat × Nat)) :
    oneToOneB out = true ↔ out.Pairwise (fun x y => x.1 ≠ y.1 ∧ x.2 ≠ y.2) := by
  induction out with
  | nil => simp [oneToOneB]
  | cons p ps ih =>
    simp only [oneToOneB, Bool.and_eq_true, List.all_eq_true, bne_iff_ne, ne_eq, List.pairwise_cons, ih]

theorem pair_unique_of_src {out : List (Nat × Nat)} (h : out.Pairwise (fun x y => x.1 ≠ y.1 ∧ x.2 ≠ y.2))
    {p q : Nat × Nat} (hp : p ∈ out) (hq : q ∈ out) (e : p.1 = q.1) : p = q :=
  Lists.eq_of_pairwise_ne Prod.fst (h.imp And.left) hp hq e

theorem pair_unique_of_tgt {out : List (Nat × Nat)} (h : out.Pairwise (fun x y => x.1 ≠ y.1 ∧ x.2 ≠ y.2))
    {p q : Nat × Nat} (hp : p ∈ out) (hq : q ∈ out) (e : p.2 = q.2) : p = q :=
  Lists.eq_of_pairwise_ne Prod.snd (h.imp And.right) hp hq e

theorem oneToOne_map_pairs {m : List (Cand α)} (h : OneToOne m) :
    (m.map (fun c => (c.s, c.t))).Pairwise (fun x y => x.1 ≠ y.1 ∧ x.2 ≠ y.2) :=
  List.pairwise_map.2 h

end loop

section order
variable {α : Type} [LinearOrder α]

def LexLe (a b : Cand α) : Prop := a.d < b.d ∨ (a.d = b.d ∧ (a.s < b.s ∨ (a.s = b.s ∧ a.t ≤ b.t)))

theorem candLe_iff (a b : Cand α) : candLe a b = true ↔ LexLe a b := by
  unfold candLe LexLe
  simp only [Bool.or_eq_true, Bool.and_eq_true, decide_eq_true_eq, Bool.not_eq_true', decide_eq_false_iff_not,
    beq_iff_eq, not_lt]
  constructor
  · rintro (h | ⟨h1, h2⟩)
    · exact Or.inl h
    · rcases lt_or_eq_of_le h1 with h | h
      · exact Or.inl h
      · exact Or.inr ⟨h, h2⟩
  · rintro (h | ⟨h1, h2⟩)
    · exact Or.inl h
    · exact Or.inr ⟨le_of_eq h1, h2⟩

theorem LexLe.d_le {a b : Cand α} (h : LexLe a b) : a.d ≤ b.d := by
  rcases h with h | ⟨h, _⟩
  · exact le_of_lt h
  · exact le_of_eq h

theorem mem_sortCands (cs : List (Cand α)) (c : Cand α) : c ∈ sortCands cs ↔ c ∈ cs :=
  List.mem_mergeSort

theorem greedy_sort_sub (cs : List (Cand α)) : ∀ c ∈ greedy (sortCands cs), c ∈ cs :=
  fun c hc => (mem_sortCands cs c).1 (greedy_sub _ c hc)

end order

end CryoCat.C20
