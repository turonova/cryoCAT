import CryoCat.Lemmas.C08
/-! C08 — the (tomogram, object) numbering of `renumber_objects_sequentially`:
`objKeys` lists every (tomogram, object) class exactly once, tomograms ascending, and `keyIdx`
is the position of a particle's class in that list. -/
namespace CryoCat.C08
open CryoCat Gen.C08

theorem keyIdx_eq_idxOf {β : Type} [DecidableEq β] (keys : List (β × β)) (p : Particle β) :
    keyIdx keys p = keys.idxOf (p.tomo_id, p.object_id) := rfl

variable {α : Type} [LinearOrder α]

theorem mem_objKeys (l : Motl α) (t o : α) :
    (t, o) ∈ objKeys l ↔ ∃ p ∈ l, p.tomo_id = t ∧ p.object_id = o := by
  simp only [objKeys, List.mem_flatMap, List.mem_map, Prod.mk.injEq, List.mem_mergeSort,
    uniq_mem, List.mem_filter, beq_iff_eq]
  constructor
  · rintro ⟨t', _, o', ⟨p, ⟨hp, hpt⟩, hpo⟩, rfl, rfl⟩
    exact ⟨p, hp, hpt, hpo⟩
  · rintro ⟨p, hp, rfl, rfl⟩
    exact ⟨p.tomo_id, ⟨p, hp, rfl⟩, p.object_id, ⟨p, ⟨hp, rfl⟩, rfl⟩, rfl, rfl⟩

theorem sortedTomos_nodup (l : Motl α) :
    ((uniq (l.map (·.tomo_id))).mergeSort (fun a b => !decide (b < a))).Nodup :=
  (List.mergeSort_perm _ _).nodup_iff.2 (uniq_nodup _)

theorem sortedTomos_sorted (l : Motl α) :
    ((uniq (l.map (·.tomo_id))).mergeSort (fun a b => !decide (b < a))).Pairwise (fun a b => a ≤ b) := by
  exact Lists.pairwise_mergeSort_of_iff _ (fun a b : α => a ≤ b) (fun a b => by simp) (fun _ _ _ => le_trans) le_total _

theorem objKeys_nodup (l : Motl α) : (objKeys l).Nodup := by
  unfold objKeys
  rw [List.nodup_iff_pairwise_ne, List.pairwise_flatMap]
  constructor
  · intro t _
    rw [List.pairwise_map]
    refine (uniq_nodup _).imp ?_
    intro a b hab h
    exact hab (Prod.mk.inj h).2
  · refine (sortedTomos_nodup l).imp ?_
    intro a b hab x hx y hy hxy
    simp only [List.mem_map] at hx hy
    obtain ⟨_, _, rfl⟩ := hx
    obtain ⟨_, _, rfl⟩ := hy
    exact hab (Prod.mk.inj hxy).1

theorem objKeys_tomo_sorted (l : Motl α) : (objKeys l).Pairwise (fun a b => a.1 ≤ b.1) := by
  unfold objKeys
  rw [List.pairwise_flatMap]
  constructor
  · intro t _
    rw [List.pairwise_map]
    exact (uniq_nodup _).imp (fun _ => le_refl t)
  · refine (sortedTomos_sorted l).imp ?_
    intro a b hab x hx y hy
    simp only [List.mem_map] at hx hy
    obtain ⟨_, _, rfl⟩ := hx
    obtain ⟨_, _, rfl⟩ := hy
    exact hab

theorem pair_mem_objKeys (l : Motl α) (p : Particle α) (hp : p ∈ l) :
    (p.tomo_id, p.object_id) ∈ objKeys l :=
  (mem_objKeys l _ _).2 ⟨p, hp, rfl, rfl⟩

theorem keyIdx_lt (l : Motl α) (p : Particle α) (hp : p ∈ l) :
    keyIdx (objKeys l) p < (objKeys l).length :=
  List.idxOf_lt_length_of_mem (pair_mem_objKeys l p hp)

theorem keyIdx_get (l : Motl α) (p : Particle α) (hp : p ∈ l) :
    (objKeys l)[keyIdx (objKeys l) p]? = some (p.tomo_id, p.object_id) := by
  have h := keyIdx_lt l p hp
  rw [keyIdx_eq_idxOf] at h ⊢
  rw [List.getElem?_eq_getElem h, List.getElem_idxOf]

theorem keyIdx_eq_iff (l : Motl α) (p q : Particle α) (hp : p ∈ l) (hq : q ∈ l) :
    keyIdx (objKeys l) p = keyIdx (objKeys l) q ↔
      (p.tomo_id = q.tomo_id ∧ p.object_id = q.object_id) := by
  constructor
  · intro h
    have h1 := keyIdx_get l p hp
    have h2 := keyIdx_get l q hq
    rw [h, h2] at h1
    have := Option.some.inj h1
    exact ⟨(Prod.mk.inj this).1.symm, (Prod.mk.inj this).2.symm⟩
  · rintro ⟨h1, h2⟩
    unfold keyIdx
    rw [h1, h2]

theorem keyIdx_surj (l : Motl α) (i : Nat) (hi : i < (objKeys l).length) :
    ∃ p ∈ l, keyIdx (objKeys l) p = i := by
  have hmem : ((objKeys l)[i].1, (objKeys l)[i].2) ∈ objKeys l := List.getElem_mem hi
  obtain ⟨p, hp, h1, h2⟩ := (mem_objKeys l _ _).1 hmem
  refine ⟨p, hp, ?_⟩
  rw [keyIdx_eq_idxOf, h1, h2]
  exact (objKeys_nodup l).idxOf_getElem i hi

end CryoCat.C08
