import CryoCat.Model.C15
import CryoCat.Lemmas.Layout
/-! C15 — helper lemmas (core Lean only): 3-D indexing/tabulation, reshape, transposition, the dtype cast. -/
namespace CryoCat.C15
variable {α β ι κ : Type}

theorem except_map_ok {ε γ : Type} {e : Except ε β} {f : β → γ} {y : γ} (h : e.map f = .ok y) : ∃ x, e = .ok x ∧ f x = y := by
  cases e with
  | error _ => cases h
  | ok x => exact ⟨x, rfl, Except.ok.inj h⟩

theorem map_range_eq (l : List β) (g : Nat → β) (h : ∀ i (hi : i < l.length), g i = l[i]) :
    (List.range l.length).map g = l :=
  List.ext_getElem (by simp) fun i _ h2 => by simpa using h i h2

theorem getD_mem (l : List β) (d : β) {i : Nat} (h : i < l.length) : l.getD i d ∈ l := by
  rw [List.getD_eq_getElem?_getD, List.getElem?_eq_getElem h]; exact List.getElem_mem h

theorem getD_reverse (l : List β) (d : β) {i : Nat} (h : i < l.length) : l.reverse.getD i d = l.getD (l.length - 1 - i) d := by
  rw [List.getD_eq_getElem?_getD, List.getD_eq_getElem?_getD, List.getElem?_reverse h]

theorem getD_map_nil {γ : Type} (f : List β → List γ) (hf : f [] = []) (l : List (List β)) (i : Nat) :
    (l.map f).getD i [] = f (l.getD i []) := by
  rw [List.getD_eq_getElem?_getD, List.getD_eq_getElem?_getD, List.getElem?_map]
  cases l[i]? <;> simp [hf]

theorem get3_tab3 (d : α) (f : Nat → Nat → Nat → α) {n0 n1 n2 i j k : Nat} (hi : i < n0) (hj : j < n1) (hk : k < n2) :
    get3 d (tab3 n0 n1 n2 f) i j k = f i j k := by
  simp [get3, tab3, List.getD_eq_getElem?_getD, hi, hj, hk]

theorem get3_tab3_total (d : α) (f : Nat → Nat → Nat → α) (n0 n1 n2 i j k : Nat) :
    get3 d (tab3 n0 n1 n2 f) i j k = if i < n0 ∧ j < n1 ∧ k < n2 then f i j k else d := by
  by_cases hi : i < n0
  · by_cases hj : j < n1
    · by_cases hk : k < n2
      · rw [get3_tab3 d f hi hj hk, if_pos ⟨hi, hj, hk⟩]
      · simp [get3, tab3, List.getD_eq_getElem?_getD, hi, hj, hk]
    · simp [get3, tab3, List.getD_eq_getElem?_getD, hi, hj]
  · simp [get3, tab3, List.getD_eq_getElem?_getD, hi]

theorem rect_tab3 (n0 n1 n2 : Nat) (f : Nat → Nat → Nat → α) : Rect n0 n1 n2 (tab3 n0 n1 n2 f) := by
  refine ⟨by simp [tab3], ?_⟩
  intro img himg
  simp only [tab3, List.mem_map, List.mem_range] at himg
  obtain ⟨i, _, rfl⟩ := himg
  refine ⟨by simp, ?_⟩
  intro row hrow
  simp only [List.mem_map, List.mem_range] at hrow
  obtain ⟨j, _, rfl⟩ := hrow
  simp

theorem tab3_congr {n0 n1 n2 : Nat} {f g : Nat → Nat → Nat → α}
    (h : ∀ i j k, i < n0 → j < n1 → k < n2 → f i j k = g i j k) : tab3 n0 n1 n2 f = tab3 n0 n1 n2 g := by
  unfold tab3
  apply List.map_congr_left; intro i hi
  apply List.map_congr_left; intro j hj
  apply List.map_congr_left; intro k hk
  exact h i j k (List.mem_range.1 hi) (List.mem_range.1 hj) (List.mem_range.1 hk)

theorem tab3_get3 (d : α) {n0 n1 n2 : Nat} {v : L3 α} (h : Rect n0 n1 n2 v) : tab3 n0 n1 n2 (get3 d v) = v := by
  obtain ⟨rfl, h12⟩ := h
  refine map_range_eq v _ fun i hi => ?_
  obtain ⟨rfl, h2⟩ := h12 _ (List.getElem_mem hi)
  refine map_range_eq v[i] _ fun j hj => ?_
  obtain rfl := h2 _ (List.getElem_mem hj)
  refine map_range_eq v[i][j] _ fun k hk => ?_
  simp [get3, List.getD_eq_getElem?_getD, hi, hj, hk]

theorem transpose3_wf (d : α) (a : A3 α) : (transpose3 d a).WF := rect_tab3 _ _ _ _

theorem transpose3_get (d : α) (a : A3 α) {i j k : Nat} (hi : i < a.d2) (hj : j < a.d1) (hk : k < a.d0) :
    get3 d (transpose3 d a).v i j k = get3 d a.v k j i := get3_tab3 d _ hi hj hk

theorem transpose3_transpose3 (d : α) (a : A3 α) (h : a.WF) : transpose3 d (transpose3 d a) = a := by
  obtain ⟨d0, d1, d2, v⟩ := a
  simp only [transpose3, A3.mk.injEq, true_and]
  exact (tab3_congr fun i j k hi hj hk => get3_tab3 d _ hk hj hi).trans (tab3_get3 d h)

theorem chunk_flatMap (n : Nat) (g : ι → List β) (rows : List ι)
    (hg : ∀ r ∈ rows, (g r).length = n) : chunk n rows.length (rows.flatMap g) = rows.map g :=
  Layout.chunks_flatMap (chunk n) (fun _ => rfl) (fun _ _ => rfl) hg

theorem readMrc_writeMrc (a : A3 α) (h : a.WF) : readMrc (writeMrc a) = a := by
  obtain ⟨d0, d1, d2, v⟩ := a
  change Rect d0 d1 d2 v at h
  obtain ⟨rfl, h12⟩ := h
  simp only [readMrc, writeMrc, A3.mk.injEq, true_and]
  -- the payload splits back into images of `d1 * d2` voxels, every image into rows of `d2`
  rw [chunk_flatMap (d1 * d2) _ v fun img himg => by
        rw [Layout.length_flatMap_blocks (g := id) (h12 img himg).2, (h12 img himg).1], List.map_map]
  refine (List.map_congr_left fun img himg => ?_).trans (List.map_id v)
  obtain ⟨rfl, h2⟩ := h12 img himg
  exact (chunk_flatMap d2 id img h2).trans (List.map_id img)

theorem chunk_map (c : α → β) (n : Nat) : ∀ (k : Nat) (data : List α), chunk n k (data.map c) = (chunk n k data).map (List.map c)
  | 0, _ => rfl
  | k + 1, data => by
    simp only [chunk, List.map_cons, ← List.map_take, ← List.map_drop, chunk_map c n k]

theorem readMrc_map (c : α → β) (f : Mrc α) : readMrc (Mrc.map c f) = A3.map c (readMrc f) := by
  simp only [readMrc, Mrc.map, A3.map, chunk_map, List.map_map]
  congr 1
  apply List.map_congr_left
  intro img _
  simp [Function.comp, chunk_map]

theorem writeMrc_map (c : α → β) (a : A3 α) : writeMrc (A3.map c a) = Mrc.map c (writeMrc a) := by
  simp only [writeMrc, A3.map, Mrc.map, List.map_flatMap, List.flatMap_map, id]

theorem get3_map (c : α → β) (d : α) (v : L3 α) (i j k : Nat) :
    get3 (c d) (v.map (fun img => img.map (fun row => row.map c))) i j k = c (get3 d v i j k) := by
  simp only [get3]
  rw [getD_map_nil (fun img => img.map (fun row => row.map c)) rfl v i,
    getD_map_nil (fun row => row.map c) rfl (v.getD i []) j]
  generalize (v.getD i []).getD j [] = row
  rw [List.getD_eq_getElem?_getD, List.getD_eq_getElem?_getD, List.getElem?_map]
  cases row[k]? <;> rfl

theorem transpose3_map (c : α → β) (d : α) (a : A3 α) : transpose3 (c d) (A3.map c a) = A3.map c (transpose3 d a) := by
  simp only [transpose3, A3.map, tab3, List.map_map]
  congr 1
  apply List.map_congr_left; intro i _
  simp only [Function.comp, List.map_map]
  apply List.map_congr_left; intro j _
  simp only [Function.comp, List.map_map]
  apply List.map_congr_left; intro k _
  exact get3_map c d a.v k j i

end CryoCat.C15
