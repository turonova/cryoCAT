import CryoCat.Model.C20
import CryoCat.Model.C20_Expr
import CryoCat.Lemmas.M3
import CryoCat.Lemmas.Euclid3
import Mathlib.Tactic.Ring
import Mathlib.Tactic.LinearCombination
import Mathlib.Tactic.Linarith
import Mathlib.Algebra.Order.Field.Basic
/-! C20 — geometry of the admissibility test: exact-arithmetic facts over commutative rings /
ordered fields, for an abstract half-angle `(c, t)` with `c > 0`, `c²·(1 + t²) = 1` (over the reals `(cos θ, tan θ)` is such a pair:
`real_angle` in `Props/C20`). -/
namespace CryoCat.C20

section ring
variable {α : Type} [CommRing α]

theorem d2_move {q : M3 α} (h : q.Orth) (t u v : V3 α) : d2 (q.apply u + t) (q.apply v + t) = d2 u v := by
  unfold d2; rw [M3.move_sub, h.dot_apply]

theorem proj_move {q : M3 α} (h : q.Orth) (t u v n : V3 α) :
    proj (q.apply u + t) (q.apply v + t) (q.apply n) = proj u v n := by
  unfold proj; rw [M3.move_sub, h.dot_apply]

theorem lat2_move {q : M3 α} (h : q.Orth) (t u v n : V3 α) :
    lat2 (q.apply u + t) (q.apply v + t) (q.apply n) = lat2 u v n := by
  unfold lat2
  rw [proj_move h, M3.move_sub, ← M3.apply_smul, ← M3.apply_sub, h.normSq_apply]

theorem lat2_general (u v n : V3 α) :
    lat2 u v n = d2 u v - proj u v n * proj u v n * (2 - V3.dot n n) := by
  unfold lat2 d2 proj
  generalize v - u = w
  simp only [V3.normSq, V3.dot, V3.smul, V3.sub_def, V3.sub]
  ring

theorem lat2_unit (u v n : V3 α) (hn : V3.dot n n = 1) : lat2 u v n = d2 u v - proj u v n * proj u v n := by
  rw [lat2_general, hn]; ring

theorem cone_key (u v n : V3 α) (c t : α) (hct : c * c * (1 + t * t) = 1) :
    proj u v n * proj u v n * (1 + c * c * (1 - V3.dot n n)) - c * c * d2 u v
      = c * c * (t * t * proj u v n * proj u v n - lat2 u v n) := by
  rw [lat2_general]
  linear_combination (-(proj u v n * proj u v n)) * hct

theorem d2_symm (u v : V3 α) : d2 u v = d2 v u := by
  simp only [d2, V3.dot, V3.sub_def, V3.sub]; ring

/-- the variables of the anchored source expressions (`Gen.C20.siteCpu` and the like), filled from the model's vectors -/
def envOf (ps pt n : V3 α) (m r : α) : Env α :=
  ⟨ps.x, ps.y, ps.z, pt.x, pt.y, pt.z, n.x, n.y, n.z, m, r⟩

end ring

section field
variable {α : Type} [Field α] [LinearOrder α] [IsStrictOrderedRing α]

theorem d2_nonneg (u v : V3 α) : 0 ≤ d2 u v := sq3_nonneg _ _ _

/-- The cone test of the code with multiplier `t²`, for any normal: the exact cone for a unit normal, a cone widened
or narrowed by the defect of `n·n` otherwise (`cone_key`: the two tests differ by the positive factor `c²`). -/
theorem cone_iff_general (u v n : V3 α) (c t : α) (hc : 0 < c) (hct : c * c * (1 + t * t) = 1) :
    lat2 u v n < t * t * proj u v n * proj u v n
      ↔ c * c * d2 u v < proj u v n * proj u v n * (1 + c * c * (1 - V3.dot n n)) := by
  calc lat2 u v n < t * t * proj u v n * proj u v n
      ↔ 0 < c * c * (t * t * proj u v n * proj u v n - lat2 u v n) := by
        rw [mul_pos_iff_of_pos_left (mul_pos hc hc), sub_pos]
    _ ↔ _ := by rw [← cone_key u v n c t hct, sub_pos]

theorem cone_iff_sq (u v n : V3 α) (c t : α) (hn : V3.dot n n = 1) (hc : 0 < c) (hct : c * c * (1 + t * t) = 1) :
    (0 < proj u v n ∧ lat2 u v n < t * t * proj u v n * proj u v n)
      ↔ (0 < proj u v n ∧ c * c * d2 u v < proj u v n * proj u v n) := by
  rw [cone_iff_general u v n c t hc hct, hn, sub_self, mul_zero, add_zero, mul_one]

theorem cone_approx (u v n : V3 α) (c t ε : α) (hc : 0 < c) (hct : c * c * (1 + t * t) = 1)
    (hn : 1 - ε ≤ V3.dot n n) (h : lat2 u v n < t * t * proj u v n * proj u v n) :
    c * c * d2 u v < proj u v n * proj u v n * (1 + c * c * ε) :=
  lt_of_lt_of_le ((cone_iff_general u v n c t hc hct).1 h)
    (mul_le_mul_of_nonneg_left
      (add_le_add_right (mul_le_mul_of_nonneg_left (sub_le_comm.1 hn) (mul_self_nonneg c)) 1) (mul_self_nonneg _))

/-- `c·dist < proj` is cos∠(target − source, normal) > c -/
theorem cone_iff_dist (sqrt : α → α) (u v n : V3 α) (c t : α) (hn : V3.dot n n = 1) (hc : 0 < c)
    (hct : c * c * (1 + t * t) = 1) (hs0 : 0 ≤ sqrt (d2 u v)) (hs : sqrt (d2 u v) * sqrt (d2 u v) = d2 u v) :
    (0 < proj u v n ∧ lat2 u v n < t * t * proj u v n * proj u v n) ↔ c * dist sqrt u v < proj u v n := by
  rw [cone_iff_sq u v n c t hn hc hct]
  unfold dist
  have hcd : 0 ≤ c * sqrt (d2 u v) := mul_nonneg hc.le hs0
  have e : c * c * d2 u v = (c * sqrt (d2 u v)) * (c * sqrt (d2 u v)) := by rw [mul_mul_mul_comm, hs]
  rw [e]
  exact ⟨fun ⟨h0, h⟩ => (mul_self_lt_mul_self_iff hcd h0.le).2 h,
    fun h => have h0 := lt_of_le_of_lt hcd h; ⟨h0, (mul_self_lt_mul_self_iff hcd h0.le).1 h⟩⟩

end field
end CryoCat.C20
