import Lean.Meta.Tactic.Simp.RegisterCommand
/-- the Boolean list predicates and connectives of the checkers, read as the Props they decide (declared apart from
`Lemmas/C08_CheckOps`, where the lemmas are tagged: an attribute cannot be used in the module that declares it) -/
register_simp_attr c08_reflect
