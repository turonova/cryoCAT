import CryoCat.Model.C04
import CryoCat.Lemmas.Layout
/-! C04 — helper lemmas (core Lean only): folds of column assignments over an arbitrary renaming
table, by-name lookup in a row, the row-wise checker, integers below 2^53 as binary64 bit patterns. -/
namespace CryoCat.C04
variable {α β : Type}

theorem SgField.mem_all (s : SgField) : s ∈ SgField.all := by cases s <;> decide

theorem docPairs_fst_nodup : (docPairs.map Prod.fst).Nodup := by decide +kernel
theorem docPairs_snd_nodup : (docPairs.map Prod.snd).Nodup := by decide +kernel

/-- the renaming reaches every STOPGAP column except the two the code computes -/
theorem docPairs_targets (s : SgField) : s ∈ docPairs.map Prod.snd ↔ s ≠ .motl_idx ∧ s ≠ .halfset :=
  (by decide +kernel : ∀ s ∈ SgField.all, (s ∈ docPairs.map Prod.snd ↔ s ≠ .motl_idx ∧ s ≠ .halfset)) s s.mem_all

theorem SgRow.set_same (r : SgRow α) (f : SgField) (c : Cell α) : (r.set f c) f = c := by
  simp [SgRow.set]

theorem SgRow.set_other (r : SgRow α) (f g : SgField) (c : Cell α) (h : g ≠ f) : (r.set f c) g = r g := by
  simp [SgRow.set, h]

/-! Both copy loops (`stopgap_df[star_key] = …` into a row, `self.df[em_key] = …` into a particle) are a fold
of assignments `store[key a] := val a`; what they leave behind depends only on the two laws of
reading after writing. -/
section assign
variable {σ κ ν ι : Type} (get : σ → κ → ν) (upd : σ → κ → ν → σ)
  (hsame : ∀ s k v, get (upd s k v) k = v)
  (hother : ∀ s k v k', k' ≠ k → get (upd s k v) k' = get s k')
  (key : ι → κ) (val : ι → ν)

include hother in
theorem foldl_assign_other (l : List ι) (s : σ) (k : κ) (hk : k ∉ l.map key) :
    get (l.foldl (fun s a => upd s (key a) (val a)) s) k = get s k := by
  induction l generalizing s with
  | nil => rfl
  | cons a l ih =>
    rw [List.map_cons, List.mem_cons, not_or] at hk
    rw [List.foldl_cons, ih _ hk.2, hother _ _ _ _ hk.1]

include hsame hother in
theorem foldl_assign_get (l : List ι) (hn : (l.map key).Nodup) (s : σ) (a : ι) (ha : a ∈ l) :
    get (l.foldl (fun s a => upd s (key a) (val a)) s) (key a) = val a := by
  induction l generalizing s with
  | nil => cases ha
  | cons b l ih =>
    rw [List.map_cons, List.nodup_cons] at hn
    rw [List.foldl_cons]
    rcases List.mem_cons.1 ha with rfl | h
    · rw [foldl_assign_other get upd hother key val l _ _ hn.1, hsame]
    · exact ih hn.2 _ h
end assign

theorem copyPairs_other (pairs : List (Field × SgField)) (p : Particle α) (r : SgRow α) (s : SgField)
    (hs : s ∉ pairs.map Prod.snd) : copyPairs pairs p r s = r s :=
  foldl_assign_other (fun r s => r s) SgRow.set (fun r f c g h => SgRow.set_other r f g c h) Prod.snd
    (fun es => .num (p.get es.1)) pairs r s hs

theorem copyPairs_get (pairs : List (Field × SgField)) (hn : (pairs.map Prod.snd).Nodup)
    (p : Particle α) (r : SgRow α) (e : Field) (s : SgField) (hm : (e, s) ∈ pairs) :
    copyPairs pairs p r s = .num (p.get e) :=
  foldl_assign_get (fun r s => r s) SgRow.set SgRow.set_same (fun r f c g h => SgRow.set_other r f g c h) Prod.snd
    (fun es => .num (p.get es.1)) pairs hn r (e, s) hm

theorem importFold_other (d : α) (pairs : List (Field × SgField)) (r : SgRow α) (p : Particle α) (f : Field)
    (hf : f ∉ pairs.map Prod.fst) : (importFold d pairs r p).get f = p.get f :=
  foldl_assign_other Particle.get Particle.set (fun p f v g h => Particle.get_set_other p f g v h) Prod.fst
    (fun es => (r es.2).toNum d) pairs p f hf

theorem importFold_get (d : α) (pairs : List (Field × SgField)) (hn : (pairs.map Prod.fst).Nodup)
    (r : SgRow α) (p : Particle α) (e : Field) (s : SgField) (hm : (e, s) ∈ pairs) :
    (importFold d pairs r p).get e = (r s).toNum d :=
  foldl_assign_get Particle.get Particle.set Particle.get_set_same
    (fun p f v g h => Particle.get_set_other p f g v h) Prod.fst (fun es => (r es.2).toNum d) pairs hn p (e, s) hm

theorem rowOfCells_cons (d : Cell α) (a : SgField) (l : List SgField) (c : Cell α) (cs : List (Cell α)) (s : SgField) :
    rowOfCells d (a :: l) (c :: cs) s = if s = a then c else rowOfCells d l cs s := by
  unfold rowOfCells
  rw [List.zip_cons_cons, List.lookup_cons]
  by_cases h : s = a
  · rw [if_pos h, beq_iff_eq.2 h]
    rfl
  · rw [if_neg h, beq_eq_false_iff_ne.2 h]

theorem rowOfCells_map (d : Cell α) (cols : List SgField) (r : SgRow α) (s : SgField) (hs : s ∈ cols) :
    rowOfCells d cols (cols.map r) s = r s := by
  induction cols with
  | nil => cases hs
  | cons a l ih =>
    rw [List.map_cons, rowOfCells_cons]
    by_cases h : s = a
    · rw [if_pos h, h]
    · rw [if_neg h]
      exact ih ((List.mem_cons.1 hs).resolve_left h)

theorem rowOfCells_all (d : Cell α) (r : SgRow α) : rowOfCells d SgField.all (SgField.all.map r) = r :=
  funext fun s => rowOfCells_map d _ r s s.mem_all

theorem rowOfCells_map_cells (q : α → β) (d : Cell α) (cols : List SgField) (cells : List (Cell α)) (s : SgField) :
    rowOfCells (d.map q) cols (cells.map (Cell.map q)) s = (rowOfCells d cols cells s).map q := by
  induction cols generalizing cells with
  | nil => rfl
  | cons a l ih =>
    cases cells with
    | nil => rfl
    | cons c cs =>
      rw [List.map_cons, rowOfCells_cons, rowOfCells_cons, ih cs]
      by_cases h : s = a <;> simp [h]

theorem Cell.isNum_iff (c : Cell α) : c.isNum = true ↔ ∃ v, c = .num v := by
  cases c <;> simp [Cell.isNum]

/-- the default of `rowOfCells` is never used -/
theorem rowOfCells_default (d d' : Cell α) (cols : List SgField) (cells : List (Cell α)) (s : SgField)
    (hs : s ∈ cols) (hl : cells.length = cols.length) :
    rowOfCells d cols cells s = rowOfCells d' cols cells s := by
  induction cols generalizing cells with
  | nil => cases hs
  | cons a l ih =>
    cases cells with
    | nil => cases hl
    | cons c cs =>
      rw [rowOfCells_cons, rowOfCells_cons]
      by_cases h : s = a
      · rw [if_pos h, if_pos h]
      · rw [if_neg h, if_neg h]
        exact ih cs ((List.mem_cons.1 hs).resolve_left h) (Nat.succ.inj hl)

theorem checkRows_iff (ok : Nat → Particle α → List (Cell α) → Bool) (i : Nat)
    (ps : List (Particle α)) (cs : List (List (Cell α))) :
    checkRows ok i ps cs = true ↔
      ps.length = cs.length ∧ ∀ j p c, ps[j]? = some p → cs[j]? = some c → ok (i + j) p c = true := by
  induction ps generalizing i cs with
  | nil => cases cs <;> simp [checkRows]
  | cons p ps ih =>
    cases cs with
    | nil => simp [checkRows]
    | cons c cs =>
      simp only [checkRows, Bool.and_eq_true, ih, List.length_cons, Nat.add_right_cancel_iff]
      -- row `j + 1` of the longer lists is row `j` of the tails, checked at index `i + 1 + j`
      have hidx : ∀ j, i + 1 + j = i + (j + 1) := fun j => Nat.add_right_comm i 1 j
      constructor
      · rintro ⟨h0, hl, hr⟩
        refine ⟨hl, fun j p' c' hp hc => ?_⟩
        cases j with
        | zero => cases hp; cases hc; exact h0
        | succ j => exact hidx j ▸ hr j p' c' hp hc
      · rintro ⟨hl, hr⟩
        exact ⟨hr 0 p c rfl rfl, hl, fun j p' c' hp hc => hidx j ▸ hr (j + 1) p' c' hp hc⟩

theorem resetFrom_eq_mapIdx (ops : NumOps α) (i : Nat) (rows : List (SgRow α)) :
    resetFrom ops i rows = rows.mapIdx (fun j r => r.set .motl_idx (.num (ops.ofNat (i + j)))) := by
  induction rows generalizing i with
  | nil => rfl
  | cons r rs ih =>
    rw [resetFrom, ih, List.mapIdx_cons]
    simp only [Nat.add_zero, Nat.add_assoc, Nat.add_comm 1]

theorem decodeInt_normal (s e m : Nat) (hs : s < 2) (he1 : 0 < e) (he2 : e < 2047) (hm : m < 2 ^ 52) :
    decodeInt (s * 2 ^ 63 + e * 2 ^ 52 + m) =
      (if 1075 ≤ e then some ((2 ^ 52 + m) * 2 ^ (e - 1075))
       else if (2 ^ 52 + m) % 2 ^ (1075 - e) = 0 then some ((2 ^ 52 + m) / 2 ^ (1075 - e)) else none).map
        (fun n : Nat => if s = 1 then -(n : Int) else (n : Int)) := by
  -- the word is (sign · 2^11 + exponent) · 2^52 + mantissa; `omega` would find its fields too, but is slow to check on these numerals
  have hN : s * 2 ^ 63 + e * 2 ^ 52 + m = (s * 2048 + e) * 2 ^ 52 + m := by rw [Nat.add_mul, Nat.mul_assoc]
  obtain ⟨h1, h2, h3⟩ := Layout.digits3_decode (i := s) (n1 := 2048) (Nat.lt_succ_of_lt he2) hm
  have h0 : ((s * 2048 + e) * 2 ^ 52 + m) / 2 ^ 63 % 2 = s := by
    rw [show 2 ^ 63 = 2 ^ 52 * 2048 from rfl, ← Nat.div_div_eq_div_mul, h1, Nat.mod_eq_of_lt hs]
  unfold decodeInt
  simp only [hN, h0, h2, h3, Nat.ne_of_lt he2, Nat.ne_of_gt he1, if_false]
  generalize (if 1075 ≤ e then some ((2 ^ 52 + m) * 2 ^ (e - 1075))
       else if (2 ^ 52 + m) % 2 ^ (1075 - e) = 0 then some ((2 ^ 52 + m) / 2 ^ (1075 - e)) else none) = o
  cases o <;> rfl

theorem decodeInt_signed_encodeNat (s n : Nat) (hs : s < 2) (h0 : n ≠ 0) (hn : n < 2 ^ 53) :
    decodeInt (s * 2 ^ 63 + encodeNat n) = some (if s = 1 then -(n : Int) else (n : Int)) := by
  have hk1 : 2 ^ Nat.log2 n ≤ n := Nat.log2_self_le h0
  have hk2 : n < 2 ^ (Nat.log2 n + 1) := Nat.lt_log2_self
  have hk : Nat.log2 n ≤ 52 := Nat.le_of_lt_succ ((Nat.log2_lt h0).2 hn)
  unfold encodeNat
  rw [if_neg h0]
  generalize Nat.log2 n = k at *
  have hPQ : 2 ^ k * 2 ^ (52 - k) = 2 ^ 52 := by rw [← Nat.pow_add]; congr 1; omega
  have hQpos : 0 < 2 ^ (52 - k) := Nat.pow_pos (by decide)
  have hlo : 2 ^ 52 ≤ n * 2 ^ (52 - k) := by rw [← hPQ]; exact Nat.mul_le_mul_right _ hk1
  have hhi : n * 2 ^ (52 - k) < 2 ^ 53 := by
    have h1 : n * 2 ^ (52 - k) < 2 ^ (k + 1) * 2 ^ (52 - k) := Nat.mul_lt_mul_of_pos_right hk2 hQpos
    have h2 : 2 ^ (k + 1) * 2 ^ (52 - k) = 2 ^ 53 := by rw [← Nat.pow_add]; congr 1; omega
    omega
  rw [← Nat.add_assoc, decodeInt_normal s (1023 + k) (n * 2 ^ (52 - k) - 2 ^ 52) hs (by omega) (by omega) (by omega)]
  have hsig : 2 ^ 52 + (n * 2 ^ (52 - k) - 2 ^ 52) = n * 2 ^ (52 - k) := by omega
  rw [hsig]
  by_cases hk52 : k = 52
  · subst hk52; simp
  · have hlt : ¬ 1075 ≤ 1023 + k := by omega
    have hsub : 1075 - (1023 + k) = 52 - k := by omega
    rw [if_neg hlt, hsub, Nat.mul_mod_left, if_pos rfl, Nat.mul_div_cancel _ hQpos]
    rfl

/-- `encodeInt z` is the IEEE binary64 pattern of `z` (sign bit, exponent = position of the leading bit, remaining
bits as significand); the driver cross-checks it against the hardware float for every number it meets. -/
theorem decodeInt_encodeInt (z : Int) (hz : z.natAbs < 2 ^ 53) : decodeInt (encodeInt z) = some z := by
  cases z with
  | ofNat n =>
    by_cases h0 : n = 0
    · subst h0; decide +kernel
    · have := decodeInt_signed_encodeNat 0 n (by decide) h0 (by simpa using hz)
      simpa [encodeInt] using this
  | negSucc n =>
    have := decodeInt_signed_encodeNat 1 (n + 1) (by decide) (by omega) (by simpa using hz)
    simpa [encodeInt, Int.negSucc_eq] using this
end CryoCat.C04
