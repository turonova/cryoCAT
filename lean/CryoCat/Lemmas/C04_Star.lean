import CryoCat.Model.C04_Star
import CryoCat.Lemmas.C04
import CryoCat.Lemmas.C02_Export
/-! C04 — bridge to C02: the concrete STAR layer `starWrite` / `starRead` (`Model/C04_Star.lean`)
round-trips STOPGAP tables, as a consequence of `C02.typed_roundtrip`. The hypotheses are stated
explicitly here (`Props/C04.lean` packs them into `StarWF`).

The C02 theorems are taken from `Lemmas/C02_Export.lean` (`C02.Export.typed_roundtrip`, `C02.Export.written_column_kinds`),
NOT from `Props/C02.lean`: C04 must keep building when only a translator obligation of C02 breaks (head of that file).

The printer `ren` is asked to print as well-formed NUMBER cells only the numbers that occur IN THE
TABLE WRITTEN (`hren` below), not every value of the type: a faithful printer of floats prints NaN as
`nan`, which the reader does not type as a number, so the round trip is claimed for tables without NaN
(the real `write_out` runs `fillna(0)` on the table first; the quantifier of C04 has finite values only).

Outside the proof stay only the two parameters `ren` (value ↦ printed digits: pandas `round(6)` +
Python `repr`) and `parse` (digits ↦ value: `pandas.to_numeric`); the cell conversion of the round
trip is their composition `fun v => parse (C02.cellText (ren v))`. -/
namespace CryoCat.C04
variable {α β : Type}

theorem SgField.ofName?_name (f : SgField) : SgField.ofName? f.name = some f :=
  (by decide +kernel : ∀ f ∈ SgField.all, SgField.ofName? f.name = some f) f f.mem_all

theorem SgField.name_colNameOk (f : SgField) : C02.ColNameOk f.name.toList :=
  (by decide +kernel : ∀ f ∈ SgField.all, C02.ColNameOk f.name.toList) f f.mem_all

theorem colsOfNames_names (cols : List SgField) :
    colsOfNames (cols.map (fun f => f.name.toList)) = some cols := by
  induction cols with
  | nil => rfl
  | cons f fs ih =>
    simp only [List.map_cons, colsOfNames, String.ofList_toList, SgField.ofName?_name, ih]

theorem decodeCell_renderCell (ren : α → C02.Cell) (parse : C02.Word → β) (c : Cell α) :
    decodeCell parse c.isNum (C02.cellText (renderCell ren c)) = c.map (fun v => parse (C02.cellText (ren v))) := by
  cases c with
  | num v => rfl
  | str s => simp [decodeCell, Cell.isNum, renderCell, Cell.map, C02.cellText, String.ofList_toList]

theorem decode_row (ren : α → C02.Cell) (parse : C02.Word → β) (r : List (Cell α)) :
    List.zipWith (decodeCell parse) (r.map Cell.isNum) ((r.map (renderCell ren)).map C02.cellText)
      = r.map (Cell.map (fun v => parse (C02.cellText (ren v)))) := by
  rw [List.map_map, List.zipWith_map, List.zipWith_self]
  exact List.map_congr_left fun c _ => decodeCell_renderCell ren parse c

section
variable (ren : α → C02.Cell) (spec : String) (t : SgTable α)
  (hren : ∀ r ∈ t.rows, ∀ v, Cell.num v ∈ r → C02.CellWF (ren v) ∧ (ren v).isNumber = true)
  (hspec : C02.CellOk spec.toList)
  (hcols : t.cols ≠ []) (hrows : t.rows ≠ [])
  (hlen : ∀ r ∈ t.rows, r.length = t.cols.length)
  (htxt : ∀ r ∈ t.rows, ∀ s, Cell.str s ∈ r → C02.CellOk s.toList ∧ C02.isNumTok s.toList = false)
  (hkind : ∀ r ∈ t.rows, r.map Cell.isNum = t.cols.map (fun f => f != SgField.halfset))

include hren htxt in
theorem renderCell_ok {r : List (Cell α)} (hr : r ∈ t.rows) {c : Cell α} (hc : c ∈ r) :
    C02.CellWF (renderCell ren c) ∧ (renderCell ren c).isNumber = c.isNum := by
  cases c with
  | num v => exact hren r hr v hc
  | str s => exact htxt r hr s hc

include hren htxt in
theorem renderTable_cellWF : ∀ r ∈ (renderTable ren spec t).rows, ∀ c ∈ r, C02.CellWF c := by
  intro r hr c hc
  obtain ⟨r0, hr0, rfl⟩ := List.mem_map.1 hr
  obtain ⟨c0, hc0, rfl⟩ := List.mem_map.1 hc
  exact (renderCell_ok ren t hren htxt hr0 hc0).1

include hren hspec hcols hlen htxt in
theorem renderTable_ok : C02.TBlockOk (renderTable ren spec t) := by
  refine ⟨hspec, by simpa [renderTable] using hcols, ?_, fun r hr => ⟨?_, renderTable_cellWF ren spec t hren htxt r hr⟩⟩
  · intro c hc
    obtain ⟨f, _, rfl⟩ := List.mem_map.1 hc
    exact SgField.name_colNameOk f
  · obtain ⟨r0, hr0, rfl⟩ := List.mem_map.1 hr
    simpa [renderTable] using hlen r0 hr0

include hren hrows htxt hkind in
/-- the reader types exactly the `halfset` column as text -/
theorem renderTable_kinds :
    C02.blockKinds C02.isNumTok (renderTable ren spec t).texts = t.cols.map (fun f => f != SgField.halfset) := by
  have hk : ∀ r ∈ (renderTable ren spec t).rows,
      r.map C02.Cell.isNumber = t.cols.map (fun f => f != SgField.halfset) := by
    intro r hr
    obtain ⟨r0, hr0, rfl⟩ := List.mem_map.1 hr
    rw [← hkind r0 hr0, List.map_map]
    exact List.map_congr_left fun c hc => (renderCell_ok ren t hren htxt hr0 hc).2
  simpa [C02.blockKinds, renderTable, C02.TBlock.texts] using
    C02.Export.written_column_kinds (renderTable ren spec t).rows (by simpa [renderTable] using hrows)
      (renderTable_cellWF ren spec t hren htxt) _ hk

include hren hspec hcols hrows hlen htxt hkind in
/-- `read_in` of the text `write_out` produced finds the block, its known column names in order, and
every row with its numbers passed through print-then-parse and its text cells unchanged. -/
theorem starRead_starWrite (parse : C02.Word → β) :
    starRead parse spec (starWrite ren spec t)
      = some { cols := t.cols, rows := t.rows.map (fun r => r.map (Cell.map (fun v => parse (C02.cellText (ren v))))) } := by
  have hok := renderTable_ok ren spec t hren hspec hcols hlen htxt
  have hrt := (C02.Export.typed_roundtrip true [renderTable ren spec t]
    (by intro b hb; rw [List.mem_singleton.1 hb]; exact hok) trivial).1
  have hk := renderTable_kinds ren spec t hren hrows htxt hkind
  unfold starRead starWrite
  rw [hrt]
  have hfind : List.find? (fun b : C02.Block => b.name == spec.toList) ([renderTable ren spec t].map C02.TBlock.texts)
      = some (renderTable ren spec t).texts := by
    simp [renderTable, C02.TBlock.texts]
  simp only [hfind]
  have hc : colsOfNames (renderTable ren spec t).texts.cols = some t.cols := colsOfNames_names t.cols
  simp only [hc, hk, Option.some.injEq]
  refine congrArg (SgTable.mk t.cols) ?_
  simp only [renderTable, C02.TBlock.texts, List.map_map]
  apply List.map_congr_left
  intro r hr
  simp only [Function.comp]
  rw [← hkind r hr]
  exact decode_row ren parse r
end

end CryoCat.C04
