import CryoCat.Lemmas.C07
import CryoCat.Lemmas.Layout
import Mathlib.Tactic.Ring
import Mathlib.Order.Defs.LinearOrder
/-! C07 — peak extraction model: lemmas (scores in any linear order, voxel positions in ℕ, distances in ℤ). -/
set_option linter.unusedSectionVars false
namespace CryoCat.C07
open CryoCat.Gen.C07

variable {α : Type} [LinearOrder α]

theorem vd2_comm (ax ay az bx byy bz : Nat) : vd2 ax ay az bx byy bz = vd2 bx byy bz ax ay az := by
  unfold vd2; ring

theorem vd2_self (ax ay az : Nat) : vd2 ax ay az ax ay az = 0 := by unfold vd2; ring

theorem vd2_succ (ax ay az bx byy bz : Nat) :
    vd2 (ax + 1) (ay + 1) (az + 1) (bx + 1) (byy + 1) (bz + 1) = vd2 ax ay az bx byy bz := by
  have h : ∀ a b : Nat, ((a + 1 : Nat) : Int) - ((b + 1 : Nat) : Int) = a - b := fun a b => by omega
  simp only [vd2, h]

theorem inBall_symm (dn dd : Nat) (a b : Vox α) : inBall dn dd a b = inBall dn dd b a := by
  unfold inBall; rw [vd2_comm]

theorem inBall_self (dn dd : Nat) (a : Vox α) : inBall dn dd a a = true := by
  unfold inBall; rw [vd2_self]
  simp only [Int.zero_mul, decide_eq_true_eq]
  exact Int.mul_nonneg (Int.natCast_nonneg _) (Int.natCast_nonneg _)

theorem nearPeak_eq (dn dd : Nat) (a c : Vox α) :
    nearPeak dn dd a c = (inBall dn dd a c && decide (c.score ≤ a.score)) := rfl

theorem peakOrder_perm (l : List (Vox α)) : (peakOrder l).Perm l := by
  unfold peakOrder; split <;> exact List.mergeSort_perm _ _

theorem peakOrder_sorted (l : List (Vox α)) : (peakOrder l).Pairwise (fun a b => b.score ≤ a.score) := by
  simp only [peakOrder, peakSortDesc, if_true]
  exact Lists.pairwise_mergeSort_of_iff scoreGe _ (fun _ _ => decide_eq_true_iff) (fun _ _ _ h1 h2 => le_trans h2 h1)
    (fun _ _ => le_total _ _) l

theorem mem_supra (thr : α) (vs : List (Vox α)) (v : Vox α) : v ∈ supra thr vs ↔ v ∈ vs ∧ thr < v.score := by
  simp only [supra, List.mem_filter, peakThrCmp, evalCmp, decide_eq_true_eq]

section Kept
variable (thr : α) (dn dd : Nat) (vs : List (Vox α))

theorem keptVoxels_sub (v : Vox α) (h : v ∈ keptVoxels thr dn dd vs) : v ∈ vs ∧ thr < v.score := by
  have h1 := (suppress_sublist _ _).subset h
  exact (mem_supra thr vs v).1 ((peakOrder_perm _).mem_iff.1 h1)

theorem keptVoxels_sorted : (keptVoxels thr dn dd vs).Pairwise (fun a b => b.score ≤ a.score) :=
  (peakOrder_sorted _).sublist (suppress_sublist _ _)

theorem keptVoxels_separated : (keptVoxels thr dn dd vs).Pairwise (fun a b => inBall dn dd a b = false) := by
  have h1 := suppress_separated (nearPeak dn dd) (peakOrder (supra thr vs))
  have h2 := keptVoxels_sorted thr dn dd vs
  refine (h1.and h2).imp ?_
  intro a b ⟨hn, hs⟩
  rw [nearPeak_eq] at hn
  simpa [hs] using hn

theorem keptVoxels_dominate (v : Vox α) (hv : v ∈ vs) (ht : thr < v.score) :
    ∃ p ∈ keptVoxels thr dn dd vs, inBall dn dd p v = true ∧ v.score ≤ p.score := by
  have hm : v ∈ peakOrder (supra thr vs) := (peakOrder_perm _).mem_iff.2 ((mem_supra thr vs v).2 ⟨hv, ht⟩)
  rcases suppress_dominated (nearPeak dn dd) (fun a b => b.score ≤ a.score) _ (peakOrder_sorted _) v hm with h | ⟨p, hp, hn, hs⟩
  · exact ⟨v, h, inBall_self dn dd v, le_refl _⟩
  · rw [nearPeak_eq] at hn
    simp only [Bool.and_eq_true, decide_eq_true_eq] at hn
    exact ⟨p, hp, hn.1, hs⟩

end Kept

theorem flatIdx_unflatten (ny nz i : Nat) : flatIdx ny nz (i / (ny * nz)) ((i / nz) % ny) (i % nz) = i := by
  rw [Nat.mul_comm, ← Nat.div_div_eq_div_mul]; exact Layout.digits3_encode i ny nz

theorem mem_voxels (ny nz : Nat) (scores : List α) (angles : List Int) (v : Vox α) :
    v ∈ voxels ny nz scores angles ↔
      ∃ i, scores[i]? = some v.score ∧ angles[i]? = some v.ang ∧
        v.x = i / (ny * nz) ∧ v.y = (i / nz) % ny ∧ v.z = i % nz := by
  unfold voxels
  simp only [List.mem_map, List.mem_zipIdx_iff_getElem?, List.getElem?_zip_eq_some]
  constructor
  · rintro ⟨⟨⟨s, a⟩, i⟩, ⟨h1, h2⟩, rfl⟩
    exact ⟨i, h1, h2, rfl, rfl, rfl⟩
  · rintro ⟨i, h1, h2, hx, hy, hz⟩
    refine ⟨((v.score, v.ang), i), ⟨h1, h2⟩, ?_⟩
    cases v; simp_all

theorem voxels_lookup (ny nz : Nat) (scores : List α) (angles : List Int) (v : Vox α)
    (h : v ∈ voxels ny nz scores angles) :
    scores[flatIdx ny nz v.x v.y v.z]? = some v.score ∧ angles[flatIdx ny nz v.x v.y v.z]? = some v.ang := by
  obtain ⟨i, h1, h2, hx, hy, hz⟩ := (mem_voxels ny nz scores angles v).1 h
  rw [hx, hy, hz, flatIdx_unflatten]; exact ⟨h1, h2⟩

theorem posOf_x (v : Vox α) : posOf "x" v = some (v.x + 1) := rfl
theorem posOf_y (v : Vox α) : posOf "y" v = some (v.y + 1) := rfl
theorem posOf_z (v : Vox α) : posOf "z" v = some (v.z + 1) := rfl
theorem colOf_phi : colOf "phi" = some 0 := rfl
theorem colOf_theta : colOf "theta" = some 1 := rfl
theorem colOf_psi : colOf "psi" = some 2 := rfl

theorem loadAngles_getElem? (ord : AngOrder) (rows : List (α × α × α)) (i : Nat) :
    (loadAngles ord rows)[i]? = (rows[i]?).map (fun t =>
      match ord with
      | .zxz => [t.1, t.2.1, t.2.2]
      | .zzx => [t.1, t.2.2, t.2.1]) := by
  cases ord <;> simp only [loadAngles, List.getElem?_map] <;> rfl

theorem peakOf_some (anglist : List (α × α × α)) (numbering : Int) (ord : AngOrder) (v : Vox α) (p : Peak α)
    (h : peakOf (loadAngles ord anglist) numbering v = some p) :
    p.x = v.x + 1 ∧ p.y = v.y + 1 ∧ p.z = v.z + 1 ∧ p.score = v.score ∧ 0 ≤ v.ang - numbering ∧
      anglist[(v.ang - numbering).toNat]? = some (listedAngles ord p) := by
  unfold peakOf at h
  simp only [posOf_x, posOf_y, posOf_z, colOf_phi, colOf_theta, colOf_psi, loadAngles_getElem?] at h
  split at h
  · cases h
  · rename_i hi
    cases hrow : anglist[(v.ang - numbering).toNat]? with
    | none => rw [hrow] at h; cases h
    | some t =>
      rw [hrow] at h
      cases ord <;> cases h <;> exact ⟨rfl, rfl, rfl, rfl, Int.not_lt.1 hi, rfl⟩

theorem extractFrom_peaks (thr : α) (dn dd : Nat) (vs : List (Vox α)) (al : List (α × α × α)) (nb : Int) (ord : AngOrder)
    (out : List (Peak α)) (h : extractFrom thr dn dd vs al nb ord = .peaks out) :
    out = (keptVoxels thr dn dd vs).filterMap (peakOf (loadAngles ord al) nb) ∧
      ∀ v ∈ keptVoxels thr dn dd vs, ∃ p, peakOf (loadAngles ord al) nb v = some p := by
  unfold extractFrom at h
  split at h
  · cases h
  · dsimp only at h
    split at h
    · rename_i hall
      injection h with h
      constructor
      · rw [← h, List.filterMap_map]; rfl
      · intro v hv
        simp only [List.all_eq_true, List.mem_map, forall_exists_index, and_imp, forall_apply_eq_imp_iff₂] at hall
        exact Option.isSome_iff_exists.1 (hall v hv)
    · cases h

theorem supra_eq_nil (thr : α) (vs : List (Vox α)) : supra thr vs = [] ↔ ∀ v ∈ vs, ¬ thr < v.score := by
  simp only [supra, List.filter_eq_nil_iff, peakThrCmp, evalCmp, decide_eq_true_eq]

end CryoCat.C07
