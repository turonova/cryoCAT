import CryoCat.Lemmas.C02_Parse
/-! C02 — the reader on laid-out documents: the tokens of a laid-out block / document; a separated document is read into its
blocks and comments; a document of the statement's layout class that lacks a separating line between two blocks (class C02-K4)
or the line end after the last label line of an empty last block (class C02-K3) is rejected. Core Lean only. -/
namespace CryoCat.C02

def BlockLayout.toks (b : BlockLayout) : List Tok := b.lines.flatMap Line.toks
def docToks (bs : List BlockLayout) (tr : List Line) : List Tok := bs.flatMap BlockLayout.toks ++ tr.flatMap Line.toks

theorem docToks_cons (b : BlockLayout) (rest : List BlockLayout) (tr : List Line) :
    docToks (b :: rest) tr = b.toks ++ docToks rest tr := by simp [docToks]

def BlockLayout.midToks (b : BlockLayout) : List Tok := commentToks b.nameLine.tail ++ .newline :: b.mid.flatMap Line.toks

theorem labels_toks (cols : List Word) (labels : List Line)
    (h : labels.map Line.words = cols.map (fun c => ['_' :: c])) :
    labels.flatMap Line.toks = (List.zipWith labelToks cols (labels.map Line.tail)).flatten := by
  induction labels generalizing cols with
  | nil => cases cols <;> simp_all
  | cons l ls ih =>
    cases cols with
    | nil => simp at h
    | cons c cols =>
      simp only [List.map_cons, List.cons.injEq] at h
      simp only [List.flatMap_cons, List.map_cons, List.zipWith_cons_cons, List.flatten_cons]
      rw [ih cols h.2]
      simp [Line.toks, h.1, classify_prop, labelToks]

theorem rows_toks (rows : List Line) (h : ∀ r ∈ rows, r.tail = [] ∧ ∀ w ∈ r.words, IsLit w) :
    rows.flatMap Line.toks = ((rows.map Line.words).map rowToks).flatten := by
  induction rows with
  | nil => rfl
  | cons r rs ih =>
    have hr := h r (by simp)
    simp only [List.flatMap_cons, List.map_cons, List.flatten_cons]
    rw [ih (fun x hx => h x (by simp [hx]))]
    congr 1
    simp only [Line.toks, hr.1, commentToks, List.append_nil, rowToks]
    congr 1
    exact List.map_congr_left (fun w hw => classify_lit w (hr.2 w hw))

theorem block_toks (b : BlockLayout) (h : b.Ok) :
    b.toks = b.pre.flatMap Line.toks ++ .lit b.name ::
      (b.midToks ++ .loop :: .newline ::
        ((List.zipWith labelToks b.cols (b.labels.map Line.tail)).flatten ++
          (b.post.flatMap Line.toks ++ ((b.rows.map Line.words).map rowToks).flatten))) := by
  obtain ⟨_, _, _, _, hname, hlit, _, hloop, hlt, _, _, hlab, hrows⟩ := h
  unfold BlockLayout.toks BlockLayout.lines
  simp only [List.flatMap_append, List.flatMap_cons]
  rw [labels_toks b.cols b.labels hlab, rows_toks b.rows (fun r hr => ⟨(hrows r hr).2.1, (hrows r hr).2.2.2⟩)]
  simp [Line.toks, hname, hloop, hlt, classify_lit _ hlit, classify_loop, commentToks, BlockLayout.midToks]

theorem reassoc (P N L Q R after : List Tok) (x : Tok) :
    (P ++ x :: (N ++ .loop :: .newline :: (L ++ (Q ++ R)))) ++ after =
      P ++ x :: (N ++ .loop :: .newline :: (L ++ (Q ++ (R ++ after)))) := by simp

theorem lines_toks_ne (ls : List Line) (h : ls ≠ []) : ls.flatMap Line.toks ≠ [] := by
  cases ls with
  | nil => exact absurd rfl h
  | cons l ls => simp [Line.toks]

theorem block_toks_ne (b : BlockLayout) (h : b.Ok) : b.toks ≠ [] := by
  rw [block_toks b h]; simp

theorem length_le_docToks (bs : List BlockLayout) (tr : List Line) (hbs : ∀ b ∈ bs, b.Ok) :
    bs.length ≤ (docToks bs tr).length := by
  induction bs with
  | nil => simp
  | cons b rest ih =>
    have hb := block_toks_ne b (hbs b (by simp))
    have h1 : 1 ≤ b.toks.length := by
      cases hh : b.toks with
      | nil => exact absurd hh hb
      | cons _ _ => simp
    have := ih (fun x hx => hbs x (by simp [hx]))
    rw [docToks_cons, List.length_append, List.length_cons]
    omega

theorem skip_ok (l : Line) (h : l.Skip) : l.Ok := h.1

theorem block_lines_ok (b : BlockLayout) (h : b.Ok) : ∀ l ∈ b.lines, l.Ok := by
  obtain ⟨hpre, hmid, hpost, hn, _, _, hl, _, _, _, hlab, _, hrows⟩ := h
  intro l hl'
  simp only [BlockLayout.lines, List.mem_append, List.mem_cons] at hl'
  rcases hl' with h1 | rfl | h1 | rfl | h1 | h1 | h1
  · exact (hpre l h1).1
  · exact hn
  · exact (hmid l h1).1
  · exact hl
  · exact hlab l h1
  · exact (hpost l h1).1
  · exact (hrows l h1).1

theorem doc_lines_ok (d : Doc) (hbs : ∀ b ∈ d.blocks, b.Ok) (htr : ∀ l ∈ d.trailing, l.Skip) : ∀ l ∈ d.lines, l.Ok := by
  intro l hl
  simp only [Doc.lines, List.mem_append, List.mem_flatMap] at hl
  rcases hl with ⟨b, hb, hlb⟩ | hl
  · exact block_lines_ok b (hbs b hb) l hlb
  · exact (htr l hl).1

theorem doc_toks (d : Doc) : d.lines.flatMap Line.toks = docToks d.blocks d.trailing := by
  simp [Doc.lines, docToks, List.flatMap_append, List.flatMap_assoc]
  rfl

theorem midToks_nc (b : BlockLayout) (hmid : ∀ l ∈ b.mid, l.Skip) : ∀ t ∈ b.midToks, isNC t = true := by
  intro t ht
  simp only [BlockLayout.midToks, List.mem_append, List.mem_cons] at ht
  rcases ht with ht | rfl | ht
  · exact commentToks_nc _ t ht
  · rfl
  · exact skips_toks_nc _ hmid t ht

def Line.coms (l : Line) : List Comment :=
  match l.tail with
  | [] => []
  | _ :: c => [stripWs c]

def lineComs (ls : List Line) : List Comment := ls.flatMap Line.coms

/-- the reader does not record the comments on the label lines -/
def BlockLayout.coms (b : BlockLayout) : List Comment :=
  lineComs b.pre ++ ((b.nameLine.coms ++ lineComs b.mid) ++ lineComs b.post)

/-- per block; comments after the last block are dropped unless that block has no rows -/
def docComs (tr : List Line) : List BlockLayout → List (List Comment)
  | [] => []
  | [b] => [b.coms ++ (if b.rows = [] then lineComs tr else [])]
  | b :: b2 :: rest => b.coms :: docComs tr (b2 :: rest)

theorem ncComments_commentToks (tl : List Char) (r : List Tok) :
    ncComments (commentToks tl ++ .newline :: r) = (Line.coms ⟨[], [], tl⟩) ++ ncComments r := by
  cases tl <;> simp [commentToks, ncComments, Line.coms]

theorem ncComments_skips (ls : List Line) (h : ∀ l ∈ ls, l.Skip) : ncComments (ls.flatMap Line.toks) = lineComs ls := by
  induction ls with
  | nil => rfl
  | cons l ls ih =>
    have hl := h l (by simp)
    have : l.toks = commentToks l.tail ++ [.newline] := by simp [Line.toks, Line.words, hl.2]
    simp only [List.flatMap_cons, lineComs, this, List.append_assoc, List.cons_append, List.nil_append]
    rw [ncComments_commentToks, ih (fun x hx => h x (by simp [hx]))]
    simp [Line.coms, lineComs]

theorem block_coms_eq (b : BlockLayout) (h : b.Ok) (X : List Comment) :
    ncComments (b.pre.flatMap Line.toks) ++
      (ncComments b.midToks ++
        (ncComments (b.post.flatMap Line.toks) ++ X)) = b.coms ++ X := by
  obtain ⟨hpre, hmid, hpost, _⟩ := h
  rw [ncComments_skips _ hpre, ncComments_skips _ hpost, BlockLayout.midToks, ncComments_commentToks, ncComments_skips _ hmid]
  simp [BlockLayout.coms, Line.coms]

/-- the hypotheses of `block_stepC` for the tokens of a laid-out block (`block_toks`) -/
theorem block_step_hyps (b : BlockLayout) (h : b.Ok) :
    (∀ t ∈ b.pre.flatMap Line.toks, isNC t = true) ∧ (∀ t ∈ b.midToks, isNC t = true) ∧
    (∀ t ∈ b.post.flatMap Line.toks, isNC t = true) ∧
    b.cols.length = (b.labels.map Line.tail).length ∧ b.cols ≠ [] ∧ ∀ ws ∈ b.rows.map Line.words, ws.length = b.cols.length := by
  obtain ⟨hpre, hmid, hpost, _, _, _, _, _, _, hcols, _, hlab, hrows⟩ := h
  refine ⟨skips_toks_nc _ hpre, midToks_nc b hmid, skips_toks_nc _ hpost,
    by simpa using (congrArg List.length hlab).symm, hcols, ?_⟩
  intro ws hws
  obtain ⟨r, hr, rfl⟩ := List.mem_map.1 hws
  exact (hrows r hr).2.2.1

/-- one round of the `while lookahead` loop on the tokens of a laid-out block: its table and its comments; blank / comment tokens
that follow a block without rows count among its comments -/
theorem blocksGoC_block (b : BlockLayout) (hb : b.Ok) (after : List Tok) (ha : Stops after)
    (hne : b.rows = [] → (∀ t ∈ after, isNC t = true) ∧ b.post.flatMap Line.toks ++ after ≠ []) (fuel : Nat) :
    blocksGoC (fuel + 1) (b.toks ++ after) =
      (blocksGoC fuel after).map ((b.block, b.coms ++ (if b.rows = [] then ncComments after else [])) :: ·) := by
  obtain ⟨hP, hN, hQ, hlen, hcols, hrs⟩ := block_step_hyps b hb
  have hmap : b.rows.map Line.words = [] ↔ b.rows = [] := List.map_eq_nil_iff
  rw [block_toks b hb, reassoc,
    block_stepC _ _ _ hP hN hQ b.name b.cols _ hlen hcols _ hrs after ha (fun h => hne (hmap.1 h)) fuel, block_coms_eq b hb]
  by_cases h0 : b.rows = [] <;> simp [h0, BlockLayout.block]

theorem docToks_stops (b2 : BlockLayout) (rest : List BlockLayout) (tr : List Line) (hpre : ∀ l ∈ b2.pre, l.Skip) (hp : b2.pre ≠ []) :
    Stops (docToks (b2 :: rest) tr) := by
  simp only [docToks_cons, BlockLayout.toks, BlockLayout.lines, List.flatMap_append, List.append_assoc]
  exact stops_append _ _ (skips_toks_nc _ hpre) (lines_toks_ne _ hp)

theorem blocksGoC_doc (tr : List Line) (htr : ∀ l ∈ tr, l.Skip) (bs : List BlockLayout)
    (hbs : ∀ b ∈ bs, b.Ok) (hsep : SepOk tr bs) (fuel : Nat) (hf : bs.length < fuel) :
    blocksGoC fuel (docToks bs tr) = .ok ((bs.map BlockLayout.block).zip (docComs tr bs)) := by
  have hT : ∀ t ∈ docToks [] tr, isNC t = true := skips_toks_nc tr htr
  obtain ⟨f, rfl⟩ := Nat.exists_eq_succ_of_ne_zero (Nat.ne_zero_of_lt hf)
  induction bs generalizing f with
  | nil => exact blocksGoC_nc f _ hT
  | cons b rest ih =>
    have hb := hbs b (by simp)
    have hbs' : ∀ x ∈ rest, x.Ok := fun x hx => hbs x (by simp [hx])
    -- every round takes one unit of fuel, and one is left for the end of the loop
    obtain ⟨g, rfl⟩ := Nat.exists_eq_succ_of_ne_zero (Nat.ne_zero_of_lt (Nat.lt_of_succ_lt_succ hf))
    have hg := Nat.lt_of_succ_lt_succ hf
    rw [docToks_cons]
    cases rest with
    | nil =>
      have hne : b.rows = [] → (∀ t ∈ docToks [] tr, isNC t = true) ∧ b.post.flatMap Line.toks ++ docToks [] tr ≠ [] := by
        intro h0
        have : b.post.flatMap Line.toks ++ docToks [] tr = (b.post ++ tr).flatMap Line.toks := by simp [docToks]
        exact ⟨hT, this ▸ lines_toks_ne _ (hsep h0)⟩
      rw [blocksGoC_block b hb _ (stops_of_nc _ hT) hne, ih hbs' trivial g hg]
      simp [Except.map, docComs, docToks, ncComments_skips _ htr]
    | cons b2 rest' =>
      rw [blocksGoC_block b hb _ (docToks_stops b2 rest' tr (hbs' b2 (by simp)).1 hsep.2.1) (fun h => absurd h hsep.1),
        ih hbs' hsep.2.2 g hg]
      simp [Except.map, docComs, hsep.1]

theorem sepStmt_of_sepOk (tr : List Line) : ∀ bs : List BlockLayout, SepOk tr bs → SepStmt bs
  | [], _ => trivial
  | [_], _ => trivial
  | _ :: b2 :: rest, h => ⟨h.1, sepStmt_of_sepOk tr (b2 :: rest) h.2.2⟩

theorem Doc.Ok.okStatement {d : Doc} (h : d.Ok) : d.OkStatement := ⟨h.1, h.2.1, sepStmt_of_sepOk _ _ h.2.2.1, h.2.2.2⟩

/-- the reader on the text of a document of the statement's class is the block loop on the document's tokens -/
theorem readStarC_text (d : Doc) (h : d.OkStatement) :
    readStarC d.text = blocksGoC ((docToks d.blocks d.trailing).length + 1) (docToks d.blocks d.trailing) := by
  unfold readStarC Doc.text parseBlocksC
  rw [tokenize_lines d.lines h.2.2.2 (doc_lines_ok d h.1 h.2.1), doc_toks]

theorem readStarC_doc (d : Doc) (h : d.Ok) :
    readStarC d.text = .ok ((d.blocks.map BlockLayout.block).zip (docComs d.trailing d.blocks)) := by
  rw [readStarC_text d h.okStatement]
  exact blocksGoC_doc d.trailing h.2.1 d.blocks h.1 h.2.2.1 _ (Nat.lt_succ_of_le (length_le_docToks _ _ h.1))

theorem docComs_length (tr : List Line) (bs : List BlockLayout) : (docComs tr bs).length = bs.length := by
  induction bs with
  | nil => rfl
  | cons b rest ih =>
    cases rest with
    | nil => rfl
    | cons b2 rest' => simpa [docComs] using ih

theorem dropC_zip (bs : List Block) (cs : List (List Comment)) (h : cs.length = bs.length) : dropC (.ok (bs.zip cs)) = .ok bs := by
  simp only [dropC]
  rw [List.map_fst_zip (by omega)]

/-! ### rejection -/

/-- blank / comment tokens, then the `loop_` keyword: where the block loop gives up with left-over tokens -/
def LoopAhead (ts : List Tok) : Prop := ∃ r, skipNC ts = .loop :: r

theorem blocksGoC_loopAhead (fuel : Nat) (ts : List Tok) (h : LoopAhead ts) : ∃ e, blocksGoC fuel ts = .error e := by
  obtain ⟨r, h⟩ := h
  cases fuel with
  | zero => exact ⟨.trailing, rfl⟩
  | succ f => exact ⟨.trailing, by simp [blocksGoC, lookaheadLit, h]⟩

theorem loopAhead_stops {ts : List Tok} (h : LoopAhead ts) : Stops ts := by
  obtain ⟨r, h⟩ := h
  intro t ht
  cases ts with
  | nil => cases ht
  | cons x xs => cases ht; cases t <;> first | rfl | cases h

/-- the row loop in front of blank / comment tokens and `loop_` (where it gets when it has taken the name of the next block for
a cell): it fails — a comment or `loop_` where the row's line end is due — or stops with `loop_` still ahead -/
theorem rowsGo_loopAhead (n : Nat) (hn : n ≠ 0) (k : Nat) (cur : List Word) (rows : List (List Word)) (ts : List Tok)
    (h : LoopAhead ts) :
    (∃ e, rowsGo n k cur rows ts = .error e) ∨ ∃ rows' ts', rowsGo n k cur rows ts = .ok (rows', ts') ∧ LoopAhead ts' := by
  cases k with
  | succ j => exact Or.inr ⟨_, _, rowsGo_notlit n j cur rows ts (loopAhead_stops h), h⟩
  | zero =>
    obtain ⟨m, rfl⟩ := Nat.exists_eq_succ_of_ne_zero hn
    cases ts with
    | nil => exact Or.inl ⟨_, rfl⟩
    | cons t ts' =>
      cases t with
      | newline =>
        -- the line end of the row: the loop goes on and stops at once, `loop_` still ahead
        have h' : LoopAhead ts' := h
        exact Or.inr ⟨_, _, by simp only [rowsGo]; exact rowsGo_notlit _ m _ _ _ (loopAhead_stops h'), h'⟩
      | _ => exact Or.inl ⟨.expected .newline false, rfl⟩

/-- class C02-K3: the tokens end with the last label line of a block without rows -/
theorem block_k3 (P N : List Tok) (hP : ∀ t ∈ P, isNC t = true) (hN : ∀ t ∈ N, isNC t = true)
    (name : Word) (cols : List Word) (tls : List (List Char)) (hlen : cols.length = tls.length) (fuel : Nat) :
    blocksGoC (fuel + 1) (P ++ .lit name :: (N ++ .loop :: .newline :: (List.zipWith labelToks cols tls).flatten)) =
      .error (.expected .prop true) := by
  rw [blocksGoC_head P N _ hP hN, parseLabels_end cols tls hlen]

/-- class C02-K4: the rows of a block are directly followed by the name line of the next block -/
theorem block_k4 (P N Q : List Tok) (hP : ∀ t ∈ P, isNC t = true) (hN : ∀ t ∈ N, isNC t = true)
    (hQ : ∀ t ∈ Q, isNC t = true) (name : Word) (cols : List Word) (tls : List (List Char))
    (hlen : cols.length = tls.length) (hcols : cols ≠ []) (ws : List Word) (rs : List (List Word))
    (hrs : ∀ x ∈ ws :: rs, x.length = cols.length) (w2 : Word) (N2 r2 : List Tok)
    (hN2 : ∀ t ∈ N2, isNC t = true) (fuel : Nat) :
    ∃ e, blocksGoC (fuel + 1) (P ++ .lit name :: (N ++ .loop :: .newline ::
        ((List.zipWith labelToks cols tls).flatten ++ (Q ++ ((((ws :: rs).map rowToks).flatten) ++ (.lit w2 :: (N2 ++ .loop :: r2))))))) = .error e := by
  have hn : cols.length ≠ 0 := by simpa using hcols
  rw [blocksGoC_head P N _ hP hN,
    parseLabels_labels cols tls hlen _ (after_labels_head Q hQ cols.length hn (ws :: rs) hrs _ (fun h => by cases h))]
  simp only [parseRows_rows Q hQ _ hn ws rs hrs]
  obtain ⟨k, hk⟩ := Nat.exists_eq_succ_of_ne_zero hn
  have hcell : ∀ rows ts, rowsGo cols.length cols.length [] rows (.lit w2 :: ts) = rowsGo cols.length k [w2] rows ts := by
    intro rows ts; rw [hk]; simp [rowsGo]
  rw [hcell]
  rcases rowsGo_loopAhead cols.length hn k [w2] (ws :: rs).reverse _ ⟨r2, skipNC_upto N2 .loop r2 hN2 rfl⟩ with ⟨e, he⟩ | ⟨rows', ts', he, hla⟩
  · exact ⟨e, by simp only [he]⟩
  · obtain ⟨e, hE⟩ := blocksGoC_loopAhead fuel ts' hla
    exact ⟨e, by simp only [he, hE]; rfl⟩

theorem blocksGoC_reject (tr : List Line) (htr : ∀ l ∈ tr, l.Skip) (bs : List BlockLayout)
    (hbs : ∀ b ∈ bs, b.Ok) (hst : SepStmt bs) (hns : ¬ SepOk tr bs) (fuel : Nat) :
    ∃ e, blocksGoC fuel (docToks bs tr) = .error e := by
  induction bs generalizing fuel with
  | nil => exact absurd trivial hns
  | cons b rest ih =>
    cases fuel with
    | zero => exact ⟨.trailing, rfl⟩
    | succ f =>
      have hb := hbs b (by simp)
      obtain ⟨hpre, hN, hpost, hlen, hcols, hrs⟩ := block_step_hyps b hb
      rw [docToks_cons]
      cases rest with
      | nil =>
        -- class K3: the last block has no rows and nothing follows its labels
        have h0 : b.rows = [] := Classical.byContradiction fun h0 => hns fun h => absurd h h0
        have h2 : b.post ++ tr = [] := Classical.byContradiction fun h2 => hns fun _ => h2
        obtain ⟨hpost0, rfl⟩ := List.append_eq_nil_iff.1 h2
        rw [block_toks b hb]
        simp only [h0, hpost0, docToks, List.flatMap_nil, List.map_nil, List.flatten_nil, List.append_nil]
        exact ⟨_, block_k3 _ _ hpre hN b.name b.cols _ hlen f⟩
      | cons b2 rest' =>
        obtain ⟨hrne, hst'⟩ := hst
        have hb2 := hbs b2 (by simp)
        by_cases hp : b2.pre = []
        · -- class K4: the next block's name line directly follows the rows
          obtain ⟨ws, rs, hwr⟩ := List.exists_cons_of_ne_nil (mt List.map_eq_nil_iff.1 hrne : b.rows.map Line.words ≠ [])
          rw [block_toks b hb, reassoc, docToks_cons, block_toks b2 hb2, hp, hwr]
          simp only [List.flatMap_nil, List.nil_append, List.cons_append, List.append_assoc]
          exact block_k4 _ _ _ hpre hN hpost b.name b.cols _ hlen hcols ws rs (hwr ▸ hrs) b2.name _ _
            (midToks_nc b2 hb2.2.1) f
        · obtain ⟨e, he⟩ := ih (fun x hx => hbs x (by simp [hx])) hst' (fun h => hns ⟨hrne, hp, h⟩) f
          rw [blocksGoC_block b hb _ (docToks_stops b2 rest' tr hb2.1 hp) (fun h => absurd h hrne) f, he]
          exact ⟨e, rfl⟩

theorem readStar_reject (d : Doc) (h : d.OkStatement) (hns : ¬ SepOk d.trailing d.blocks) : ∃ e, readStar d.text = .error e := by
  obtain ⟨e, he⟩ := blocksGoC_reject d.trailing h.2.1 d.blocks h.1 h.2.2.1 hns ((docToks d.blocks d.trailing).length + 1)
  exact ⟨e, by rw [← readStarC_tables, readStarC_text d h, he]; rfl⟩

end CryoCat.C02
