import CryoCat.Model.C18
import CryoCat.Lemmas.Rot
import CryoCat.Lemmas.Sort
import Mathlib.Tactic.Ring
import Mathlib.Tactic.LinearCombination
import Mathlib.Order.Defs.LinearOrder
import Mathlib.Data.List.Forall2
/-! C18 — helper lemmas: matrix algebra of the rigid motion (any commutative ring; `IsRot` is `M3.IsRot` of `Lemmas/Rot`, where
the algebra of proper rotations is) and list lemmas for the nearest-neighbour selection. -/
namespace CryoCat.C18
variable {α : Type}

section algebra
variable [CommRing α]

def Ang.Unit (a : Ang α) : Prop := a.c * a.c + a.s * a.s = 1

def Pt.WF (p : Pt α) : Prop := p.phi.Unit ∧ p.theta.Unit ∧ p.psi.Unit

def IsRot (m : M3 α) : Prop := m.Orth ∧ m.det = 1

theorem IsRot.rot {m : M3 α} (h : IsRot m) : m.IsRot := h

theorem IsRot.cofactor {m : M3 α} (h : IsRot m) :
    m.a11 = m.a22 * m.a33 - m.a23 * m.a32 ∧ m.a12 = m.a23 * m.a31 - m.a21 * m.a33 ∧ m.a13 = m.a21 * m.a32 - m.a22 * m.a31 ∧
    m.a21 = m.a13 * m.a32 - m.a12 * m.a33 ∧ m.a22 = m.a11 * m.a33 - m.a13 * m.a31 ∧ m.a23 = m.a12 * m.a31 - m.a11 * m.a32 ∧
    m.a31 = m.a12 * m.a23 - m.a13 * m.a22 ∧ m.a32 = m.a13 * m.a21 - m.a11 * m.a23 ∧ m.a33 = m.a11 * m.a22 - m.a12 * m.a21 :=
  h.rot.cofactor

/-- the code's `-[psi, theta, phi]` rotation is the transpose of the orientation — for any numbers -/
theorem rotInv_eq_transpose (p : Pt α) : rotInv p = (rot p).transpose := (zxz_transpose ..).symm

theorem rot_isRot (p : Pt α) (h : p.WF) : (rot p).IsRot := zxz_isRot _ _ _ _ _ _ h.1 h.2.1 h.2.2

theorem rot_orth (p : Pt α) (h : p.WF) : (rot p).Orth := (rot_isRot p h).1

theorem rotInv_mul_rot (p : Pt α) (h : p.WF) : rotInv p * rot p = M3.one :=
  rotInv_eq_transpose p ▸ rot_orth p h

theorem rot_mul_rotInv (p : Pt α) (h : p.WF) : rot p * rotInv p = M3.one :=
  rotInv_eq_transpose p ▸ (rot_isRot p h).mul_transpose

theorem rotInv_orth (p : Pt α) (h : p.WF) : (rotInv p).Orth :=
  rotInv_eq_transpose p ▸ (rot_isRot p h).transpose_orth

theorem smul_add (k : α) (u v : V3 α) : V3.smul k (u + v) = V3.smul k u + V3.smul k v := V3.smul_add k u v

theorem d2_self (q : Pt α) : d2 q q = 0 := by
  simp only [d2, V3.normSq, V3.dot, V3.sub_def, V3.sub, sub_self, mul_zero, add_zero]

/-- `p'` is `p` moved rigidly by `(Q, t)`: the orientation is `Q·R`, whatever Euler angles now describe it -/
structure Moved (Q : M3 α) (t : V3 α) (p p' : Pt α) : Prop where
  tomo : p'.tomo = p.tomo
  sub : p'.sub = p.sub
  pos : pos p' = Q.apply (pos p) + t
  rot : rot p' = Q * rot p
  wf : p.WF
  wf' : p'.WF

variable {Q : M3 α} {t : V3 α} {q q' n n' : Pt α}

theorem Moved.diff (hq : Moved Q t q q') (hn : Moved Q t n n') :
    C18.pos n' - C18.pos q' = Q.apply (C18.pos n - C18.pos q) := by
  rw [hq.pos, hn.pos, M3.move_sub]

theorem Moved.d2_eq (hQ : Q.Orth) (hq : Moved Q t q q') (hn : Moved Q t n n') : d2 q' n' = d2 q n := by
  unfold d2
  rw [hq.diff hn, hQ.normSq_apply]

/-- `rot p' = Q · rot p` with both orientations of determinant 1 -/
theorem Moved.det_eq_one {p p' : Pt α} (h : Moved Q t p p') : Q.det = 1 := by
  have e := congrArg M3.det h.rot
  rw [M3.det_mul, (rot_isRot p h.wf).2, (rot_isRot p' h.wf').2, mul_one] at e
  exact e.symm

/-- the inverse orientation is a transpose, so it needs neither `Q.Orth` nor genuine angles to follow the motion -/
theorem Moved.rotInv_eq (hq : Moved Q t q q') : rotInv q' = rotInv q * Q.transpose := by
  rw [rotInv_eq_transpose, hq.rot, M3.transpose_mul, ← rotInv_eq_transpose]

theorem Moved.offset_eq (px : α) (hq : Moved Q t q q') (hn : Moved Q t n n') :
    V3.smul px (C18.pos n') - V3.smul px (C18.pos q') = Q.apply (V3.smul px (C18.pos n) - V3.smul px (C18.pos q)) := by
  rw [← V3.smul_sub, ← V3.smul_sub, hq.diff hn, M3.apply_smul]

theorem Moved.frame_eq (hQ : Q.Orth) (hq : Moved Q t q q') (v : V3 α) :
    (rotInv q').apply (Q.apply v) = (rotInv q).apply v := by
  rw [hq.rotInv_eq, M3.apply_mul, hQ.transpose_apply_apply]

theorem Moved.rel_eq (hQ : Q.Orth) (hq : Moved Q t q q') (hn : Moved Q t n n') :
    rotInv q' * C18.rot n' = rotInv q * C18.rot n := by
  rw [hq.rotInv_eq, hn.rot, M3.mul_assoc', ← M3.mul_assoc' Q.transpose, hQ, M3.one_mul']

/-- what the rigid motion does to a table row: only the tomogram-frame offset co-rotates -/
def Row.turn (Q : M3 α) (r : Row α) : Row α := { r with offset := Q.apply r.offset }

theorem mkRow_moved (S : Num α) (px : α) (tm : Int) (i j : Nat) (hQ : Q.Orth)
    (hq : Moved Q t q q') (hn : Moved Q t n n') :
    mkRow S px tm i q' j n' = (mkRow S px tm i q j n).turn Q := by
  unfold mkRow Row.turn
  simp only [hq.sub, hn.sub, hq.d2_eq hQ hn, hq.offset_eq px hn, hq.frame_eq hQ, hq.rel_eq hQ hn]

end algebra

section ordered
variable [_root_.Field α] [LinearOrder α] [IsStrictOrderedRing α]

/-- the middle point has non-negative sine: theta in [0°, 180°], as scipy returns it -/
theorem exists_zxz_of_rot {m : M3 α} (h : IsRot m) (hsq : ∃ s : α, 0 ≤ s ∧ s * s = 1 - m.a33 * m.a33) :
    ∃ cp sp ct st cs ss : α, cp * cp + sp * sp = 1 ∧ ct * ct + st * st = 1 ∧ cs * cs + ss * ss = 1 ∧ 0 ≤ st ∧
      zxz cp sp ct st cs ss = m :=
  h.rot.exists_zxz hsq

end ordered

section knn
variable [LinearOrder α]

/-- what "the k closest, in ascending order" means for a list `out` of candidate indices `< n`; `key` is the
squared distance to the query -/
structure KnnSpec (k n : Nat) (key : Nat → α) (out : List Nat) : Prop where
  len : out.length = min k n
  nodup : out.Nodup
  bound : ∀ j ∈ out, j < n
  sorted : out.Pairwise (fun i j => key i ≤ key j)
  closest : ∀ j, j < n → j ∉ out → ∀ i ∈ out, key i ≤ key j

theorem knnSpec_knnIdx (k n : Nat) (key : Nat → α) : KnnSpec k n key (knnIdx k n key) := by
  unfold knnIdx
  generalize hs : (List.range n).mergeSort (fun i j => decide (key i ≤ key j)) = s
  have hperm : s.Perm (List.range n) := hs ▸ List.mergeSort_perm _ _
  have hsorted : s.Pairwise (fun i j => key i ≤ key j) := hs ▸ Lists.pairwise_mergeSort_key key (List.range n)
  have hmem : ∀ j, j ∈ s ↔ j < n := fun j => by rw [hperm.mem_iff, List.mem_range]
  refine ⟨?_, ?_, ?_, ?_, ?_⟩
  · rw [List.length_take, hperm.length_eq, List.length_range]
  · exact (hperm.nodup_iff.2 List.nodup_range).sublist (List.take_sublist _ _)
  · intro j hj
    exact (hmem j).1 (List.mem_of_mem_take hj)
  · exact hsorted.sublist (List.take_sublist _ _)
  · intro j hj hnot i hi
    have hj' : j ∈ s.drop k :=
      (List.mem_append.1 (by rw [List.take_append_drop]; exact (hmem j).2 hj)).resolve_left hnot
    rw [← List.take_append_drop k s, List.pairwise_append] at hsorted
    exact hsorted.2.2 i hi j hj'

def NoTies (n : Nat) (key : Nat → α) : Prop := ∀ i j, i < n → j < n → key i = key j → i = j

theorem KnnSpec.subset {k n : Nat} {key : Nat → α} {l₁ l₂ : List Nat} (hinj : NoTies n key)
    (h₁ : KnnSpec k n key l₁) (h₂ : KnnSpec k n key l₂) : l₁ ⊆ l₂ := by
  intro x hx
  by_contra hx2
  have hsub : l₂ ⊆ l₁.erase x := by
    intro y hy
    have hyx : y ≠ x := fun e => hx2 (e ▸ hy)
    refine (List.mem_erase_of_ne hyx).2 ?_
    by_contra hy1
    have a := h₁.closest y (h₂.bound y hy) hy1 x hx
    have b := h₂.closest x (h₁.bound x hx) hx2 y hy
    exact hyx (hinj y x (h₂.bound y hy) (h₁.bound x hx) (le_antisymm b a))
  have hlen := h₂.nodup.length_le_of_subset hsub
  rw [List.length_erase_of_mem hx, h₁.len, h₂.len] at hlen
  have hpos : 0 < min k n := by
    rw [← h₁.len]; exact List.length_pos_of_mem hx
  omega

theorem KnnSpec.unique {k n : Nat} {key : Nat → α} {l₁ l₂ : List Nat} (hinj : NoTies n key)
    (h₁ : KnnSpec k n key l₁) (h₂ : KnnSpec k n key l₂) : l₁ = l₂ := by
  have hperm : l₁.Perm l₂ := (List.perm_ext_iff_of_nodup h₁.nodup h₂.nodup).2
    (fun a => ⟨fun h => h₁.subset hinj h₂ h, fun h => h₂.subset hinj h₁ h⟩)
  refine List.Perm.eq_of_pairwise (le := fun i j => key i ≤ key j) ?_ h₁.sorted h₂.sorted hperm
  intro a b ha hb hab hba
  exact hinj a b (h₁.bound a ha) (h₂.bound b hb) (le_antisymm hab hba)

end knn

theorem mem_insU (x t : Int) (l : List Int) : x ∈ insU t l ↔ x = t ∨ x ∈ l := by
  induction l with
  | nil => simp [insU]
  | cons h r ih =>
    unfold insU
    split
    · simp
    · split
      · rename_i h2; subst h2; simp
      · simp only [List.mem_cons, ih]
        exact or_left_comm

theorem pairwise_insU (t : Int) (l : List Int) (h : l.Pairwise (· < ·)) : (insU t l).Pairwise (· < ·) := by
  induction l with
  | nil => simp [insU]
  | cons a r ih =>
    rw [List.pairwise_cons] at h
    unfold insU
    split
    · rename_i hlt
      refine List.pairwise_cons.2 ⟨?_, List.pairwise_cons.2 h⟩
      intro x hx
      rcases List.mem_cons.1 hx with e | e
      · exact e ▸ hlt
      · exact Int.lt_trans hlt (h.1 x e)
    · split
      · exact List.pairwise_cons.2 h
      · rename_i h1 h2
        refine List.pairwise_cons.2 ⟨?_, ih h.2⟩
        intro x hx
        rcases (mem_insU x t r).1 hx with e | e
        · subst e; omega
        · exact h.1 x e

theorem mem_foldr_insU (x : Int) (l : List Int) : x ∈ l.foldr insU [] ↔ x ∈ l := by
  induction l with
  | nil => simp
  | cons a r ih => simp [List.foldr_cons, mem_insU, ih]

theorem pairwise_foldr_insU (l : List Int) : (l.foldr insU []).Pairwise (· < ·) := by
  induction l with
  | nil => simp
  | cons a r ih => exact pairwise_insU a _ ih

theorem mem_features (t : Int) (ta tn : List Int) : t ∈ features ta tn ↔ t ∈ ta ∧ t ∈ tn := by
  unfold features
  rw [mem_foldr_insU]
  simp [List.mem_filter]

section lift
variable {β γ : Type} {R : β → β → Prop}

theorem forall₂_map_eq {l l' : List β} (h : List.Forall₂ R l l') (f f' : β → γ)
    (hf : ∀ x x', R x x' → f' x' = f x) : l'.map f' = l.map f := by
  induction h with
  | nil => rfl
  | cons hx _ ih => simp [hf _ _ hx, ih]

theorem forall₂_filter {l l' : List β} (h : List.Forall₂ R l l') (p p' : β → Bool)
    (hp : ∀ x x', R x x' → p' x' = p x) : List.Forall₂ R (l.filter p) (l'.filter p') := by
  induction h with
  | nil => exact List.Forall₂.nil
  | cons hx _ ih =>
    rw [List.filter_cons, List.filter_cons, hp _ _ hx]
    split
    · exact List.Forall₂.cons hx ih
    · exact ih

theorem forall₂_getD {l l' : List β} (h : List.Forall₂ R l l') (j : Nat) (d d' : β) (hd : R d d') :
    R (l.getD j d) (l'.getD j d') := by
  induction h generalizing j with
  | nil => exact hd
  | cons hx _ ih =>
    cases j with
    | zero => exact hx
    | succ j => exact ih j

end lift

section rows
variable [CommRing α] (nb : Pt α → List (Pt α) → List Nat) (S : Num α) (px : α) (k : Nat) (a nn : List (Pt α)) (tm : Int)

def rowAt (i : Nat) (q : Pt α) : Row α :=
  mkRow S px tm i q ((nb q (subset tm nn)).getD i 0) ((subset tm nn).getD ((nb q (subset tm nn)).getD i 0) q)

theorem tomoRowsWith_eq_flatMap : tomoRowsWith nb S px k a nn tm =
    (List.range (min k (subset tm nn).length)).flatMap (fun i => (subset tm a).map (rowAt nb S px nn tm i)) := by
  simp only [tomoRowsWith, List.map_map]
  rfl

variable [LinearOrder α]

theorem tomoRows_eq_flatMap : tomoRows S px k a nn tm =
    (List.range (min k (subset tm nn).length)).flatMap (fun i => (subset tm a).map (rowAt (neighbours k) S px nn tm i)) :=
  tomoRowsWith_eq_flatMap (neighbours k) S px k a nn tm

theorem mem_tomoRows (r : Row α) : r ∈ tomoRows S px k a nn tm ↔
    ∃ i, i < min k (subset tm nn).length ∧ ∃ q ∈ subset tm a, rowAt (neighbours k) S px nn tm i q = r := by
  simp only [tomoRows_eq_flatMap, List.mem_flatMap, List.mem_map, List.mem_range]

end rows

section table
variable [CommRing α] [LinearOrder α] {Q : M3 α} {t : V3 α}

omit [LinearOrder α] in
theorem tomos_moved {l l' : List (Pt α)} (h : List.Forall₂ (Moved Q t) l l') : l'.map (·.tomo) = l.map (·.tomo) :=
  forall₂_map_eq h _ _ (fun _ _ hp => hp.tomo)

omit [LinearOrder α] in
theorem subset_moved {l l' : List (Pt α)} (h : List.Forall₂ (Moved Q t) l l') (tm : Int) :
    List.Forall₂ (Moved Q t) (subset tm l) (subset tm l') :=
  forall₂_filter h _ _ (fun x x' hx => by rw [hx.tomo])

omit [LinearOrder α] in
theorem keyOf_moved {q q' : Pt α} {cn cn' : List (Pt α)} (hQ : Q.Orth) (hq : Moved Q t q q')
    (hc : List.Forall₂ (Moved Q t) cn cn') : keyOf q' cn' = keyOf q cn := by
  funext j
  unfold keyOf
  exact hq.d2_eq hQ (forall₂_getD hc j q q' hq)

theorem neighbours_moved {q q' : Pt α} {cn cn' : List (Pt α)} (k : Nat) (hQ : Q.Orth) (hq : Moved Q t q q')
    (hc : List.Forall₂ (Moved Q t) cn cn') : neighbours k q' cn' = neighbours k q cn := by
  unfold neighbours
  rw [keyOf_moved hQ hq hc, hc.length_eq]

theorem tomoRows_moved (S : Num α) (px : α) (k : Nat) {a a' nn nn' : List (Pt α)} (hQ : Q.Orth)
    (ha : List.Forall₂ (Moved Q t) a a') (hn : List.Forall₂ (Moved Q t) nn nn') (tm : Int) :
    tomoRows S px k a' nn' tm = (tomoRows S px k a nn tm).map (Row.turn Q) := by
  have hcn := subset_moved hn tm
  rw [tomoRows_eq_flatMap, tomoRows_eq_flatMap, List.map_flatMap, hcn.length_eq]
  congr 1
  funext i
  rw [List.map_map]
  refine forall₂_map_eq (subset_moved ha tm) _ _ (fun q q' hq => ?_)
  unfold Function.comp rowAt
  rw [neighbours_moved k hQ hq hcn]
  exact mkRow_moved S px tm i _ hQ hq (forall₂_getD hcn _ q q' hq)

end table

section rowOf
variable [CommRing α] [LinearOrder α]

/-- row `r` is the report about query `q` and neighbour `n`, as the property words it -/
structure RowOf (S : Num α) (px : α) (k : Nat) (a nn : List (Pt α)) (r : Row α) (q n : Pt α) : Prop where
  q_mem : q ∈ a
  n_mem : n ∈ nn
  q_tomo : q.tomo = r.tomo
  n_tomo : n.tomo = r.tomo
  knn : KnnSpec k (subset r.tomo nn).length (keyOf q (subset r.tomo nn)) (neighbours k q (subset r.tomo nn))
  rank_lt : r.rank < min k (subset r.tomo nn).length
  idx : (neighbours k q (subset r.tomo nn))[r.rank]? = some r.nnIdx
  nb : (subset r.tomo nn)[r.nnIdx]? = some n
  sub : r.sub = q.sub
  subNn : r.subNn = n.sub
  d2 : r.d2 = V3.normSq (pos n - pos q)
  dist : r.dist = S.sqrt (V3.normSq (pos n - pos q)) * px
  offset : r.offset = V3.smul px (pos n - pos q)
  frame : r.frame = (rot q).transpose.apply r.offset
  rel : r.rel = (rot q).transpose * rot n
  ang : r.ang = S.ang (trace r.rel) (skewSq r.rel)

omit [CommRing α] [LinearOrder α] in
theorem getElem?_getD_of_lt {β : Type} {l : List β} {i : Nat} (h : i < l.length) (d : β) :
    l[i]? = some (l.getD i d) := by
  simp [List.getD_eq_getElem?_getD, List.getElem?_eq_getElem h]

omit [CommRing α] [LinearOrder α] in
theorem mem_subset (tm : Int) (l : List (Pt α)) (p : Pt α) : p ∈ subset tm l ↔ p ∈ l ∧ p.tomo = tm := by
  simp [subset, List.mem_filter]

theorem mem_nnStats (S : Num α) (px : α) (k : Nat) (a nn : List (Pt α)) (r : Row α) :
    r ∈ nnStats S px k a nn ↔ ∃ tm, (∃ p ∈ a, p.tomo = tm) ∧ (∃ p ∈ nn, p.tomo = tm) ∧ r ∈ tomoRows S px k a nn tm := by
  simp only [nnStats, List.mem_flatMap, mem_features, List.mem_map, and_assoc]

theorem rowOf_rowAt (S : Num α) (px : α) (k : Nat) (a nn : List (Pt α)) (tm : Int) (i : Nat) (q : Pt α)
    (hq : q ∈ subset tm a) (hi : i < min k (subset tm nn).length) :
    ∃ n, RowOf S px k a nn (rowAt (neighbours k) S px nn tm i q) q n := by
  have spec := knnSpec_knnIdx k (subset tm nn).length (keyOf q (subset tm nn))
  have hq' := (mem_subset tm a q).1 hq
  have hj := getElem?_getD_of_lt (l := neighbours k q (subset tm nn)) (hi.trans_eq spec.len.symm) 0
  have hn := getElem?_getD_of_lt (spec.bound _ (List.mem_of_getElem? hj)) q
  have hnm := (mem_subset tm nn _).1 (List.mem_of_getElem? hn)
  exact ⟨_,
    { q_mem := hq'.1, n_mem := hnm.1, q_tomo := hq'.2, n_tomo := hnm.2,
      knn := spec, rank_lt := hi, idx := hj, nb := hn,
      sub := rfl, subNn := rfl, d2 := rfl, dist := rfl,
      offset := (V3.smul_sub _ _ _).symm,
      frame := by simp only [rowAt, mkRow, rotInv_eq_transpose],
      rel := by simp only [rowAt, mkRow, rotInv_eq_transpose],
      ang := rfl }⟩

end rowOf

section anytree
variable [CommRing α] [LinearOrder α]

/-- `nb` answers every query of a common tomogram with a list meeting `KnnSpec`, and no query has two candidates at
the same distance -/
def CorrectSearch (nb : Pt α → List (Pt α) → List Nat) (k : Nat) (a nn : List (Pt α)) : Prop :=
  ∀ tm, ∀ q ∈ subset tm a,
    KnnSpec k (subset tm nn).length (keyOf q (subset tm nn)) (nb q (subset tm nn)) ∧
    NoTies (subset tm nn).length (keyOf q (subset tm nn))

omit [CommRing α] [LinearOrder α] in
theorem tomoRows_eq_with (S : Num α) [Add α] [Sub α] [Mul α] [Neg α] [OfNat α 0] [OfNat α 1] [LE α] [DecidableLE α]
    (px : α) (k : Nat) (a nn : List (Pt α)) (tm : Int) :
    tomoRows S px k a nn tm = tomoRowsWith (neighbours k) S px k a nn tm := rfl

theorem tomoRowsWith_eq (nb : Pt α → List (Pt α) → List Nat) (S : Num α) (px : α) (k : Nat) (a nn : List (Pt α))
    (h : CorrectSearch nb k a nn) (tm : Int) :
    tomoRowsWith nb S px k a nn tm = tomoRows S px k a nn tm := by
  rw [tomoRowsWith_eq_flatMap, tomoRows_eq_flatMap]
  congr 1
  funext i
  refine List.map_congr_left (fun q hq => ?_)
  obtain ⟨hspec, hties⟩ := h tm q hq
  unfold rowAt
  rw [hspec.unique hties (knnSpec_knnIdx k _ _)]
  rfl

omit [CommRing α] [LinearOrder α] in
theorem features_nil_of_disjoint (ta tn : List Int) (h : ∀ t ∈ ta, t ∉ tn) : features ta tn = [] :=
  List.eq_nil_iff_forall_not_mem.2 fun t ht => have ⟨ha, hn⟩ := (mem_features t ta tn).1 ht; h t ha hn

omit [CommRing α] [LinearOrder α] in
theorem motlSubset_single (t : Int) (l : List (Pt α)) : motlSubset [t] l = subset t l := by
  simp [motlSubset, subset]

omit [CommRing α] [LinearOrder α] in
theorem mem_motlSubset (vals : List Int) (l : List (Pt α)) (p : Pt α) :
    p ∈ motlSubset vals l ↔ p ∈ l ∧ p.tomo ∈ vals := by
  simp only [motlSubset, List.mem_flatMap, List.mem_filter, beq_iff_eq]
  constructor
  · rintro ⟨v, hv, hp, e⟩; exact ⟨hp, e ▸ hv⟩
  · rintro ⟨hp, hv⟩; exact ⟨p.tomo, hv, hp, rfl⟩

end anytree

end CryoCat.C18
