import CryoCat.Model.C17_Code
import CryoCat.Lemmas.Sort
/-! C17 — wedge lists: least and greatest tilt, blocks of a concatenation, the list as a STAR table and the grouping done by
`wedge_list_sg_to_em`; the code-level models of `gctf_read` and of the STOPGAP lists (Model/C17_Code.lean) agree with the
specification-level ones of Model/C17_Wedge.lean. -/
namespace CryoCat.C17

variable {α β : Type}

theorem any_eq_of_forall {α : Type} (p : α → Bool) (b : Bool) : ∀ (l : List α), l ≠ [] → (∀ x ∈ l, p x = b) → l.any p = b
  | [], h, _ => absurd rfl h
  | x :: l, _, h => by
    cases b
    · exact List.any_eq_false.2 (fun y hy => by simp [h y hy])
    · exact List.any_eq_true.2 ⟨x, List.mem_cons_self, h x List.mem_cons_self⟩

theorem getElem?_flatten_block {α : Type} :
    ∀ (ls : List (List α)) (k i : Nat) (blk : List α), ls[k]? = some blk → i < blk.length →
      ls.flatten[((ls.take k).map List.length).sum + i]? = blk[i]?
  | [], k, i, blk, h, _ => by simp at h
  | l :: ls, 0, i, blk, h, hi => by
    simp at h; subst h
    simp [List.getElem?_append_left hi]
  | l :: ls, k + 1, i, blk, h, hi => by
    simp at h
    have ih := getElem?_flatten_block ls k i blk h hi
    simp only [List.flatten_cons, List.take_succ_cons, List.map_cons, List.sum_cons]
    rw [List.getElem?_append_right (by omega)]
    have : l.length + ((ls.take k).map List.length).sum + i - l.length = ((ls.take k).map List.length).sum + i := by omega
    rw [this]; exact ih

theorem length_flatten_sum {α : Type} (ls : List (List α)) : ls.flatten.length = (ls.map List.length).sum :=
  List.length_flatten

theorem minOf_maxOf_spec {α : Type} (le : α → α → Bool) (htr : ∀ a b c, le a b = true → le b c = true → le a c = true)
    (htot : ∀ a b, (le a b || le b a) = true) (xs : List α) (lo hi : α) (h1 : minOf le xs = some lo) (h2 : maxOf le xs = some hi) :
    lo ∈ xs ∧ hi ∈ xs ∧ ∀ x ∈ xs, le lo x = true ∧ le x hi = true := by
  cases xs with
  | nil => cases h1
  | cons x xs =>
    simp only [minOf, maxOf, Option.some.injEq] at h1 h2
    subst h1 h2
    have hrefl : ∀ a, le a a = true := fun a => by simpa using htot a a
    have hor : ∀ a b, le a b ≠ true → le b a = true := fun a b h => (Bool.or_eq_true _ _ ▸ htot a b).resolve_left h
    obtain ⟨m1, m2⟩ := Lists.foldl_pick_spec (fun a b => le a b = true) (fun y m => le y m = true) hrefl htr
      (fun _ _ h => h) (fun y m => hor y m) xs x
    -- the maximum is the minimum of the reversed order
    obtain ⟨n1, n2⟩ := Lists.foldl_pick_spec (fun a b => le b a = true) (fun y m => le m y = true) hrefl
      (fun a b c hab hbc => htr c b a hbc hab) (fun _ _ h => h) (fun y m => hor m y) xs x
    exact ⟨m1, n1, fun y hy => ⟨m2 y hy, n2 y hy⟩⟩

theorem wedgeEm_row {α : Type} (le : α → α → Bool) (htr : ∀ a b c, le a b = true → le b c = true → le a c = true)
    (htot : ∀ a b, (le a b || le b a) = true) (t : Int × List α) (e : Int × α × α)
    (h : (match minOf le t.2, maxOf le t.2 with
      | some lo, some hi => some (t.1, lo, hi)
      | _, _ => none) = some e) :
    e.1 = t.1 ∧ e.2.1 ∈ t.2 ∧ e.2.2 ∈ t.2 ∧ ∀ x ∈ t.2, le e.2.1 x = true ∧ le x e.2.2 = true := by
  split at h
  · rename_i lo hi h1 h2
    cases h
    exact ⟨rfl, minOf_maxOf_spec le htr htot t.2 lo hi h1 h2⟩
  · cases h

theorem lookup_zip_map (f : String → WCell β) : ∀ (cols : List String) (c : String),
    (cols.zip (cols.map f)).lookup c = if c ∈ cols then some (f c) else none
  | [], c => by simp
  | k :: cols, c => by
    simp only [List.map_cons, List.zip_cons_cons, List.lookup_cons, List.mem_cons, lookup_zip_map f cols c]
    by_cases h : c = k
    · simp [h]
    · simp [h, beq_eq_false_iff_ne.2 h]

theorem isNan_eq (c : WCell α) : c.isNan = true ↔ c = .nan := by
  cases c <;> simp [WCell.isNan]

theorem map_nan (q : α → β) (c : WCell α) (h : c = .nan) : c.map q = .nan := by subst h; rfl

theorem look_sgTable (q : α → β) (rows : List (WedgeRow α)) (r : WedgeRow α) (hr : r ∈ rows) (c : String)
    (hc : c ∈ Gen.C17.wedgeColumns) :
    look (sgTable rows).cols (((sgTable rows).cols.map r.cellOf).map (WCell.map q)) c = (r.cellOf c).map q := by
  unfold look
  rw [List.map_map, lookup_zip_map]
  by_cases hm : c ∈ (sgTable rows).cols
  · simp [hm]
  · simp only [hm, if_false, Option.getD_none]
    -- a dropped column holds no value in any row, and an absent column reads as NaN
    have hall : rows.any (fun r => !(r.cellOf c).isNan) = false :=
      Bool.eq_false_iff.2 fun ha => hm (List.mem_filter.2 ⟨hc, ha⟩)
    have hnan : (r.cellOf c).isNan = true := by simpa using List.any_eq_false.1 hall r hr
    rw [map_nan q _ ((isNan_eq _).1 hnan)]

theorem asOpt_optCell (q : α → β) (o : Option α) : ((optCell o).map q).asOpt = some (o.map q) := by
  cases o <;> rfl

theorem loadSgRow_sgTable (q : α → β) (rows : List (WedgeRow α)) (r : WedgeRow α) (hr : r ∈ rows) :
    loadSgRow (sgTable rows).cols (((sgTable rows).cols.map r.cellOf).map (WCell.map q)) = some (r.map q) := by
  have L := look_sgTable q rows r hr
  simp only [Gen.C17.wedgeColumns, List.forall_mem_cons] at L
  obtain ⟨h1, h2, h3, h4, h5, h6, h7, h8, h9, h10, h11, h12, _⟩ := L
  unfold loadSgRow
  rw [h1, h2, h3, h4, h5, h6, h7, h8, h9, h10, h11, h12]
  simp only [WedgeRow.cellOf, String.reduceBEq, Bool.false_eq_true, ↓reduceIte, WCell.map, WCell.asInt, WCell.asNum]
  rcases r with ⟨n, px, x, y, z, zs, ta, d, e, v, a, cs⟩
  cases d <;> cases e <;> rfl

theorem isNan_optCell (o : Option α) : (optCell o).isNan = !o.isSome := by cases o <;> rfl

theorem isNan_cellOf (r : WedgeRow α) (c : String) (hc : c ∈ Gen.C17.wedgeColumns) :
    (r.cellOf c).isNan = ((c == "defocus" && !r.defocus.isSome) || (c == "exposure" && !r.exposure.isSome)) := by
  simp only [Gen.C17.wedgeColumns, List.mem_cons, List.not_mem_nil, or_false] at hc
  rcases hc with rfl | rfl | rfl | rfl | rfl | rfl | rfl | rfl | rfl | rfl | rfl | rfl <;>
    simp only [WedgeRow.cellOf, String.reduceBEq, Bool.false_eq_true, ↓reduceIte, isNan_optCell,
      Bool.false_and, Bool.true_and, Bool.or_false, Bool.false_or] <;> rfl

theorem sgTable_cols (rows : List (WedgeRow α)) (hne : rows ≠ []) :
    (sgTable rows).cols = wedgeHeader (rows.any (fun r => r.defocus.isSome)) (rows.any (fun r => r.exposure.isSome)) := by
  unfold sgTable wedgeHeader
  apply List.filter_congr
  intro c hc
  simp only [isNan_cellOf _ c hc]
  by_cases h1 : c = "defocus"
  · subst h1; simp
  · by_cases h2 : c = "exposure"
    · subst h2; simp
    · have e1 : (c == "defocus") = false := by simpa using h1
      have e2 : (c == "exposure") = false := by simpa using h2
      cases rows with
      | nil => exact absurd rfl hne
      | cons r rs => simp [e1, e2, bne]

theorem wedgeSingle_some (c : Consts α) (t : Tomo α) (rows : List (WedgeRow α)) :
    wedgeSingle c t = some rows ↔
      consistent t = true ∧ rows = t.tilts.zipIdx.map (fun p => mkWedgeRow c t p.1 (optAt t.defocus p.2) (optAt t.dose p.2)) := by
  unfold wedgeSingle
  split <;> simp [*, eq_comm]

theorem consistent_iff (t : Tomo α) : consistent t = true ↔
    (∀ d, t.defocus = some d → d.length = t.tilts.length) ∧ (∀ d, t.dose = some d → d.length = t.tilts.length) := by
  unfold consistent
  cases t.defocus <;> cases t.dose <;> simp

theorem optAt_isSome (o : Option (List α)) (i n : Nat) (hi : i < n) (h : ∀ d, o = some d → d.length = n) :
    (optAt o i).isSome = o.isSome := by
  cases o with
  | none => rfl
  | some d => simp [optAt, List.getElem?_eq_getElem (h d rfl ▸ hi)]

theorem wedgeSingle_mem (c : Consts α) (t : Tomo α) (rows : List (WedgeRow α)) (h : wedgeSingle c t = some rows) :
    consistent t = true ∧ ∀ r ∈ rows, ∃ i tilt, t.tilts[i]? = some tilt ∧ r = mkWedgeRow c t tilt (optAt t.defocus i) (optAt t.dose i) := by
  obtain ⟨hc, rfl⟩ := (wedgeSingle_some c t rows).1 h
  refine ⟨hc, fun r hr => ?_⟩
  obtain ⟨p, hp, rfl⟩ := List.mem_map.1 hr
  exact ⟨p.2, p.1, List.mk_mem_zipIdx_iff_getElem?.1 (by cases p; exact hp), rfl⟩

theorem wedgeBatch_mem (c : Consts α) (ts : List (Tomo α)) (rows : List (WedgeRow α)) (h : wedgeBatch c ts = some rows) :
    ∀ r ∈ rows, ∃ t ∈ ts, ∃ rs, wedgeSingle c t = some rs ∧ r ∈ rs := by
  obtain ⟨rss, hm, rfl⟩ := Option.map_eq_some_iff.1 h
  intro r hr
  obtain ⟨rs, hrs, hr⟩ := List.mem_flatten.1 hr
  obtain ⟨t, ht, hs⟩ := Lists.mapM_mem _ ts rss hm rs hrs
  exact ⟨t, ht, rs, hs, hr⟩

theorem wedgeBatch_flags (c : Consts α) (ts : List (Tomo α)) (rows : List (WedgeRow α)) (h : wedgeBatch c ts = some rows) :
    ∀ r ∈ rows, ∃ t ∈ ts, r.defocus.isSome = t.defocus.isSome ∧ r.exposure.isSome = t.dose.isSome := by
  intro r hr
  obtain ⟨t, ht, rs, hs, hrs⟩ := wedgeBatch_mem c ts rows h r hr
  obtain ⟨hc, hm⟩ := wedgeSingle_mem c t rs hs
  obtain ⟨i, tilt, hi, rfl⟩ := hm r hrs
  have hlt : i < t.tilts.length := (List.getElem?_eq_some_iff.1 hi).1
  exact ⟨t, ht, optAt_isSome _ i _ hlt ((consistent_iff t).1 hc).1, optAt_isSome _ i _ hlt ((consistent_iff t).1 hc).2⟩

theorem groupKeys_spec (ids : List Int) :
    (groupKeys ids).Pairwise (· < ·) ∧ ∀ k, k ∈ groupKeys ids ↔ k ∈ ids := by
  constructor
  · exact (Lists.pairwise_eraseDups (Lists.pairwise_mergeSort_key (fun a : Int => a) ids)).imp fun h => Int.lt_iff_le_and_ne.2 h
  · intro k
    simp only [groupKeys, List.mem_eraseDups]
    exact (List.mergeSort_perm ids _).mem_iff

theorem wedgeEm_some (le : α → α → Bool) : ∀ (ts : List (Int × List α)), (∀ t ∈ ts, t.2 ≠ []) → ∃ out, wedgeEm le ts = some out
  | [], _ => ⟨[], rfl⟩
  | t :: ts, h => by
    obtain ⟨out, ho⟩ := wedgeEm_some le ts (fun x hx => h x (by simp [hx]))
    have ht := h t (by simp)
    unfold wedgeEm at ho ⊢
    rw [List.mapM_cons, ho]
    cases hx : t.2 with
    | nil => exact absurd hx ht
    | cons x xs =>
      simp only [minOf, maxOf]
      exact ⟨_, rfl⟩

/-- tables the STAR layer is asked to carry here -/
def StarWF (t : StarTable α) : Prop :=
  t.cols.Nodup ∧ t.rows ≠ [] ∧ (∀ r ∈ t.rows, r.length = t.cols.length) ∧ ∀ r ∈ t.rows, ∀ c ∈ r, c ≠ .nan

/-- the assumption on the STAR layer (property C02, proved elsewhere): writing a well-formed table under any block
name and reading the file back (`Starfile.read` returns the first block whatever its name) gives the same header and
rows, each number passed through `q` (rounding to the writer's 6 decimals, printing, parsing), integers unchanged -/
def StarRoundTrip {F : Type} (q : α → β) (write : String → StarTable α → F) (read : F → Option (StarTable β)) : Prop :=
  ∀ (spec : String) (t : StarTable α), StarWF t → read (write spec t) = some (t.mapCells q)

/-- with a CTF / dose input given for all tomograms or for none (the only situations `create_wedge_list_sg_batch` can
produce), the written table has no NaN cell and is one the STAR layer accepts -/
theorem sgTable_starWF (rows : List (WedgeRow α)) (hne : rows ≠ []) (hasCtf hasDose : Bool)
    (hd : ∀ r ∈ rows, r.defocus.isSome = hasCtf) (he : ∀ r ∈ rows, r.exposure.isSome = hasDose) : StarWF (sgTable rows) := by
  refine ⟨?_, ?_, ?_, ?_⟩
  · have : Gen.C17.wedgeColumns.Nodup := by decide +kernel
    exact List.Pairwise.sublist List.filter_sublist this
  · simpa [sgTable] using hne
  · intro r hr
    simp only [sgTable, List.mem_map] at hr
    obtain ⟨w, _, rfl⟩ := hr
    simp [sgTable]
  · intro cells hcells c hc hnan
    simp only [sgTable, List.mem_map] at hcells
    obtain ⟨r, hr, rfl⟩ := hcells
    obtain ⟨name, hname, rfl⟩ := List.mem_map.1 hc
    obtain ⟨hcol, hany⟩ := List.mem_filter.1 hname
    obtain ⟨r2, hr2, hnot⟩ := List.any_eq_true.1 hany
    -- the column is kept because some row has a value in it; with uniform inputs every row then has one
    have h1 := isNan_cellOf r name hcol
    have h2 := isNan_cellOf r2 name hcol
    rw [hd r hr, he r hr] at h1
    rw [hd r2 hr2, he r2 hr2, ← h1, hnan] at h2
    rw [h2] at hnot
    cases hnot

theorem mapM_all_some {γ δ : Type} (f : γ → Option δ) (g : γ → δ) (l : List γ) (h : ∀ x ∈ l, f x = some (g x)) :
    l.mapM f = some (l.map g) := by
  have := Lists.mapM_map_some (fun x : γ => x) f l g h
  simpa using this

theorem gctfReadCode_row [Add α] [Mul α] [Div α] [OfNat α 0] (f d : α) (cols : List String) (row s : List α) (u v a p : α)
    (hs : selectCols (if cols.contains Gen.C17.gctfPhaseColumn then Gen.C17.gctfColumns
        else Gen.C17.gctfColumns.filter (fun n => n != Gen.C17.gctfPhaseColumn)) cols row = some s)
    (hpad : (if cols.contains Gen.C17.gctfPhaseColumn then s else s ++ [0]) = [u, v, a, p]) :
    gctfReadCode f d cols [row] = some [defocusRow f d u v a p] := by
  simp only [gctfReadCode, List.mapM_cons, List.mapM_nil, hs, Option.map_some, hpad]
  rfl

theorem gctfColumns_without_phase :
    Gen.C17.gctfColumns.filter (fun n => n != Gen.C17.gctfPhaseColumn) = ["rlnDefocusU", "rlnDefocusV", "rlnDefocusAngle"] := by
  decide +kernel

/-- **gctf column order is irrelevant (file with rlnPhaseShift)**: whatever the order of the columns in the STAR file, one
row is read into Å→µm-scaled U and V *found by name*, the angle, the phase shift and the mean of the scaled defoci -/
theorem gctf_code_row [Add α] [Mul α] [Div α] [OfNat α 0] (f d : α) (cols : List String) (row : List α) (u v a p : α)
    (hph : cols.contains "rlnPhaseShift" = true)
    (hu : (cols.zip row).lookup "rlnDefocusU" = some u) (hv : (cols.zip row).lookup "rlnDefocusV" = some v)
    (ha : (cols.zip row).lookup "rlnDefocusAngle" = some a) (hp : (cols.zip row).lookup "rlnPhaseShift" = some p) :
    gctfReadCode f d cols [row] = some [defocusRow f d u v a p] := by
  have hph' : cols.contains Gen.C17.gctfPhaseColumn = true := hph
  apply gctfReadCode_row f d cols row [u, v, a, p]
  · simp only [hph', if_true, Gen.C17.gctfColumns, selectCols, List.mapM_cons, List.mapM_nil, hu, hv, ha, hp]
    rfl
  · rw [if_pos hph']

/-- … and for a file without rlnPhaseShift the phase shift is 0 -/
theorem gctf_code_row_nophase [Add α] [Mul α] [Div α] [OfNat α 0] (f d : α) (cols : List String) (row : List α) (u v a : α)
    (hph : cols.contains "rlnPhaseShift" = false)
    (hu : (cols.zip row).lookup "rlnDefocusU" = some u) (hv : (cols.zip row).lookup "rlnDefocusV" = some v)
    (ha : (cols.zip row).lookup "rlnDefocusAngle" = some a) :
    gctfReadCode f d cols [row] = some [defocusRow f d u v a 0] := by
  have hph' : cols.contains Gen.C17.gctfPhaseColumn = false := hph
  apply gctfReadCode_row f d cols row [u, v, a]
  · simp only [hph', Bool.false_eq_true, if_false, gctfColumns_without_phase, selectCols, List.mapM_cons, List.mapM_nil, hu, hv, ha]
    rfl
  · rw [hph']; rfl

theorem repeatRows_single (r : List α) (n : Nat) : repeatRows [r] n = List.replicate n r := by
  simp [repeatRows]

/-- **`create_wedge_list_sg`, code = specification**: `np.repeat` of the one-row dimension table and `z.values[0][0]` give every
row that tomogram's dimensions and z-shift -/
theorem wedge_single_code_eq (c : Consts α) (id : Int) (x y z zs : α) (tilts : List α) (defocus dose : Option (List α)) :
    wedgeSingleCode c { id := id, dims := [[x, y, z]], zTable := [[zs]], tilts := tilts, defocus := defocus, dose := dose }
      = wedgeSingle c { id := id, dimX := x, dimY := y, dimZ := z, zShift := zs, tilts := tilts, defocus := defocus, dose := dose } := by
  unfold wedgeSingleCode wedgeSingle
  simp only [repeatRows_single, List.length_replicate, beq_self_eq_true, Bool.and_true]
  have hl : (SingleIn.lengthsOk { id := id, dims := [[x, y, z]], zTable := [[zs]], tilts := tilts, defocus := defocus, dose := dose })
      = consistent { id := id, dimX := x, dimY := y, dimZ := z, zShift := zs, tilts := tilts, defocus := defocus, dose := dose } := rfl
  rw [hl]
  split
  · congr 1
    apply mapM_all_some
    intro p hp
    obtain ⟨t, i⟩ := p
    have hi := (List.mem_zipIdx' hp).1
    simp only [List.getElem?_replicate, hi, if_true, mkWedgeRow]
  · rfl

theorem batchSingleIn_code (c : Consts α) (b : BatchIn α) (t : Int) (tm : Tomo α) (ht : batchTomo b t = some tm) :
    (batchSingleIn b t).bind (wedgeSingleCode c) = wedgeSingle c tm := by
  unfold batchTomo at ht
  unfold batchSingleIn
  split at ht
  · rename_i x y z zs f hd hz hf
    cases ht
    simp only [hd, hz, hf, Option.bind_some]
    exact wedge_single_code_eq c t x y z zs f.1 f.2.1 f.2.2
  · cases ht

end CryoCat.C17
