import CryoCat.Lemmas.C19_Suffix
import CryoCat.Lemmas.C19_Prefix
/-! C19 — `ChainsWellNumbered` and the link invariant through `merge`, `step` and the main loop. -/
namespace CryoCat.C19
set_option linter.unusedSectionVars false
variable {α : Type} [LE α] [LT α] [DecidableLE α] [DecidableLT α] [DecidableEq α]

theorem mkChainFrom_dl (o : Opts) (c : Cfg α) (cls : Int) (ms : List (Nat × α)) (k : Int) (hl : Linked o c ms) :
    DL o c (mkChainFrom cls k ms) := by
  intro r hr r' hr' _ hk
  obtain ⟨-, n, e, hn⟩ := (mem_mkChainFrom cls k ms r).1 hr
  obtain ⟨-, n', e', hn'⟩ := (mem_mkChainFrom cls k ms r').1 hr'
  obtain rfl : n' = n + 1 := by omega
  exact hl n _ _ hn hn'

theorem DL.append {o : Opts} {c : Cfg α} {A C : List (Row α)} (hA : DL o c A) (hC : DL o c C)
    (hd : ∀ r ∈ A, ∀ r' ∈ C, r.obj ≠ r'.obj) : DL o c (A ++ C) := by
  intro r hr r' hr' ho hk
  rcases List.mem_append.1 hr with hr | hr <;> rcases List.mem_append.1 hr' with hr' | hr'
  · exact hA r hr r' hr' ho hk
  · exact absurd ho (hd r hr r' hr')
  · exact absurd ho.symm (hd r' hr' r hr)
  · exact hC r hr r' hr' ho hk

/-- the state handed to `add_chain_suffix`: the table and a freshly numbered linked chain -/
theorem mid_fresh {o : Opts} {c : Cfg α} {nfm : List (Row α)} {K : Int → Int} {cls : Int} (hW : WN nfm K cls)
    (hcls : 1 ≤ cls) (hD : DL o c nfm) (ms : List (Nat × α)) (hne : ms ≠ []) (hl : Linked o c ms)
    (hnd : (ids (nfm ++ mkChainFrom cls 1 ms)).Nodup) :
    Mid o c nfm cls 1 ms (fun g => if g = cls then (ms.length : Int) else K g) (cls + 1) := by
  refine ⟨hW.append_fresh hcls _, hnd, hD.append (mkChainFrom_dl _ c cls _ 1 hl) ?_, by simp only [if_true]; omega, hne⟩
  intro r hr r' hr'
  have := (hW.rng r hr).2
  have := (mkChainFrom_mem cls _ 1 r' hr').1
  omega

theorem resolve_spec (o : Opts) (nfm : List (Row α)) (single : Bool) (fi0 nm0 : Option (Nat × α)) :
    (∀ p, (resolve o nfm single fi0 nm0).1 = some p → fi0 = some p) ∧
    (∀ p, (resolve o nfm single fi0 nm0).2.1 = some p → nm0 = some p) ∧
    ∀ f df m dm, (resolve o nfm single fi0 nm0).1 = some (f, df) → (resolve o nfm single fi0 nm0).2.1 = some (m, dm) →
      ((rowOf nfm f).map (·.obj) == (rowOf nfm m).map (·.obj)) = false := by
  -- splitting the equation `resolve … = res` keeps the case analysis away from the six copies in the goal
  generalize hres : resolve o nfm single fi0 nm0 = res
  unfold resolve at hres
  split at hres
  · split at hres
    · split at hres <;> subst hres
      · exact ⟨fun _ e => e, (fun _ e => nomatch e), fun _ _ _ _ _ e => nomatch e⟩
      · exact ⟨(fun _ e => nomatch e), fun _ e => e, fun _ _ _ _ e _ => nomatch e⟩
    · split at hres
      · split at hres <;> subst hres
        · exact ⟨fun _ e => e, (fun _ e => nomatch e), fun _ _ _ _ _ e => nomatch e⟩
        · exact ⟨(fun _ e => nomatch e), fun _ e => e, fun _ _ _ _ e _ => nomatch e⟩
      · rename_i h2
        subst hres
        refine ⟨fun _ e => e, fun _ e => e, ?_⟩
        intro f' df' m' dm' e1 e2
        cases e1; cases e2
        simpa using h2
  · rename_i hno
    subst hres
    exact ⟨fun _ e => e, fun _ e => e, fun f df m dm e1 e2 => (hno f df m dm e1 e2).elim⟩

/-- `add_chain_prefix` as `trace_chains` calls it, on the state the suffix part left (flag `b`): with
`class_max = None` if nothing was attached, with the lengthened chain's size and a fresh id otherwise -/
theorem prefixPart_traced {c : Cfg α} {A : List (Row α)} {K : Int → Int} {cc gc k : Int} {ms : List (Nat × α)}
    (hM : Mid Opts.documented c A gc k ms K cc) (i : Nat) (b : Bool) (tg : List Tag) (nm : Option (Nat × α))
    (hnm : ∀ m dm, nm = some (m, dm) →
      dm = c.d (lastOf ms i) m ∧ inWin Opts.documented c (c.d (lastOf ms i) m) = true)
    (hkeep : b = false → ∀ r ∈ A, r.obj ≠ gc)
    (hchg : b = true → 2 ≤ K gc ∧ ∀ m dm t, nm = some (m, dm) → rowOf A m = some t → t.obj ≠ gc) :
    Traced Opts.documented c ((prefixPart Opts.documented (A, mkChainFrom gc k ms, b, tg) nm cc).1 ++
        (prefixPart Opts.documented (A, mkChainFrom gc k ms, b, tg) nm cc).2.1)
        (prefixPart Opts.documented (A, mkChainFrom gc k ms, b, tg) nm cc).2.2.1 ∧
      cc ≤ (prefixPart Opts.documented (A, mkChainFrom gc k ms, b, tg) nm cc).2.2.1 := by
  unfold prefixPart
  cases nm with
  | none => exact ⟨⟨K, hM.wn, hM.dl⟩, Int.le_refl _⟩
  | some md =>
    obtain ⟨m, dm⟩ := md
    dsimp only
    cases b with
    | false => exact ⟨addPrefix_none hM (hkeep rfl) i m dm (hnm m dm rfl), Int.le_refl _⟩
    | true =>
      obtain ⟨hK, hneq⟩ := hchg rfl
      have hcm : classMaxOf Opts.documented true (mkChainFrom gc k ms) cc = (some (K gc, cc), cc + 1) := by
        have hb : (Opts.documented).bothSidesFreshId = true := rfl
        simp only [classMaxOf, hb, if_true, hM.maxOrd]
        rw [if_pos (by omega)]
      rw [hcm]
      exact ⟨addPrefix_some hM i m dm cc (Int.le_refl _) (fun t => hneq m dm t rfl) (hnm m dm rfl), Int.le_add_one (Int.le_refl _)⟩

theorem merge_traced {c : Cfg α} {nfm : List (Row α)} {K : Int → Int} {cls : Int} {first : Nat} {ms : List (Nat × α)}
    (hM : Mid Opts.documented c nfm cls 1 ms K (cls + 1)) (hms : ∃ x tl, ms = (first, x) :: tl)
    (hfresh : ∀ r ∈ nfm, r.obj ≠ cls) (i : Nat) (single : Bool) :
    Traced Opts.documented c
        ((merge Opts.documented c nfm (mkChainFrom cls 1 ms) first (lastOf ms i) single (cls + 1)).1 ++
          (merge Opts.documented c nfm (mkChainFrom cls 1 ms) first (lastOf ms i) single (cls + 1)).2.1)
        (merge Opts.documented c nfm (mkChainFrom cls 1 ms) first (lastOf ms i) single (cls + 1)).2.2.1 ∧
      1 ≤ (merge Opts.documented c nfm (mkChainFrom cls 1 ms) first (lastOf ms i) single (cls + 1)).2.2.1 := by
  unfold merge
  dsimp only
  have hs := resolve_spec Opts.documented nfm single
    (nearestExit Opts.documented c first fun j => (nfm.map (·.idx)).contains j)
    (nearestEntry Opts.documented c (lastOf ms i) fun j => (nfm.map (·.idx)).contains j)
  obtain ⟨A, g, k, K1, b, tg, e, hM1, h1, h2⟩ := suffixPart_mid hM hms hfresh _ _
    (fun f df e => by obtain ⟨_, _, hw, hx⟩ := nearestExit_some _ _ _ _ _ _ (hs.1 _ e); exact ⟨hx, hw⟩) hs.2.2
  rw [e]
  obtain ⟨hT, hle⟩ := prefixPart_traced hM1 i b tg _
    (fun m dm e => by obtain ⟨_, _, hw, hx⟩ := nearestEntry_some _ _ _ _ _ _ (hs.2.1 _ e); exact ⟨hx, hw⟩) h1 h2
  exact ⟨hT, by have := hM.gc_rng.1; omega⟩

/-- the loop invariant: the traced table is well numbered and correctly linked -/
def Inv2 (c : Cfg α) (st : State α) : Prop :=
  Traced Opts.documented c st.nfm st.classC ∧ 1 ≤ st.classC

theorem step_inv2 (c : Cfg α) (st : State α) (i : Nat) (hi : i < c.n) (h : Inv c st) (h2 : Inv2 c st) :
    Inv2 c (step Opts.documented c st i) := by
  obtain ⟨⟨K, hW, hD⟩, hc⟩ := h2
  have hstep := (step_inv Opts.documented c st i hi h).1.1
  rw [step_ids] at hstep
  unfold step
  by_cases hin : (st.nfm.map (·.idx)).contains i = true
  · rw [if_pos hin]; exact ⟨⟨K, hW, hD⟩, hc⟩
  · rw [if_neg hin]
    have hin' : i ∉ ids st.nfm := by simpa [ids] using hin
    rw [if_neg hin'] at hstep
    obtain ⟨x, tl, htl, hl, -, -⟩ := traceChain_spec Opts.documented c (ids st.nfm) c.n i []
    rw [← ids_mkChainFrom st.classC 1, ← ids_append] at hstep
    have hM := mid_fresh hW hc hD _ (htl ▸ List.cons_ne_nil _ _) (htl ▸ hl) hstep
    dsimp only
    by_cases he : st.nfm.isEmpty = true
    · rw [if_pos he]
      exact ⟨⟨_, hM.wn, hM.dl⟩, by dsimp only; omega⟩
    · rw [if_neg he]
      have hfresh : ∀ r ∈ st.nfm, r.obj ≠ st.classC := fun r hr => by have := (hW.rng r hr).2; omega
      exact merge_traced hM ⟨x, tl, htl⟩ hfresh i _

theorem run_inv2 (c : Cfg α) :
    (∃ K cc, WN (run Opts.documented c).nfm K cc) ∧ DL Opts.documented c (run Opts.documented c).nfm ∧
      (ids (run Opts.documented c).nfm).Nodup ∧ ∀ j ∈ ids (run Opts.documented c).nfm, j < c.n := by
  obtain ⟨hI, ⟨K, hW, hD⟩, -⟩ : Inv c (run Opts.documented c) ∧ Inv2 c (run Opts.documented c) :=
    List.foldlRecOn (motive := fun st => Inv c st ∧ Inv2 c st) _ _
      ⟨⟨by simp [ids], by simp [ids]⟩, ⟨fun _ => 0, WN.nil _ _, by intro r hr; simp at hr⟩, Int.le_refl _⟩
      fun st h a ha => ⟨(step_inv Opts.documented c st a (List.mem_range.1 ha) h.1).1,
        step_inv2 c st a (List.mem_range.1 ha) h.1 h.2⟩
  exact ⟨⟨K, _, hW⟩, hD, hI.1, hI.2⟩

end CryoCat.C19
