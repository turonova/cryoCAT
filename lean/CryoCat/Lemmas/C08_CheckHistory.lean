import CryoCat.Lemmas.C08_CheckOps
import CryoCat.Lemmas.C08_History
/-! C08 — an accepted step / an accepted observed history: the clauses hold for the REAL tables, and
every row of the last REAL table is a row that entered the history with only id fields rewritten. -/
namespace CryoCat.C08
open CryoCat
set_option linter.unusedSectionVars false

def StepOK {α : Type} [DecidableEq α] [Add α] [LE α] (fill : α → α) (nat : Nat → α) : Op α → Motl α → Obs α → Prop
  | .subset f vs, l, o => SubsetOK f vs l o.out
  | .remove f vs, l, o => RemoveOK f vs l o.out
  | .splitPick f i, l, o => SplitOK f l o.parts ∧ o.out = o.parts.getD i []
  | .intersect f other, l, o => IntersectOK fill f l other o.out
  | .dropDup dup dec asc, l, o => DropDupOK (fun v => v) dup dec asc l o.out
  | .mergeRenumber b a s, l, o => MergeRenumberOK fill nat (rawInputs b a s l) o.out
  | .mergeDropDup b a s, l, o => MergeDropDupOK fill (rawInputs b a s l) o.out
  | .renumberParticles, l, o => RenumberParticlesOK nat l o.out
  | .renumberObjects start, l, o => RenumberObjectsOK nat start l o.out

section cert
variable {α : Type}

/-- what `checkStep` needs beyond `StepOK`, as a clause Prop: for `merge_and_drop_duplicates` one of the OFFERED
certificates meets the clauses (`MergeDropDupOK` only says that some certificate exists) -/
def HintCertOK [Add α] [LE α] (fill : α → α) : Op α → Motl α → Obs α → Prop
  | .mergeDropDup b a s, l, o => ∃ cs ∈ o.hints, MergeDropDupCertOK fill cs (rawInputs b a s l) o.out
  | _, _, _ => True

/-- every step of an observed history meets its clauses (and, for `merge_and_drop_duplicates`, with an offered
certificate), each judged against the REAL previous table — no checker inside -/
def RunCertOK [DecidableEq α] [Add α] [LE α] (fill : α → α) (nat : Nat → α) : List (Op α × Obs α) → Motl α → Prop
  | [], _ => True
  | (op, o) :: rest, l => (StepOK fill nat op l o ∧ HintCertOK fill op l o) ∧ RunCertOK fill nat rest o.out

end cert

section fill
variable {α : Type} [CommRing α] [LinearOrder α] [IsStrictOrderedRing α]

theorem fillIf_idem (fill : α → α) (hfill : ∀ v, fill (fill v) = fill v) (df : Bool) (v : α) :
    fillIf fill df (fillIf fill df v) = fillIf fill df v := by
  unfold fillIf; split
  · exact hfill v
  · rfl

end fill

section ring
variable {α : Type} [CommRing α] [LinearOrder α] [IsStrictOrderedRing α]
  (eqv : α → α → Bool) (heqv : ∀ a b, eqv a b = true ↔ a = b)
include heqv

theorem checkStep_iff (fill : α → α) (nat : Nat → α) (op : Op α) (l : Motl α) (o : Obs α) :
    checkStep eqv fill nat op l o = true ↔ StepOK fill nat op l o ∧ HintCertOK fill op l o := by
  unfold checkStep
  cases op with
  | subset f vs =>
    simp only [c08_reflect, stepClauses, StepOK, HintCertOK, and_true]
    exact checkSubset_iff eqv heqv f vs l o.out
  | remove f vs => exact (checkRemove_iff eqv heqv f vs l o.out).trans (and_iff_left trivial).symm
  | splitPick f i =>
    have hs := checkSplit_iff eqv heqv f l o.parts
    unfold checkSplit at hs
    simp only [c08_reflect, stepClauses, StepOK, HintCertOK, and_true, hs, listEqB_iff eqv heqv]
  | intersect f other => exact (checkIntersect_iff eqv heqv fill f l other o.out).trans (and_iff_left trivial).symm
  | dropDup dup dec asc => exact (checkDropDup_iff eqv heqv _ dup dec asc l o.out).trans (and_iff_left trivial).symm
  | mergeRenumber b a s => exact (checkMergeRenumber_iff eqv heqv fill nat _ o.out).trans (and_iff_left trivial).symm
  | mergeDropDup b a s =>
    have hcert : (∃ cs ∈ o.hints, MergeDropDupCertOK fill cs (rawInputs b a s l) o.out) →
        MergeDropDupOK fill (rawInputs b a s l) o.out := fun ⟨cs, _, h⟩ => ⟨cs, h⟩
    simp only [stepClauses, StepOK, HintCertOK, and_iff_right_of_imp hcert]
    split
    next cs hf =>
      have hc := List.find?_some hf
      exact iff_of_true rfl ⟨cs, List.mem_of_find?_eq_some hf, (checkMergeDropDup_cs_iff eqv heqv fill cs _ o.out).1 hc⟩
    next hf =>
      refine iff_of_false (by simp) ?_
      rintro ⟨cs, hcs, hc⟩
      exact List.find?_eq_none.1 hf cs hcs ((checkMergeDropDup_cs_iff eqv heqv fill cs _ o.out).2 hc)
  | renumberParticles => exact (checkRenumberParticles_iff eqv heqv nat l o.out).trans (and_iff_left trivial).symm
  | renumberObjects start => exact (checkRenumberObjects_iff eqv heqv nat start l o.out).trans (and_iff_left trivial).symm

omit heqv in
theorem mem_shiftedInputs (fill : α → α) (cs : List α) (ins : List (Bool × Motl α)) (x : Bool × Motl α)
    (hx : x ∈ shiftedInputs fill cs ins) :
    ∃ c, ∃ y ∈ ins, x = (y.1, shiftObj c (y.2.map (loadKeys (fillIf fill y.1)))) :=
  mem_zipWith_right _ cs ins x hx

omit heqv in
/-- `loadKeys` fills the three key cells and touches no other -/
theorem same_loadKeys (g : α → α) (p : Particle α) : Same g p (loadKeys g p) := by
  intro f
  unfold loadKeys
  by_cases h3 : f = Field.score
  · subst h3; exact Or.inr (Particle.get_set_same _ _ _)
  rw [Particle.get_set_other _ _ _ _ h3]
  by_cases h2 : f = Field.subtomo_id
  · subst h2; exact Or.inr (Particle.get_set_same _ _ _)
  rw [Particle.get_set_other _ _ _ _ h2]
  by_cases h1 : f = Field.object_id
  · subst h1; exact Or.inr (Particle.get_set_same _ _ _)
  exact Or.inl (Particle.get_set_other _ _ _ _ h1)

omit heqv in
/-- an accepted selection returns rows of the REAL previous table, every field untouched -/
theorem stepOK_selection_mem (fill : α → α) (nat : Nat → α) (op : Op α) (hop : op.isSelection = true) (l : Motl α) (o : Obs α)
    (h : StepOK fill nat op l o) : ∀ q ∈ o.out, q ∈ l := by
  intro q hq
  cases op with
  | subset f vs =>
    rw [(subsetOK_iff f vs l o.out).1 h, List.mem_flatMap] at hq
    exact hq.elim fun _ hv => (List.mem_filter.1 hv.2).1
  | remove f vs => exact h.1.mem_iff.1 (List.mem_append_left _ hq)
  | splitPick f i => exact h.1.1.mem_iff.1 ((getD_sublist_flatten o.parts i).subset (h.2 ▸ hq))
  | dropDup dup dec asc => exact DropDupOK.mem h q hq
  | _ => cases hop

omit heqv in
/-- the rows clause for one accepted step, on the REAL tables: selections, drop-duplicates and the renumberings return
literal rows; a missing value may have been filled ONLY by an operation that re-loads a frame (`opFill`) -/
theorem stepOK_rows (fill : α → α) (nat : Nat → α) (hfill : ∀ v, fill (fill v) = fill v) (op : Op α) (l : Motl α) (o : Obs α)
    (h : StepOK fill nat op l o) : StepRows fill op l o.out := by
  intro q hq
  by_cases hsel : op.isSelection = true
  · exact ⟨q, List.mem_append_left _ (stepOK_selection_mem fill nat op hsel l o h q hq), unchanged_refl _ q⟩
  cases op with
  | intersect f other =>
    obtain ⟨p, hp, hs⟩ := h.2 q hq
    exact ⟨p, List.mem_append_left _ hp, fun g _ _ => hs g⟩
  | mergeRenumber b a s =>
    obtain ⟨bs, e, hb, _, _⟩ := h
    rw [e] at hq
    obtain ⟨blk, hblk, hqb⟩ := List.mem_flatten.1 hq
    obtain ⟨x, hx, hbo⟩ := forall2_mem_right hb blk hblk
    obtain ⟨p, hp, hu⟩ := forall2_mem_right hbo.1 q hqb
    obtain ⟨hmem, hflag⟩ := mem_rawInputs b a s l x hx p hp
    exact ⟨p, hmem, unchanged_if_mono fill _ _ hflag p q hu⟩
  | mergeDropDup b a s =>
    obtain ⟨cs, _, _, ht, _⟩ := h
    obtain ⟨x, hx, p, hp, hs⟩ := ht q hq
    obtain ⟨c, y, hy, rfl⟩ := mem_shiftedInputs fill cs _ x hx
    obtain ⟨p1, hp1, rfl⟩ := List.mem_map.1 hp
    obtain ⟨p0, hp0, rfl⟩ := List.mem_map.1 hp1
    obtain ⟨hmem, hflag⟩ := mem_rawInputs b a s l y hy p0 hp0
    -- the row was loaded (keys only), shifted and possibly filled: each step leaves it unchanged
    have hidem := fillIf_idem fill hfill y.1
    exact ⟨p0, hmem, unchanged_if_mono fill _ _ hflag p0 q (unchanged_trans _ hidem _ _ _
      (unchanged_trans _ hidem _ _ _ (fun g _ _ => same_loadKeys _ p0 g) (unchanged_set_object_id _ _ _))
      (fun g _ _ => hs g))⟩
  | renumberParticles =>
    obtain ⟨p, hp, hu⟩ := forall2_mem_right h.2 q hq
    exact ⟨p, List.mem_append_left _ hp, fun g hg1 _ => Or.inl (hu g hg1)⟩
  | renumberObjects start =>
    obtain ⟨p, hp, hu⟩ := forall2_mem_right h.1 q hq
    exact ⟨p, List.mem_append_left _ hp, fun g _ hg2 => Or.inl (hu g hg2)⟩
  | _ => exact absurd rfl hsel

omit heqv in
/-- what every ACCEPTED step of an observed history preserves holds of the last REAL table (for the model's run the same
is `List.foldlRecOn`: `run` is a `foldl`) -/
theorem lastOut_preserves (fill : α → α) (nat : Nat → α) (P : Motl α → Prop) (steps : List (Op α × Obs α))
    (h : ∀ s ∈ steps, ∀ l, checkStep eqv fill nat s.1 l s.2 = true → P l → P s.2.out) (l : Motl α)
    (hc : checkRun eqv fill nat steps l = true) (hl : P l) : P (lastOut steps l) := by
  induction steps generalizing l with
  | nil => exact hl
  | cons s steps ih =>
    obtain ⟨op, o⟩ := s
    simp only [checkRun, Bool.and_eq_true] at hc
    exact ih (fun s' hs' => h s' (List.mem_cons_of_mem _ hs')) o.out hc.2 (h (op, o) List.mem_cons_self l hc.1 hl)

theorem checkRun_rows (fill : α → α) (nat : Nat → α) (hfill : ∀ v, fill (fill v) = fill v)
    (steps : List (Op α × Obs α)) (l : Motl α) (h : checkRun eqv fill nat steps l = true) :
    RowsFrom fill (steps.map (·.1)) l (lastOut steps l) :=
  lastOut_preserves eqv fill nat (RowsFrom fill (steps.map (·.1)) l) steps
    (fun s hs l' hc => .step hfill (List.mem_map_of_mem hs)
      (stepOK_rows fill nat hfill s.1 l' s.2 ((checkStep_iff eqv heqv fill nat s.1 l' s.2).1 hc).1)) l h (.init _ _ _)

end ring
end CryoCat.C08
