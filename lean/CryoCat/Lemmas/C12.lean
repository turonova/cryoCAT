import CryoCat.Model.C12
import CryoCat.Lemmas.Layout
import Mathlib.Tactic.Ring
import Mathlib.Tactic.Linarith
import Mathlib.Algebra.Order.Field.Basic
/-! Index arithmetic of `ifftshift`, the hard ball, weighted sums with a non-negative unit-sum kernel. -/
namespace CryoCat.C12

theorem sphere_strict : sphereStrict = true := rfl

theorem emod_range (n : Nat) (hn : 0 < n) (a : Int) : 0 ≤ a % (n : Int) ∧ a % (n : Int) < (n : Int) :=
  ⟨Int.emod_nonneg _ (by omega), Int.emod_lt_of_pos _ (by omega)⟩

theorem shiftIdx_range (n : Nat) (hn : 0 < n) (j : Int) : 0 ≤ shiftIdx n j ∧ shiftIdx n j < (n : Int) := emod_range n hn _

theorem negIdx_range (n : Nat) (hn : 0 < n) (j : Int) : 0 ≤ negIdx n j ∧ negIdx n j < (n : Int) := emod_range n hn _

/-- the offset from the mask centre of the voxel `ifftshift` puts on bin `j` is the residue of `j` in the window around 0 -/
theorem freq_eq_sres (n : Nat) (j : Int) : freq n j = Layout.sres n (centre n) j := rfl

theorem freq_negIdx_eq (n : Nat) (j : Int) : freq n (negIdx n j) = Layout.sres n (centre n) (-j) := Layout.sres_emod _ _ _

theorem centre_half (n : Nat) : (n : Int) = 2 * centre n ∨ (n : Int) = 2 * centre n + 1 := by unfold centre; omega

theorem freq_range (n : Nat) (hn : 0 < n) (j : Int) : -(centre n) ≤ freq n j ∧ freq n j < (n : Int) - centre n :=
  Layout.sres_range (by omega) _ _

theorem freq_dvd (n : Nat) (j : Int) : ∃ c : Int, freq n j - j = (n : Int) * c := Layout.sres_dvd _ _ _

/-- the mirror bin carries the opposite frequency whenever that frequency exists on the axis -/
theorem freq_negIdx (n : Nat) (hn : 0 < n) (j : Int) (h : -(freq n j) < (n : Int) - centre n) :
    freq n (negIdx n j) = -(freq n j) :=
  (freq_negIdx_eq n j).trans (Layout.sres_neg (by omega) (by have := centre_half n; omega) h)

/-- … and the Nyquist bin of an even axis, the one frequency without an opposite, is its own mirror image -/
theorem freq_negIdx_nyq (n : Nat) (hn : 0 < n) (he : (n : Int) = 2 * centre n) (j : Int) (h : freq n j = -centre n) :
    freq n (negIdx n j) = -centre n :=
  (freq_negIdx_eq n j).trans (Layout.sres_neg_low (by omega) he h)

theorem freq_neg_sq (n : Nat) (hn : 0 < n) (j : Int) :
    freq n (negIdx n j) * freq n (negIdx n j) = freq n j * freq n j := by
  rw [freq_negIdx_eq]; exact Layout.sres_neg_sq (by omega) (centre_half n) j

theorem inBall_iff (d : Dims) (r : Int) (hr : 0 ≤ r) (x y z : Int) :
    inBall d r x y z = true ↔ dist2 d x y z ≤ r * r := by
  have hq : dist2 d x y z = (x - centre d.nx) * (x - centre d.nx) + (y - centre d.ny) * (y - centre d.ny)
      + (z - centre d.nz) * (z - centre d.nz) := rfl
  have ha := mul_self_nonneg (x - centre d.nx)
  have hb := mul_self_nonneg (y - centre d.ny)
  have hc := mul_self_nonneg (z - centre d.nz)
  have hrr := mul_self_nonneg r
  simp only [inBall, outside, sphere_strict, if_true, Bool.or_eq_true, Bool.and_eq_true, decide_eq_true_eq,
    Bool.not_eq_true']
  constructor
  · rintro (⟨⟨h1, h2⟩, h3⟩ | ⟨h1, h2⟩)
    · rw [hq, h1, h2, h3]; simpa using hrr
    · have : ¬ r < 0 := by omega
      simp only [this, if_false, decide_eq_false_iff_not] at h2
      omega
  · intro h
    by_cases h0 : 0 < dist2 d x y z
    · right
      refine ⟨h0, ?_⟩
      have : ¬ r < 0 := by omega
      simp only [this, if_false, decide_eq_false_iff_not]
      omega
    · left
      have a0 : (x - centre d.nx) * (x - centre d.nx) = 0 := by omega
      have b0 : (y - centre d.ny) * (y - centre d.ny) = 0 := by omega
      have c0 : (z - centre d.nz) * (z - centre d.nz) = 0 := by omega
      have := mul_self_eq_zero.1 a0
      have := mul_self_eq_zero.1 b0
      have := mul_self_eq_zero.1 c0
      refine ⟨⟨?_, ?_⟩, ?_⟩ <;> omega

theorem inBall_neg (d : Dims) (r : Int) (hr : r < 0) (x y z : Int) :
    inBall d r x y z = true ↔ (x = centre d.nx ∧ y = centre d.ny ∧ z = centre d.nz) := by
  simp [inBall, outside, hr, and_assoc]

section wsum
set_option linter.unusedSectionVars false
variable {K : Type} [Field K] [LinearOrder K] [IsStrictOrderedRing K]

def KerNonneg (ker : List (Int × K)) : Prop := ∀ p ∈ ker, 0 ≤ p.2
def KerWithin (t : Nat) (ker : List (Int × K)) : Prop := ∀ p ∈ ker, -(t : Int) ≤ p.1 ∧ p.1 ≤ (t : Int)
/-- what the theorems need of a blur kernel: non-negative weights of total 1 on offsets `-t … t` -/
structure ValidKernel (t : Nat) (ker : List (Int × K)) : Prop where
  nonneg : KerNonneg ker
  unit : ksum ker = 1
  within : KerWithin t ker

theorem wsum_congr (ker : List (Int × K)) (g g' : Int → K) (h : ∀ p ∈ ker, g p.1 = g' p.1) : wsum ker g = wsum ker g' := by
  induction ker with
  | nil => rfl
  | cons p ks ih =>
    obtain ⟨q, w⟩ := p
    simp only [wsum]
    rw [h (q, w) (by simp), ih (fun p hp => h p (by simp [hp]))]

theorem wsum_const (ker : List (Int × K)) (c : K) : wsum ker (fun _ => c) = ksum ker * c := by
  induction ker with
  | nil => simp [wsum, ksum]
  | cons p ks ih => obtain ⟨q, w⟩ := p; simp only [wsum, ksum, ih]; ring

theorem wsum_sub (ker : List (Int × K)) (g g' : Int → K) : wsum ker (fun q => g q - g' q) = wsum ker g - wsum ker g' := by
  induction ker with
  | nil => simp [wsum]
  | cons p ks ih => obtain ⟨q, w⟩ := p; simp only [wsum, ih]; ring

theorem wsum_add (ker : List (Int × K)) (g g' : Int → K) : wsum ker (fun q => g q + g' q) = wsum ker g + wsum ker g' := by
  induction ker with
  | nil => simp [wsum]
  | cons p ks ih => obtain ⟨q, w⟩ := p; simp only [wsum, ih]; ring

theorem wsum_mono (ker : List (Int × K)) (hk : KerNonneg ker) (g g' : Int → K) (h : ∀ p ∈ ker, g p.1 ≤ g' p.1) :
    wsum ker g ≤ wsum ker g' := by
  induction ker with
  | nil => simp [wsum]
  | cons p ks ih =>
    obtain ⟨q, w⟩ := p
    simp only [wsum]
    have hw : 0 ≤ w := hk (q, w) (by simp)
    have h1 := mul_le_mul_of_nonneg_left (h (q, w) (by simp)) hw
    have h2 := ih (fun p hp => hk p (by simp [hp])) (fun p hp => h p (by simp [hp]))
    linarith

def InBox (d : Dims) (x y z : Int) : Prop :=
  (0 ≤ x ∧ x < (d.nx : Int)) ∧ (0 ≤ y ∧ y < (d.ny : Int)) ∧ (0 ≤ z ∧ z < (d.nz : Int))

theorem wsum3_mono (ker : List (Int × K)) (hn : KerNonneg ker) (g g' : Int → Int → Int → K)
    (h : ∀ pz ∈ ker, ∀ py ∈ ker, ∀ px ∈ ker, g px.1 py.1 pz.1 ≤ g' px.1 py.1 pz.1) :
    wsum ker (fun qz => wsum ker (fun qy => wsum ker (fun qx => g qx qy qz)))
      ≤ wsum ker (fun qz => wsum ker (fun qy => wsum ker (fun qx => g' qx qy qz))) :=
  wsum_mono _ hn _ _ fun pz hz => wsum_mono _ hn _ _ fun py hy => wsum_mono _ hn _ _ fun px hx => h pz hz py hy px hx

theorem blur3_mono (ker : List (Int × K)) (hn : KerNonneg ker) (d : Dims) (f f' : Vol K) (x y z : Int)
    (h : ∀ x' y' z', f x' y' z' ≤ f' x' y' z') : blur3Fn ker d f x y z ≤ blur3Fn ker d f' x y z :=
  wsum3_mono ker hn _ _ fun _ _ _ _ _ _ => h _ _ _

theorem blur3_const (ker : List (Int × K)) (hu : ksum ker = 1) (d : Dims) (c : K) (x y z : Int) :
    blur3Fn ker d (fun _ _ _ => c) x y z = c := by
  unfold blur3Fn blurZ blurY blurX
  simp only [wsum_const, hu, one_mul]

theorem blur3_sub (ker : List (Int × K)) (d : Dims) (f f' : Vol K) (x y z : Int) :
    blur3Fn ker d (fun a b c => f a b c - f' a b c) x y z = blur3Fn ker d f x y z - blur3Fn ker d f' x y z := by
  unfold blur3Fn blurZ blurY blurX
  simp only [wsum_sub]

theorem blur3_one_sub (ker : List (Int × K)) (hu : ksum ker = 1) (d : Dims) (f : Vol K) (x y z : Int) :
    1 - blur3Fn ker d f x y z = blur3Fn ker d (fun a b c => 1 - f a b c) x y z := by
  rw [blur3_sub ker d (fun _ _ _ => 1) f, blur3_const ker hu]

theorem sphere_range (d : Dims) (r : Int) (x y z : Int) : (0 : K) ≤ sphere d r x y z ∧ sphere d r x y z ≤ (1 : K) := by
  unfold sphere; split_ifs <;> simp

end wsum
end CryoCat.C12
