import CryoCat.Model.C08_Check
import CryoCat.Lemmas.C08
import CryoCat.Lemmas.C08_Attr
import Mathlib.Data.List.Forall2
import Mathlib.Algebra.Order.Ring.Defs
/-! C08 — the checkers of `Model/C08_Check.lean` decide the clauses of the statement: the Boolean list predicates and row
comparisons read as Props (simp set `c08_reflect`), the clauses as Props over (input, REAL output), and for every
operation the proof that its checker decides exactly its clauses. -/
namespace CryoCat.C08
open CryoCat
set_option linter.unusedSectionVars false

section generic
variable {β γ : Type}

attribute [c08_reflect] List.all_cons List.all_nil List.all_append Bool.and_true Bool.and_eq_true Bool.or_eq_true
  List.all_eq_true List.any_eq_true beq_iff_eq Bool.not_eq_eq_eq_not Bool.not_true beq_eq_false_iff_ne ne_eq
  Bool.false_eq_true false_or decide_eq_true_eq List.forall₂_eq_eq_eq

@[c08_reflect] theorem pairwiseB_eq_true (r : β → β → Bool) (l : List β) :
    pairwiseB r l = true ↔ l.Pairwise (fun a b => r a b = true) := by
  induction l with
  | nil => simp [pairwiseB]
  | cons a l ih => simp only [pairwiseB, Bool.and_eq_true, List.all_eq_true, List.pairwise_cons, ih]

@[c08_reflect] theorem forall2B_eq_true (r : β → γ → Bool) (l : List β) (m : List γ) :
    forall2B r l m = true ↔ List.Forall₂ (fun a b => r a b = true) l m := by
  induction l generalizing m with
  | nil => cases m <;> simp [forall2B]
  | cons a l ih => cases m <;> simp [forall2B, ih]

theorem splitBy_eq_some (ins : List (List β)) (out : List γ) (bs : List (List γ)) :
    splitBy ins out = some bs ↔ out = bs.flatten ∧ List.Forall₂ (fun m b => m.length = b.length) ins bs := by
  induction ins generalizing out bs with
  | nil => cases out <;> cases bs <;> simp [splitBy]
  | cons m ms ih =>
    simp only [splitBy, List.forall₂_cons_left_iff]
    split
    · rename_i hlen
      refine iff_of_false nofun ?_
      rintro ⟨rfl, b, bs', hmb, -, rfl⟩
      rw [List.flatten_cons, List.length_append] at hlen
      omega
    · simp only [Option.map_eq_some_iff, ih]
      constructor
      · rintro ⟨bs', ⟨e, f⟩, rfl⟩
        exact ⟨by rw [List.flatten_cons, ← e, List.take_append_drop], _, _, by rw [List.length_take]; omega, f, rfl⟩
      · rintro ⟨rfl, b, bs', hmb, f, rfl⟩
        exact ⟨bs', ⟨by rw [List.flatten_cons, hmb, List.drop_left], f⟩, by rw [List.flatten_cons, hmb, List.take_left]⟩

theorem mem_zip_map_self (g : β → γ) (l : List β) (a : β × γ) (ha : a ∈ l.zip (l.map g)) :
    a.1 ∈ l ∧ a.2 = g a.1 := by
  rw [List.zip_eq_zipWith, List.zipWith_map_right, List.zipWith_self] at ha
  obtain ⟨x, hx, rfl⟩ := List.mem_map.1 ha
  exact ⟨hx, rfl⟩

end generic

section rows
variable {α : Type} [DecidableEq α] (eqv : α → α → Bool) (heqv : ∀ a b, eqv a b = true ↔ a = b)
include heqv

theorem rowEq_iff (p q : Particle α) : rowEq eqv p q = true ↔ p = q := by
  unfold rowEq
  rw [List.all_eq_true]
  constructor
  · intro h
    exact Particle.ext_get (fun f => (heqv _ _).1 (h f (Field.mem_all f)))
  · rintro rfl f _
    exact (heqv _ _).2 rfl

theorem rowBEq_lawful : @LawfulBEq (Particle α) (rowBEq eqv) :=
  @LawfulBEq.mk _ (rowBEq eqv) (@ReflBEq.mk _ (rowBEq eqv) (fun {a} => (rowEq_iff eqv heqv a a).2 rfl))
    (fun {a b} h => (rowEq_iff eqv heqv a b).1 h)

theorem permB_iff (a b : Motl α) : permB eqv a b = true ↔ a.Perm b := by
  unfold permB
  exact @List.isPerm_iff _ (rowBEq eqv) (rowBEq_lawful eqv heqv) a b

theorem listEqB_iff (a b : Motl α) : listEqB eqv a b = true ↔ a = b := by
  simp only [c08_reflect, listEqB, rowEq_iff eqv heqv]

theorem sameB_iff (fill : α → α) (skip : Field → Bool) (p q : Particle α) :
    sameB eqv fill skip p q = true
      ↔ ∀ g : Field, skip g = true ∨ q.get g = p.get g ∨ q.get g = fill (p.get g) := by
  unfold sameB
  rw [List.all_eq_true]
  constructor
  · intro h g
    have := h g (Field.mem_all g)
    simpa only [Bool.or_eq_true, heqv, or_assoc] using this
  · intro h g _
    simpa only [Bool.or_eq_true, heqv, or_assoc] using h g

end rows

section clauses
variable {α : Type}

/-- grouped by requested value (in the order requested), each group = the matching rows in their
original order -/
def SubsetOK [DecidableEq α] (f : Field) (vs : List α) (l out : Motl α) : Prop :=
  ∃ groups : List (Motl α), out = groups.flatten ∧
    List.Forall₂ (fun v g => g = l.filter (fun p => decide (p.get f = v))) vs groups

/-- removal and selection are complementary: what is left, together with the selected rows, is the
list; nothing left matches -/
def RemoveOK [DecidableEq α] (f : Field) (vs : List α) (l out : Motl α) : Prop :=
  (out ++ l.filter (fun p => decide (p.get f ∈ vs))).Perm l ∧ ∀ p ∈ out, p.get f ∉ vs

/-- the parts partition the list: together they are the list, each part is non-empty and holds one
value, different parts hold different values -/
def SplitOK (f : Field) (l : Motl α) (parts : List (Motl α)) : Prop :=
  parts.flatten.Perm l ∧ (∀ part ∈ parts, part ≠ [] ∧ ∃ v, ∀ p ∈ part, p.get f = v)
  ∧ parts.Pairwise (fun a b => ∀ p ∈ a, ∀ q ∈ b, p.get f ≠ q.get f)

/-- `q` is `p`, a missing value possibly filled -/
def Same (fill : α → α) (p q : Particle α) : Prop := ∀ g : Field, q.get g = p.get g ∨ q.get g = fill (p.get g)

theorem same_id_eq {p q : Particle α} (h : Same (fun v => v) p q) : q = p :=
  Particle.ext_get (fun g => (h g).elim id id)

def IntersectOK [DecidableEq α] (fill : α → α) (f : Field) (l o out : Motl α) : Prop :=
  (out.map (fillRow fill)).Perm
    ((l.filter (fun p => decide (∃ q ∈ o, fill (q.get f) = fill (p.get f)))).map (fillRow fill))
  ∧ ∀ q ∈ out, ∃ p ∈ l, Same fill p q

/-- exactly one best-scoring row per id -/
def DropDupOK [LE α] (fill : α → α) (dup dec : Field) (asc : Bool) (l out : Motl α) : Prop :=
  (out.map (·.get dup)).Nodup ∧ (∀ q ∈ out, ∃ p ∈ l, Same fill p q)
  ∧ (∀ p ∈ l, ∃ q ∈ out, q.get dup = p.get dup)
  ∧ (∀ q ∈ out, ∀ p ∈ l, p.get dup = q.get dup → if asc then q.get dec ≤ p.get dec else p.get dec ≤ q.get dec)

theorem DropDupOK.mem [LE α] {dup dec : Field} {asc : Bool} {l out : Motl α}
    (h : DropDupOK (fun v => v) dup dec asc l out) : ∀ q ∈ out, q ∈ l :=
  fun q hq => (h.2.1 q hq).elim fun _ hp => same_id_eq hp.2 ▸ hp.1

def RenumberParticlesOK (nat : Nat → α) (l out : Motl α) : Prop :=
  out.map (·.subtomo_id) = (List.range l.length).map (fun i => nat (i + 1))
  ∧ List.Forall₂ (fun p q => ∀ f : Field, f ≠ Field.subtomo_id → q.get f = p.get f) l out

/-- output block `b` is input `m` row by row (ids aside, missing values possibly filled) with all
object numbers moved by ONE offset -/
def BlockOK [Add α] (fill : α → α) (m b : Motl α) : Prop :=
  List.Forall₂ (fun p q => Unchanged fill p q) m b
  ∧ ∃ c : α, List.Forall₂ (fun p q => q.object_id = fill p.object_id + c) m b

def DisjointObj (b c : Motl α) : Prop := ∀ p ∈ b, ∀ q ∈ c, p.object_id ≠ q.object_id

/-- inputs are tagged `(bare DataFrame?, rows)`: the output is the inputs one after the other, block by
block the same rows (ids aside; missing values possibly filled ONLY for a DataFrame input) with one
object-number offset per block, blocks never share an object number, and the subtomogram numbers are
1..N in row order -/
def MergeRenumberOK [Add α] (fill : α → α) (nat : Nat → α) (ins : List (Bool × Motl α)) (out : Motl α) : Prop :=
  ∃ bs : List (Motl α), out = bs.flatten ∧ List.Forall₂ (fun x b => BlockOK (fillIf fill x.1) x.2 b) ins bs
    ∧ bs.Pairwise DisjointObj
    ∧ out.map (·.subtomo_id) = (List.range (ins.map (·.2)).flatten.length).map (fun i => nat (i + 1))

/-- what the STATEMENT says about `merge_and_renumber`, and no more: the output is the inputs' rows (ids aside, a missing
value possibly filled for a re-loaded input), the subtomogram numbers are 1..N, object numbers of different inputs never
collide, and inside each input two rows have the same new object number exactly when they had the same old one (the
grouping is kept).  `MergeRenumberOK` — what the checker decides — additionally demands ONE additive offset per input;
that is the documented behaviour of the loop (a model-level fact), stronger than the statement. -/
def MergeRenumberStatement (fill : α → α) (nat : Nat → α) (ins : List (Bool × Motl α)) (out : Motl α) : Prop :=
  ∃ bs : List (Motl α), out = bs.flatten
    ∧ List.Forall₂ (fun x b => List.Forall₂ (fun p q => Unchanged (fillIf fill x.1) p q) x.2 b
        ∧ ∀ u ∈ x.2.zip b, ∀ v ∈ x.2.zip b,
            u.2.object_id = v.2.object_id ↔ fillIf fill x.1 u.1.object_id = fillIf fill x.1 v.1.object_id) ins bs
    ∧ bs.Pairwise DisjointObj
    ∧ out.map (·.subtomo_id) = (List.range (ins.map (·.2)).flatten.length).map (fun i => nat (i + 1))

/-- the clauses of `merge_and_drop_duplicates` for ONE given offset certificate `cs` (the body of `MergeDropDupOK`) -/
def MergeDropDupCertOK [Add α] [LE α] (fill : α → α) (cs : List α) (ins : List (Bool × Motl α)) (out : Motl α) : Prop :=
  cs.length = ins.length ∧ ((shiftedInputs fill cs ins).map (·.2)).Pairwise DisjointObj
    ∧ (∀ q ∈ out, ∃ x ∈ shiftedInputs fill cs ins, ∃ p ∈ x.2, Same (fillIf fill x.1) p q)
    ∧ DropDupOK fill .subtomo_id .score false ((shiftedInputs fill cs ins).map (·.2)).flatten out

def MergeDropDupOK [Add α] [LE α] (fill : α → α) (ins : List (Bool × Motl α)) (out : Motl α) : Prop :=
  ∃ cs : List α, cs.length = ins.length ∧ ((shiftedInputs fill cs ins).map (·.2)).Pairwise DisjointObj
    ∧ (∀ q ∈ out, ∃ x ∈ shiftedInputs fill cs ins, ∃ p ∈ x.2, Same (fillIf fill x.1) p q)
    ∧ DropDupOK fill .subtomo_id .score false ((shiftedInputs fill cs ins).map (·.2)).flatten out

def RenumberObjectsOK [Add α] (nat : Nat → α) (start : α) (l out : Motl α) : Prop :=
  List.Forall₂ (fun p q => ∀ f : Field, f ≠ Field.object_id → q.get f = p.get f) l out
  ∧ (∀ a ∈ l.zip out, ∀ b ∈ l.zip out,
      a.2.object_id = b.2.object_id ↔ (a.1.tomo_id = b.1.tomo_id ∧ a.1.object_id = b.1.object_id))
  ∧ ∃ keys : List (α × α), keys.Nodup ∧ (∀ k, k ∈ keys ↔ ∃ p ∈ l, (p.tomo_id, p.object_id) = k)
      ∧ (∀ q ∈ out, ∃ i, i < keys.length ∧ q.object_id = start + nat i)
      ∧ (∀ i, i < keys.length → ∃ q ∈ out, q.object_id = start + nat i)

end clauses

section deq
variable {α : Type} [DecidableEq α] (eqv : α → α → Bool) (heqv : ∀ a b, eqv a b = true ↔ a = b)
include heqv

omit heqv in
theorem subsetOK_iff (f : Field) (vs : List α) (l out : Motl α) :
    SubsetOK f vs l out ↔ out = vs.flatMap (fun v => l.filter (fun p => decide (p.get f = v))) := by
  unfold SubsetOK
  constructor
  · rintro ⟨groups, rfl, h⟩
    induction h with
    | nil => rfl
    | cons hvg _ ih => rw [List.flatten_cons, List.flatMap_cons, ih, hvg]
  · rintro rfl
    refine ⟨vs.map (fun v => l.filter (fun p => decide (p.get f = v))), by rw [List.flatMap_def], ?_⟩
    induction vs with
    | nil => exact List.Forall₂.nil
    | cons v vs ih => exact List.Forall₂.cons rfl ih

theorem checkSubset_iff (f : Field) (vs : List α) (l out : Motl α) :
    checkSubset eqv f vs l out = true ↔ SubsetOK f vs l out := by
  rw [subsetOK_iff]
  induction vs generalizing out with
  | nil => simp [checkSubset]
  | cons v vs ih =>
    have hg : (l.filter fun p => p.get f == v) = l.filter fun p => decide (p.get f = v) := rfl
    simp only [checkSubset, Bool.and_eq_true, listEqB_iff eqv heqv, ih, List.flatMap_cons, hg]
    constructor
    · rintro ⟨h1, h2⟩
      rw [← List.take_append_drop (l.filter fun p => decide (p.get f = v)).length out, h1, h2]
    · intro h
      rw [h, List.take_left, List.drop_left]
      exact ⟨rfl, rfl⟩

theorem checkRemove_iff (f : Field) (vs : List α) (l out : Motl α) :
    checkRemove eqv f vs l out = true ↔ RemoveOK f vs l out := by
  simp only [c08_reflect, checkRemove, removeClauses, RemoveOK, permB_iff eqv heqv, List.any_beq, List.contains_eq_mem]
  exact and_congr Iff.rfl ⟨fun h p hp hm => h p hp _ hm rfl, fun h p hp v hv e => h p hp (e ▸ hv)⟩

theorem checkSplit_iff (f : Field) (l : Motl α) (parts : List (Motl α)) :
    checkSplit eqv f l parts = true ↔ SplitOK f l parts := by
  simp only [c08_reflect, checkSplit, splitClauses, SplitOK, permB_iff eqv heqv]
  refine and_congr Iff.rfl (and_congr (forall_congr' fun part => forall_congr' fun _ => ?_) Iff.rfl)
  cases part with
  | nil => simp
  | cons p r =>
    simp only [c08_reflect, reduceCtorEq, not_false_eq_true, true_and, List.mem_cons]
    exact ⟨fun h => ⟨p.get f, by rintro q (rfl | hq); rfl; exact h q hq⟩,
      fun ⟨v, hv⟩ q hq => by rw [hv q (Or.inr hq), hv p (Or.inl rfl)]⟩

theorem checkIntersect_iff (fill : α → α) (f : Field) (l o out : Motl α) :
    checkIntersect eqv fill f l o out = true ↔ IntersectOK fill f l o out := by
  have hf : l.filter (fun p => o.any (fun q => fill (q.get f) == fill (p.get f)))
      = l.filter (fun p => decide (∃ q ∈ o, fill (q.get f) = fill (p.get f))) :=
    List.filter_congr (fun p _ => by rw [Bool.eq_iff_iff]; simp only [c08_reflect])
  simp only [c08_reflect, checkIntersect, intersectClauses, IntersectOK, permB_iff eqv heqv, hf, sameB_iff eqv heqv, Same]

theorem sameB_skip_iff (h : Field) (p q : Particle α) :
    sameB eqv (fun v => v) (fun g => g == h) p q = true ↔ ∀ f : Field, f ≠ h → q.get f = p.get f := by
  rw [sameB_iff eqv heqv]
  refine forall_congr' (fun g => ?_)
  simp only [beq_iff_eq, or_self]
  exact or_iff_not_imp_left

theorem checkRenumberParticles_iff (nat : Nat → α) (l out : Motl α) :
    checkRenumberParticles eqv nat l out = true ↔ RenumberParticlesOK nat l out := by
  simp only [c08_reflect, checkRenumberParticles, renumberParticlesClauses, RenumberParticlesOK, sameB_skip_iff eqv heqv]

end deq

section lin
variable {α : Type} [LinearOrder α] (eqv : α → α → Bool) (heqv : ∀ a b, eqv a b = true ↔ a = b)
include heqv

theorem checkDropDup_iff (fill : α → α) (dup dec : Field) (asc : Bool) (l out : Motl α) :
    checkDropDup eqv fill dup dec asc l out = true ↔ DropDupOK fill dup dec asc l out := by
  have hasc : ∀ a b : α, (if asc then !decide (a < b) else !decide (b < a)) = true ↔ if asc then b ≤ a else a ≤ b := by
    cases asc <;> simp
  simp only [c08_reflect, checkDropDup, dropDupClauses, DropDupOK, sameB_iff eqv heqv, Same, List.Nodup, List.pairwise_map,
    ← imp_iff_not_or, hasc]

end lin

section ring
variable {α : Type} [CommRing α] [LinearOrder α] [IsStrictOrderedRing α]

theorem isIdField_iff (g : Field) : isIdField g = true ↔ (g = Field.subtomo_id ∨ g = Field.object_id) := by
  cases g <;> simp [isIdField]

@[c08_reflect] theorem disjointObjB_iff (b c : Motl α) : disjointObjB b c = true ↔ DisjointObj b c := by
  simp only [c08_reflect, disjointObjB, DisjointObj]

theorem nPairs_eq (l : Motl α) (keys : List (α × α)) (hn : keys.Nodup)
    (hm : ∀ k, k ∈ keys ↔ ∃ p ∈ l, (p.tomo_id, p.object_id) = k) : nPairs l = keys.length := by
  unfold nPairs
  apply List.Perm.length_eq
  rw [List.perm_ext_iff_of_nodup (uniq_nodup _) hn]
  intro k
  rw [uniq_mem, hm, List.mem_map]

variable (eqv : α → α → Bool) (heqv : ∀ a b, eqv a b = true ↔ a = b)
include heqv

theorem sameB_ids_iff (fill : α → α) (p q : Particle α) :
    sameB eqv fill isIdField p q = true ↔ Unchanged fill p q := by
  rw [sameB_iff eqv heqv]
  refine forall_congr' (fun g => ?_)
  rw [isIdField_iff, or_iff_not_imp_left, not_or, and_imp]

theorem blockOkB_iff (fill : α → α) (m b : Motl α) : blockOkB eqv fill m b = true ↔ BlockOK fill m b := by
  simp only [c08_reflect, blockOkB, BlockOK, sameB_ids_iff eqv heqv]
  constructor
  · intro h
    exact ⟨h.imp (fun _ _ hab => hab.1), offsetOf fill m b, h.imp (fun _ _ hab => hab.2)⟩
  · rintro ⟨h1, c, h2⟩
    -- the offset read off the first row is the offset of the block
    have hc : ∀ {p q}, (p, q) ∈ m.zip b → offsetOf fill m b = c := by
      cases h2 with
      | nil => intro p q h; cases h
      | cons e _ => intro _ _ _; show _ - _ = c; rw [e]; exact add_sub_cancel_left _ _
    refine List.forall₂_iff_zip.2 ⟨h1.length_eq, fun hpq => ⟨(List.forall₂_iff_zip.1 h1).2 hpq, ?_⟩⟩
    rw [hc hpq]
    exact (List.forall₂_iff_zip.1 h2).2 hpq

theorem checkMergeRenumber_iff (fill : α → α) (nat : Nat → α) (ins : List (Bool × Motl α)) (out : Motl α) :
    checkMergeRenumber eqv fill nat ins out = true ↔ MergeRenumberOK fill nat ins out := by
  unfold checkMergeRenumber mergeRenumberClauses MergeRenumberOK
  constructor
  · intro h
    cases hs : splitBy (ins.map (·.2)) out with
    | none => simp [hs] at h
    | some bs =>
      rw [hs] at h
      simp only [c08_reflect, blockOkB_iff eqv heqv] at h
      exact ⟨bs, ((splitBy_eq_some _ out bs).1 hs).1, h⟩
  · rintro ⟨bs, rfl, h⟩
    rw [(splitBy_eq_some _ _ bs).2 ⟨rfl, List.forall₂_map_left_iff.2 (h.1.imp fun _ _ hb => hb.1.length_eq)⟩]
    simpa only [c08_reflect, blockOkB_iff eqv heqv] using h

theorem checkMergeDropDup_cs_iff (fill : α → α) (cs : List α) (ins : List (Bool × Motl α)) (out : Motl α) :
    checkMergeDropDup eqv fill cs ins out = true ↔ MergeDropDupCertOK fill cs ins out := by
  have hd := checkDropDup_iff eqv heqv fill Field.subtomo_id Field.score false
    ((shiftedInputs fill cs ins).map (·.2)).flatten out
  unfold checkDropDup at hd
  simp only [c08_reflect, checkMergeDropDup, mergeDropDupClauses, MergeDropDupCertOK, hd, sameB_iff eqv heqv, Same, and_assoc]

theorem checkMergeDropDup_iff (fill : α → α) (ins : List (Bool × Motl α)) (out : Motl α) :
    (∃ cs, checkMergeDropDup eqv fill cs ins out = true) ↔ MergeDropDupOK fill ins out :=
  exists_congr (fun cs => checkMergeDropDup_cs_iff eqv heqv fill cs ins out)

theorem checkRenumberObjects_iff (nat : Nat → α) (start : α) (l out : Motl α) :
    checkRenumberObjects eqv nat start l out = true ↔ RenumberObjectsOK nat start l out := by
  simp only [c08_reflect, checkRenumberObjects, renumberObjectsClauses, RenumberObjectsOK, sameB_skip_iff eqv heqv,
    List.mem_range]
  refine and_congr Iff.rfl (and_congr ?_ ?_)
  · refine forall_congr' fun a => forall_congr' fun _ => forall_congr' fun b => forall_congr' fun _ => ?_
    exact Bool.eq_iff_iff.trans (by simp only [c08_reflect])
  · exact ⟨fun ⟨h1, h2⟩ => ⟨uniq (l.map (fun p : Particle α => (p.tomo_id, p.object_id))), uniq_nodup _,
        fun k => by rw [uniq_mem, List.mem_map], h1, h2⟩,
      fun ⟨keys, hn, hm, h1, h2⟩ => by rw [nPairs_eq l keys hn hm]; exact ⟨h1, h2⟩⟩

end ring
end CryoCat.C08
