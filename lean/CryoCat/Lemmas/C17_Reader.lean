import CryoCat.Model.C17_Ext
import CryoCat.Lemmas.List
/-! C17 — what a successful run of the mdoc reader consists of: the recursion steps of `parseHeader` and `parseBody`, `mkRow` and
`parseMdoc` read backwards, once, for every proof that starts from `… = some _`; `parseBody` and `parseMdoc` also forwards, for the
proofs that end there. Header, cell and row of the strict reader are accepted unchanged by the reader `parseMdocX` that follows the
code further (`parse_ext_conservative` puts them together). -/
namespace CryoCat.C17

theorem any_key_eq_false (kvs : List (Str × Val)) (k : Str) : kvs.any (fun e => e.1 == k) = false ↔ k ∉ kvs.map (·.1) := by
  rw [Bool.eq_false_iff, ne_eq, List.any_eq_true, List.mem_map]
  simp only [beq_iff_eq]

theorem parseHeader_cons (l : Str) (ls : List Str) (r : List Str × List (Str × Val)) (h : parseHeader (l :: ls) = some r) :
    ∃ ts info, parseHeader ls = some (ts, info) ∧
      if ['['].isPrefixOf l then r = (parseTitle l :: ts, info)
      else ∃ kv, parseKV l = some kv ∧ info.any (fun e => e.1 == kv.1) = false ∧ r = (ts, kv :: info) := by
  rw [parseHeader] at h
  split at h
  · cases h
  · rename_i ts info h0
    refine ⟨ts, info, h0, ?_⟩
    split at h
    · rename_i hb
      rw [if_pos hb]; exact (Option.some.inj h).symm
    · rename_i hb
      rw [if_neg hb]
      split at h
      · cases h
      · rename_i kv hkv
        split at h
        · cases h
        · rename_i ha
          exact ⟨kv, hkv, Bool.eq_false_iff.2 ha, (Option.some.inj h).symm⟩

theorem parseBody_cons (l : Str) (ls : List Str) (kvs : List (Str × Val)) :
    parseBody (l :: ls) = some kvs ↔ ∃ kv kvs0, parseBody ls = some kvs0 ∧ ['['].isPrefixOf l = false ∧ parseKV l = some kv ∧
      kvs0.any (fun e => e.1 == kv.1) = false ∧ kvs = kv :: kvs0 := by
  rw [parseBody]
  cases parseBody ls with
  | none => exact ⟨(fun h => nomatch h), fun ⟨_, _, h, _⟩ => nomatch h⟩
  | some kvs0 =>
    cases parseKV l with
    | none => exact ⟨(fun h => by simp only [ite_self, reduceCtorEq] at h), fun ⟨_, _, _, _, h, _⟩ => nomatch h⟩
    | some kv =>
      simp only [Option.ite_none_left_eq_some, Option.some.injEq, Bool.not_eq_true]
      constructor
      · rintro ⟨hb, ha, rfl⟩; exact ⟨kv, kvs0, rfl, hb, rfl, ha, rfl⟩
      · rintro ⟨_, _, rfl, hb, rfl, ha, rfl⟩; exact ⟨hb, ha, rfl⟩

/-- a section body is read line by line: no bracket line, every line a key line, no key twice -/
theorem parseBody_some : ∀ (ls : List Str) (kvs : List (Str × Val)), parseBody ls = some kvs ↔
    (∀ l ∈ ls, ['['].isPrefixOf l = false) ∧ ls.mapM parseKV = some kvs ∧ (kvs.map (·.1)).Nodup
  | [], kvs => by
    constructor
    · rintro ⟨⟩; exact ⟨nofun, rfl, List.nodup_nil⟩
    · rintro ⟨_, ⟨⟩, _⟩; rfl
  | l :: ls, kvs => by
    rw [parseBody_cons, Lists.mapM_cons_some, List.forall_mem_cons]
    constructor
    · rintro ⟨kv, kvs0, h0, hl, hkv, hany, rfl⟩
      obtain ⟨hb, hm, hn⟩ := (parseBody_some ls kvs0).1 h0
      exact ⟨⟨hl, hb⟩, ⟨kv, kvs0, hkv, hm, rfl⟩, List.nodup_cons.2 ⟨(any_key_eq_false kvs0 kv.1).1 hany, hn⟩⟩
    · rintro ⟨⟨hl, hb⟩, ⟨kv, kvs0, hkv, hm, rfl⟩, hn⟩
      rw [List.map_cons, List.nodup_cons] at hn
      exact ⟨kv, kvs0, (parseBody_some ls kvs0).2 ⟨hb, hm, hn.2⟩, hl, hkv, (any_key_eq_false kvs0 kv.1).2 hn.1, rfl⟩

theorem mkRow_some (cols sec : List Str) (r : Row) (h : mkRow cols sec = some r) :
    ∃ hd body z kvs cells, sec = hd :: body ∧ parseSecValue hd = some z ∧ parseBody body = some kvs ∧ allDigits z = true ∧
      kvs.map (·.1) = cols ∧ kvs.mapM convTilt = some cells ∧ r = { z := normI z, cells := cells, removed := false } := by
  cases sec with
  | nil => cases h
  | cons hd body =>
    rw [mkRow] at h
    split at h
    · rename_i z kvs hz hb
      cases hm : kvs.mapM convTilt with
      | none => simp [hm] at h
      | some cells =>
        simp only [hm, Option.ite_none_left_eq_some, Bool.not_eq_true', Bool.not_eq_false, bne_iff_ne, ne_eq, Decidable.not_not,
          Option.some.injEq] at h
        exact ⟨hd, body, z, kvs, cells, rfl, hz, hb, h.1, h.2.1, hm, h.2.2.symm⟩
    · cases h

theorem mkRow_fresh (cols sec : List Str) (r : Row) (h : mkRow cols sec = some r) : r.removed = false := by
  obtain ⟨_, _, _, _, _, _, _, _, _, _, _, rfl⟩ := mkRow_some cols sec r h
  rfl

theorem parseMdoc_some (lines : List Str) (m : Mdoc) (h : parseMdoc lines = some m) :
    ∃ first rest s0 secs,
      lines.dropWhile (fun l => (secStart l).isNone) = first :: rest ∧ secStart first = some m.sid ∧
      parseHeader (((lines.takeWhile (fun l => (secStart l).isNone)).filter (fun l => !isBlank l)).map strip) = some (m.titles, m.info) ∧
      secGo ('[' :: m.sid) [] (first :: rest) = s0 :: secs ∧ m.cols = (s0.drop 1).map colName ∧
      m.cols.contains Gen.C17.tiltKey = true ∧ (s0 :: secs).mapM (mkRow m.cols) = some m.rows := by
  unfold parseMdoc at h
  simp only at h
  split at h
  · cases h
  · rename_i first rest hd
    simp only [hd] at h
    split at h
    · rename_i sid titles info hs hh
      split at h
      · cases h
      · rename_i s0 secs hg
        split at h
        · cases h
        · rename_i hc
          split at h
          · rename_i rows hm
            cases h
            exact ⟨first, rest, s0, secs, hd, hs, hh, hg, rfl, by simpa using hc, hg ▸ hm⟩
          · cases h
    · cases h

theorem parseMdoc_of (hdr data : List Str) (first : Str) (rest : List Str) (sid : Str) (ts : List Str) (info : List (Str × Val))
    (s0 : List Str) (secs : List (List Str)) (cols : List Str) (rows : List Row)
    (hH : ∀ l ∈ hdr, (secStart l).isNone = true) (hd : data = first :: rest) (hs : secStart first = some sid)
    (hh : parseHeader ((hdr.filter (fun l => !isBlank l)).map strip) = some (ts, info))
    (hg : secGo ('[' :: sid) [] data = s0 :: secs) (hc : (s0.drop 1).map colName = cols)
    (ht : cols.contains Gen.C17.tiltKey = true) (hm : (s0 :: secs).mapM (mkRow cols) = some rows) :
    parseMdoc (hdr ++ data) = some { info := info, titles := ts, sid := sid, cols := cols, rows := rows } := by
  subst hd
  simp only [parseMdoc, List.takeWhile_append_of_pos hH, List.dropWhile_append_of_pos hH, List.takeWhile_cons, List.dropWhile_cons, hs,
    Option.isNone_some, Bool.false_eq_true, if_false, List.append_nil, hh, hg, hc, ht, Bool.not_true, hm]

theorem parse_rows_fresh (lines : List Str) (m : Mdoc) (h : parseMdoc lines = some m) :
    m.rows ≠ [] ∧ ∀ r ∈ m.rows, r.removed = false := by
  obtain ⟨_, _, s0, secs, _, _, _, _, _, _, hm⟩ := parseMdoc_some lines m h
  obtain ⟨r0, rs, _, _, e⟩ := (Lists.mapM_cons_some _ s0 secs m.rows).1 hm
  exact ⟨by rw [e]; exact List.cons_ne_nil _ _, fun r hr =>
    have ⟨sec, _, hsec⟩ := Lists.mapM_mem _ _ _ hm r hr
    mkRow_fresh _ sec r hsec⟩

theorem toTiltX_of_toTilt (v t : Val) (h : toTilt v = some t) : toTiltX v = some t := by
  simp only [toTiltX, h]

theorem convTiltX_of_convTilt (kv : Str × Val) (c : Val) (h : convTilt kv = some c) : convTiltX kv = some c := by
  unfold convTilt at h
  unfold convTiltX
  split
  · rename_i hk; rw [if_pos hk] at h; exact toTiltX_of_toTilt _ _ h
  · rename_i hk; rw [if_neg hk] at h; exact h

/-- a key that does not occur yet is not looked up: the dict assignment of the code then appends, like the strict model -/
theorem lookup_none_of_any_false (info : List (Str × Val)) (k : Str) (h : info.any (fun e => e.1 == k) = false) :
    info.lookup k = none := by
  rw [List.lookup_eq_none_iff]
  intro p hp
  have := (any_key_eq_false info k).1 h
  simp only [bne_iff_ne, ne_eq]
  exact fun e => this (List.mem_map.2 ⟨p, hp, e.symm⟩)

theorem parseHeaderX_of_parseHeader : ∀ (ls : List Str) (r : List Str × List (Str × Val)),
    parseHeader ls = some r → parseHeaderX ls = some r
  | [], r, h => by simpa [parseHeader, parseHeaderX] using h
  | l :: ls, r, h => by
    obtain ⟨ts, info, h0, hstep⟩ := parseHeader_cons l ls r h
    rw [parseHeaderX, parseHeaderX_of_parseHeader ls _ h0]
    split at hstep
    · rename_i hb
      simp only [if_pos hb, hstep]
    · rename_i hb
      obtain ⟨kv, hkv, hany, rfl⟩ := hstep
      simp only [if_neg hb, hkv, lookup_none_of_any_false info kv.1 hany]

theorem mkRowX_of_mkRow (cols : List Str) (sec : List Str) (r : Row) (h : mkRow cols sec = some r) : mkRowX cols sec = some r := by
  obtain ⟨hd, body, z, kvs, cells, rfl, hz, hb, hd1, hk, hm, rfl⟩ := mkRow_some cols sec r h
  simp only [mkRowX, hz, hb, hd1, Bool.not_true, Bool.false_eq_true, if_false, hk, beq_self_eq_true, if_true,
    Lists.mapM_mono convTilt convTiltX convTiltX_of_convTilt kvs cells hm]

end CryoCat.C17
