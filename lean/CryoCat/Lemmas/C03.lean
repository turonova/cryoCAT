import CryoCat.Model.C03
import CryoCat.Lemmas.Rot
import CryoCat.Lemmas.RealAngle
import Mathlib.Algebra.Field.Basic
import Mathlib.Tactic.NormNum
import Mathlib.Tactic.LinearCombination
/-! C03 — the angle conversions. Over any commutative ring: the scipy sequence strings as matrix products, what the two
conversions return, conjugation by `Qy`; the particle's and RELION's matrices are proper rotations (`IsRot` is `M3.IsRot` of
`Lemmas/Rot`, where the algebra is). Over ℝ: an instance of the "Euler service" (scipy's `Rotation.as_euler`), which the model
takes as a parameter `asEuler : M3 α → Ang3 α`: extractors `zxzR`, `zyzR` whose result, for EVERY proper rotation, consists of
unit angles, has `0 ≤ sin` of the middle angle, and reproduces the matrix (`zxzR_post`, `zyzR_post`); the abstract angles are
exactly the (cos, sin) pairs of angles in degrees (`angR_degOf`, `ang3R_surj`).

Nothing here says that scipy computes `zxzR` / `zyzR`; these are witnesses that the post-condition assumed of
`asEuler` in `Props/C03` can be met for all proper rotations simultaneously. -/
namespace CryoCat.C03
open CryoCat

section ring
variable {α : Type} [CommRing α]

theorem eulerMat_ZXZ (t : Ang3 α) :
    eulerMat ['Z', 'X', 'Z'] t = some (ZXZ t.a.c t.a.s t.b.c t.b.s t.c.c t.c.s) := rfl
theorem eulerMat_ZYZ (t : Ang3 α) :
    eulerMat ['Z', 'Y', 'Z'] t = some (ZYZ t.a.c t.a.s t.b.c t.b.s t.c.c t.c.s) := rfl
theorem eulerMat_zxz (t : Ang3 α) :
    eulerMat ['z', 'x', 'z'] t = some (zxz t.a.c t.a.s t.b.c t.b.s t.c.c t.c.s) := rfl

theorem particleMat_eq (t : Ang3 α) : particleMat t = zxz t.a.c t.a.s t.b.c t.b.s t.c.c t.c.s := rfl
theorem relionMat_eq (t : Ang3 α) : relionMat t = ZYZ t.a.c t.a.s t.b.c t.b.s t.c.c t.c.s := rfl

theorem exportFed_eq (ang : Ang3 α) :
    exportFed ang = some (ZXZ ang.a.c ang.a.s ang.b.c ang.b.s ang.c.c ang.c.s) := eulerMat_ZXZ ang
theorem importFed_eq (rln : Ang3 α) : importFed rln = some (relionMat rln) := eulerMat_ZYZ rln

theorem exportAngles_eq (asEuler : M3 α → Ang3 α) (ang : Ang3 α) :
    exportAngles asEuler ang =
      some ⟨(asEuler (ZXZ ang.a.c ang.a.s ang.b.c ang.b.s ang.c.c ang.c.s)).a.neg,
            (asEuler (ZXZ ang.a.c ang.a.s ang.b.c ang.b.s ang.c.c ang.c.s)).b,
            (asEuler (ZXZ ang.a.c ang.a.s ang.b.c ang.b.s ang.c.c ang.c.s)).c.neg⟩ := by
  unfold exportAngles; rw [exportFed_eq]; rfl

theorem importAngles_eq (asEuler : M3 α → Ang3 α) (rln : Ang3 α) :
    importAngles asEuler rln =
      some ⟨(asEuler (relionMat rln)).c.neg, (asEuler (relionMat rln)).b.neg, (asEuler (relionMat rln)).a.neg⟩ := by
  unfold importAngles; rw [importFed_eq]; rfl

theorem ZYZ_neg_outer (ca sa cb sb cc sc : α) :
    ZYZ ca (-sa) cb sb cc (-sc) = Qy * ZYZ ca sa cb sb cc sc * Qy := by
  unfold ZYZ
  rw [conj3 Qy _ _ _ Qy_Qy, Qy_rz, Qy_ry, Qy_rz]

theorem Qy_ZXZ (cp sp ct st cs ss : α) :
    Qy * ZXZ cp sp ct st cs ss * Qy = (zxz cp sp ct st cs ss).transpose := by
  rw [zxz_transpose]
  unfold ZXZ zxz
  rw [conj3 Qy _ _ _ Qy_Qy, Qy_rz, Qy_rx, Qy_rz]

theorem inverse_unique {q r p : M3 α} (hq : q * r = M3.one) (hp : r * p = M3.one) : q = p := by
  calc q = q * (r * p) := by rw [hp, M3.mul_one']
    _ = p := by rw [← M3.mul_assoc', hq, M3.one_mul']

def IsRot (m : M3 α) : Prop := m.Orth ∧ m.det = 1

theorem IsRot.rot {m : M3 α} (h : IsRot m) : m.IsRot := h

theorem zxz_isRot (cp sp ct st cs ss : α) (hp : cp * cp + sp * sp = 1) (ht : ct * ct + st * st = 1)
    (hs : cs * cs + ss * ss = 1) : IsRot (zxz cp sp ct st cs ss) :=
  CryoCat.zxz_isRot cp sp ct st cs ss hp ht hs

theorem IsRot.inv {m : M3 α} (h : IsRot m) : m.transpose * m = M3.one ∧ m * m.transpose = M3.one :=
  ⟨h.1, h.rot.mul_transpose⟩

theorem Ang.neg_unit (t : Ang α) (h : t.Unit) : t.neg.Unit := by
  show t.c * t.c + -t.s * -t.s = 1
  rw [neg_mul_neg]; exact h

theorem particleMat_isRot (t : Ang3 α) (hu : t.Unit) : IsRot (particleMat t) :=
  zxz_isRot _ _ _ _ _ _ hu.1 hu.2.1 hu.2.2

theorem relionMat_isRot (t : Ang3 α) (hu : t.Unit) : IsRot (relionMat t) :=
  ZYZ_isRot _ _ _ _ _ _ hu.1 hu.2.1 hu.2.2

theorem exportFed_isRot (ang : Ang3 α) (hu : ang.Unit) (F : M3 α) (hF : exportFed ang = some F) : IsRot F := by
  cases (exportFed_eq ang).symm.trans hF
  exact ZXZ_isRot _ _ _ _ _ _ hu.1 hu.2.1 hu.2.2

theorem importFed_isRot (rln : Ang3 α) (hu : rln.Unit) (F : M3 α) (hF : importFed rln = some F) : IsRot F := by
  cases (importFed_eq rln).symm.trans hF
  exact relionMat_isRot rln hu

theorem IsRot.cofactor {m : M3 α} (h : IsRot m) :
    m.a11 = m.a22 * m.a33 - m.a23 * m.a32 ∧ m.a12 = m.a23 * m.a31 - m.a21 * m.a33 ∧ m.a13 = m.a21 * m.a32 - m.a22 * m.a31 ∧
    m.a21 = m.a13 * m.a32 - m.a12 * m.a33 ∧ m.a22 = m.a11 * m.a33 - m.a13 * m.a31 ∧ m.a23 = m.a12 * m.a31 - m.a11 * m.a32 ∧
    m.a31 = m.a12 * m.a23 - m.a13 * m.a22 ∧ m.a32 = m.a13 * m.a21 - m.a11 * m.a23 ∧ m.a33 = m.a11 * m.a22 - m.a12 * m.a21 :=
  h.rot.cofactor

end ring

section ordered
variable {α : Type} [_root_.Field α] [LinearOrder α] [IsStrictOrderedRing α]

/-- `hsq` always holds over ℝ; `0 ≤ st` is theta in [0°, 180°], as scipy returns it -/
theorem exists_zxz_of_rot {m : M3 α} (h : IsRot m) (hsq : ∃ s : α, 0 ≤ s ∧ s * s = 1 - m.a33 * m.a33) :
    ∃ cp sp ct st cs ss : α, cp * cp + sp * sp = 1 ∧ ct * ct + st * st = 1 ∧ cs * cs + ss * ss = 1 ∧ 0 ≤ st ∧
      zxz cp sp ct st cs ss = m :=
  h.rot.exists_zxz hsq

theorem exists_ZYZ_of_rot {m : M3 α} (h : IsRot m) (hsq : ∃ s : α, 0 ≤ s ∧ s * s = 1 - m.a33 * m.a33) :
    ∃ ca sa cb sb cc sc : α, ca * ca + sa * sa = 1 ∧ cb * cb + sb * sb = 1 ∧ cc * cc + sc * sc = 1 ∧ 0 ≤ sb ∧
      ZYZ ca sa cb sb cc sc = m :=
  h.rot.exists_ZYZ hsq

end ordered

section real
open Real

open Classical in
/-- (phi, theta, psi): theta from m₃₃ (with `sin theta = sqrt (1 − m₃₃²) ≥ 0`), phi from the third row, psi from the
third column; at gimbal lock (`sqrt (1 − m₃₃²) = 0`) psi = 0 and phi carries the whole z-rotation -/
noncomputable def zxzR (m : M3 ℝ) : Ang3 ℝ :=
  let s := Real.sqrt (1 - m.a33 * m.a33)
  if s = 0 then (if 0 ≤ m.a33 then ⟨⟨m.a11, m.a21⟩, ⟨1, 0⟩, ⟨1, 0⟩⟩ else ⟨⟨m.a11, -m.a12⟩, ⟨-1, 0⟩, ⟨1, 0⟩⟩)
  else ⟨⟨m.a32 / s, m.a31 / s⟩, ⟨m.a33, s⟩, ⟨-m.a23 / s, m.a13 / s⟩⟩

/-- (rot, tilt, psi) from `zxzR` by `ZYZ_of_zxz`: rot = psi_zxz − 90°, tilt = theta_zxz, psi = phi_zxz + 90° -/
noncomputable def zyzR (m : M3 ℝ) : Ang3 ℝ :=
  let e := zxzR m
  ⟨⟨e.c.s, -e.c.c⟩, e.b, ⟨-e.a.s, e.a.c⟩⟩

/-- the post-condition of `as_euler("zxz")`, met by `zxzR` for every proper rotation over ℝ -/
theorem zxzR_post (m : M3 ℝ) (h : IsRot m) :
    (zxzR m).Unit ∧ 0 ≤ (zxzR m).b.s ∧ eulerMat ['z', 'x', 'z'] (zxzR m) = some m := by
  have one : (⟨1, 0⟩ : Ang ℝ).Unit := by norm_num [Ang.Unit]
  have mone : (⟨-1, 0⟩ : Ang ℝ).Unit := by norm_num [Ang.Unit]
  rw [eulerMat_zxz]
  simp only [zxzR]
  rcases h.rot.zxz_cases (mul_self_sqrt h.rot.sq_a33_le) with ⟨hz, hp, u, e⟩ | ⟨hz, hp, u, e⟩ | ⟨hz, u1, u2, u3, e⟩
  · rw [if_pos hz, if_pos hp]
    exact ⟨⟨u, one, one⟩, le_refl (0 : ℝ), congrArg some e⟩
  · rw [if_pos hz, if_neg hp]
    exact ⟨⟨u, mone, one⟩, le_refl (0 : ℝ), congrArg some e⟩
  · rw [if_neg hz]
    exact ⟨⟨u1, u2, u3⟩, sqrt_nonneg _, congrArg some e⟩

/-- the post-condition of `as_euler("ZYZ")`, met by `zyzR` for every proper rotation over ℝ -/
theorem zyzR_post (m : M3 ℝ) (h : IsRot m) :
    (zyzR m).Unit ∧ 0 ≤ (zyzR m).b.s ∧ eulerMat ['Z', 'Y', 'Z'] (zyzR m) = some m := by
  obtain ⟨⟨ua, ub, uc⟩, hb, e⟩ := zxzR_post m h
  rw [eulerMat_zxz] at e
  rw [eulerMat_ZYZ]
  simp only [zyzR]
  refine ⟨⟨?_, ub, ?_⟩, hb, ?_⟩
  · unfold Ang.Unit at uc ⊢; simp only; linear_combination uc
  · unfold Ang.Unit at ua ⊢; simp only; linear_combination ua
  · rw [ZYZ_of_zxz]; exact e

/-- (cos, sin) of an angle given in degrees — what scipy computes for `degrees=True` -/
noncomputable def angR (d : ℝ) : Ang ℝ := ⟨Real.cos (d * (Real.pi / 180)), Real.sin (d * (Real.pi / 180))⟩

noncomputable def ang3R (a b c : ℝ) : Ang3 ℝ := ⟨angR a, angR b, angR c⟩

theorem angR_unit (d : ℝ) : (angR d).Unit := RealAngle.cos_mul_self_add_sin_mul_self _

theorem ang3R_unit (a b c : ℝ) : (ang3R a b c).Unit := ⟨angR_unit a, angR_unit b, angR_unit c⟩

theorem angR_neg (d : ℝ) : angR (-d) = (angR d).neg := by
  simp only [angR, Ang.neg, neg_mul, cos_neg, sin_neg]

/-- `atan2(s, c)` in degrees, in (−180°, 180°] -/
noncomputable def degOf (t : Ang ℝ) : ℝ := Complex.arg ⟨t.c, t.s⟩ * (180 / π)

theorem angR_degOf (t : Ang ℝ) (h : t.Unit) : angR (degOf t) = t := by
  obtain ⟨hc, hs⟩ := RealAngle.cos_sin_argDeg_of_unit h
  simp only [angR, degOf, hc, hs]

theorem ang3R_surj (t : Ang3 ℝ) (h : t.Unit) : ∃ a b c : ℝ, ang3R a b c = t := by
  obtain ⟨ta, tb, tc⟩ := t
  obtain ⟨ha, hb, hc⟩ := h
  exact ⟨degOf ta, degOf tb, degOf tc, by
    simp only [ang3R, angR_degOf _ ha, angR_degOf _ hb, angR_degOf _ hc]⟩

end real
end CryoCat.C03
