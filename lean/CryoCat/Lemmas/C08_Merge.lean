import CryoCat.Model.C08
import CryoCat.Lemmas.List
import Mathlib.Algebra.Order.Ring.Defs
import Mathlib.Data.List.Forall2
/-! C08 — the merging loop: `mergeBlocks` is the non-empty blocks of `alignedBlocks` (one block per input: the inputs
shifted by `mergeOffsets`); every block lies strictly above the running `feature_add`, so the blocks increase.
And `renumber_particles` (`numberFrom`). -/
namespace CryoCat.C08
open CryoCat Gen.C08

section generic
variable {β γ δ : Type}

theorem forall2_mem_right {R : β → γ → Prop} {l : List β} {m : List γ} (h : List.Forall₂ R l m)
    (b : γ) (hb : b ∈ m) : ∃ a ∈ l, R a b := by
  obtain ⟨i, hi, rfl⟩ := List.mem_iff_getElem.1 hb
  exact ⟨l[i]'(h.length_eq ▸ hi), List.getElem_mem _, h.get _ hi⟩

theorem forall2_mem_left {R : β → γ → Prop} {l : List β} {m : List γ} (h : List.Forall₂ R l m)
    (a : β) (ha : a ∈ l) : ∃ b ∈ m, R a b :=
  forall2_mem_right h.flip a ha

theorem forall2_map_self {R : β → γ → Prop} (g : β → γ) (l : List β) (h : ∀ a ∈ l, R a (g a)) :
    List.Forall₂ R l (l.map g) :=
  List.forall₂_map_right_iff.2 (List.forall₂_same.2 h)

theorem mem_zipWith_right (F : δ → β → γ) (cs : List δ) (xs : List β) (x : γ) (hx : x ∈ List.zipWith F cs xs) :
    ∃ c, ∃ y ∈ xs, x = F c y := by
  rw [← List.map_uncurry_zip_eq_zipWith] at hx
  obtain ⟨⟨c, y⟩, hcy, rfl⟩ := List.mem_map.1 hx
  exact ⟨c, y, (List.of_mem_zip hcy).2, rfl⟩

end generic

section ordered
set_option linter.unusedSectionVars false
variable {α : Type} [CommRing α] [LinearOrder α] [IsStrictOrderedRing α]

theorem objMin_le (d : α) (l : Motl α) :
    objMin d l ≤ d ∧ ∀ p ∈ l, objMin d l ≤ p.object_id := by
  have := (Lists.foldl_pick_spec (fun a b : α => a ≤ b) (fun y m : α => y < m) le_refl (fun _ _ _ => le_trans)
    (fun _ _ => le_of_lt) (fun _ _ => le_of_not_gt) (l.map (·.object_id)) d).2
  rwa [List.foldl_map, List.forall_mem_cons, List.forall_mem_map] at this

theorem le_objMax (d : α) (l : Motl α) :
    d ≤ objMax d l ∧ ∀ p ∈ l, p.object_id ≤ objMax d l := by
  have := (Lists.foldl_pick_spec (fun a b : α => b ≤ a) (fun y m : α => m < y) le_refl (fun _ _ _ h1 h2 => le_trans h2 h1)
    (fun _ _ => le_of_lt) (fun _ _ => le_of_not_gt) (l.map (·.object_id)) d).2
  rwa [List.foldl_map, List.forall_mem_cons, List.forall_mem_map] at this

theorem objMin_le_row (p : Particle α) (m : Motl α) : ∀ q ∈ p :: m, objMin p.object_id m ≤ q.object_id :=
  List.forall_mem_cons.2 (objMin_le _ m)

theorem row_le_objMax (p : Particle α) (m : Motl α) : ∀ q ∈ p :: m, q.object_id ≤ objMax p.object_id m :=
  List.forall_mem_cons.2 (le_objMax _ m)

theorem cmp_le_test (a b : α) : Cmp.test Cmp.le a b = true ↔ a ≤ b := by
  simp [Cmp.test, le_iff_lt_or_eq]

theorem shiftObj_zero (m : Motl α) : shiftObj (0 : α) m = m := by
  unfold shiftObj
  conv => rhs; rw [← List.map_id m]
  apply List.map_congr_left
  intro p _
  cases p
  simp [Particle.set]

theorem head_shift_above (add : α) (p : Particle α) (m : Motl α) :
    ∀ q ∈ shiftObj (add - objMin p.object_id m + 1) (p :: m), add < q.object_id := by
  intro q hq
  obtain ⟨p', hp', rfl⟩ := List.mem_map.1 hq
  have h : add + 1 ≤ p'.object_id + (add - objMin p.object_id m + 1) := by
    have := add_le_add_right (objMin_le_row p m p' hp') (add - objMin p.object_id m + 1)
    rwa [add_right_comm, sub_add_cancel, add_comm _ p'.object_id] at this
  exact lt_of_lt_of_le (lt_add_one add) h

theorem head_noshift_above (add : α) (p : Particle α) (m : Motl α)
    (h : ¬ objMin p.object_id m ≤ add) : ∀ q ∈ p :: m, add < q.object_id :=
  fun q hq => lt_of_lt_of_le (lt_of_not_ge h) (objMin_le_row p m q hq)

/-- what both branches of the loop have in common: a non-empty block with object numbers in `(add, add']`,
followed by blocks that lie above `add'` and increase among themselves -/
theorem blocks_above_cons {add add' : α} {b : Motl α} {rest : List (Motl α)} (p : Particle α) (hp : p ∈ b)
    (hlo : ∀ q ∈ b, add < q.object_id) (hhi : ∀ q ∈ b, q.object_id ≤ add')
    (ih : (∀ c ∈ rest, ∀ q ∈ c, add' < q.object_id)
      ∧ rest.Pairwise (fun b c => ∀ p ∈ b, ∀ q ∈ c, p.object_id < q.object_id)) :
    (∀ c ∈ b :: rest, ∀ q ∈ c, add < q.object_id)
      ∧ (b :: rest).Pairwise (fun b c => ∀ p ∈ b, ∀ q ∈ c, p.object_id < q.object_id) := by
  have hadd : add < add' := lt_of_lt_of_le (hlo p hp) (hhi p hp)
  refine ⟨List.forall_mem_cons.2 ⟨hlo, fun c hc q hq => lt_trans hadd (ih.1 c hc q hq)⟩,
    List.pairwise_cons.2 ⟨fun c hc q hq r hr => lt_of_le_of_lt (hhi q hq) (ih.1 c hc r hr), ih.2⟩⟩

theorem mergeBlocks_offsets (add : α) (ls : List (Motl α)) :
    List.Forall₂ (fun m b => ∃ c : α, b = shiftObj c m)
      (ls.filter (fun m => !m.isEmpty)) (mergeBlocks Cmp.le add ls) := by
  fun_induction mergeBlocks Cmp.le add ls with
  | case1 => exact List.Forall₂.nil
  | case2 add ms ih => exact ih
  | case3 add p m ms mn h c ih => exact List.Forall₂.cons ⟨_, rfl⟩ ih
  | case4 add p m ms mn h ih => exact List.Forall₂.cons ⟨0, (shiftObj_zero _).symm⟩ ih

/-- one block per input (an empty input gives the empty block): the inputs shifted by the offsets
the loop computes -/
def alignedBlocks (cmp : Cmp) (add : α) (ls : List (Motl α)) : List (Motl α) :=
  List.zipWith shiftObj (mergeOffsets cmp add ls) ls

theorem mergeOffsets_length (cmp : Cmp) (add : α) (ls : List (Motl α)) :
    (mergeOffsets cmp add ls).length = ls.length := by
  fun_induction mergeOffsets cmp add ls with
  | case1 => rfl
  | case2 add ms ih => exact congrArg Nat.succ ih
  | case3 add p m ms mn h c ih => exact congrArg Nat.succ ih
  | case4 add p m ms mn h ih => exact congrArg Nat.succ ih

theorem alignedBlocks_filter (cmp : Cmp) (add : α) (ls : List (Motl α)) :
    (alignedBlocks cmp add ls).filter (fun b => !b.isEmpty) = mergeBlocks cmp add ls := by
  unfold alignedBlocks
  fun_induction mergeBlocks cmp add ls with
  | case1 => rfl
  | case2 add ms ih => rw [mergeOffsets, List.zipWith_cons_cons]; exact ih
  | case3 add p m ms mn h c ih =>
    rw [mergeOffsets, if_pos h, List.zipWith_cons_cons, List.filter_cons_of_pos rfl, ih]
  | case4 add p m ms mn h ih =>
    rw [mergeOffsets, if_neg h, List.zipWith_cons_cons, shiftObj_zero, List.filter_cons_of_pos rfl, ih]

theorem alignedBlocks_flatten (cmp : Cmp) (add : α) (ls : List (Motl α)) :
    (alignedBlocks cmp add ls).flatten = (mergeBlocks cmp add ls).flatten := by
  rw [← alignedBlocks_filter, List.flatten_filter_not_isEmpty]

/-- the loop's invariant, for one block per input: every block lies above the running `feature_add`, and the blocks
increase -/
theorem alignedBlocks_inv (add : α) (ls : List (Motl α)) :
    (∀ b ∈ alignedBlocks Cmp.le add ls, ∀ p ∈ b, add < p.object_id) ∧
    (alignedBlocks Cmp.le add ls).Pairwise (fun b c => ∀ p ∈ b, ∀ q ∈ c, p.object_id < q.object_id) := by
  unfold alignedBlocks
  fun_induction mergeOffsets Cmp.le add ls with
  | case1 => exact ⟨fun _ h => (nomatch h), List.Pairwise.nil⟩
  | case2 add ms ih =>
    exact ⟨List.forall_mem_cons.2 ⟨fun _ h => (nomatch h), ih.1⟩, List.pairwise_cons.2 ⟨fun _ _ _ h => (nomatch h), ih.2⟩⟩
  | case3 add p m ms mn h c ih =>
    exact blocks_above_cons _ List.mem_cons_self (head_shift_above add p m)
      (row_le_objMax (p.set .object_id _) (shiftObj _ m)) ih
  | case4 add p m ms mn h ih =>
    rw [List.zipWith_cons_cons, shiftObj_zero]
    exact blocks_above_cons p List.mem_cons_self
      (head_noshift_above add p m (fun h' => h ((cmp_le_test _ _).2 h'))) (row_le_objMax p m) ih

theorem alignedBlocks_increasing (add : α) (ls : List (Motl α)) :
    (alignedBlocks Cmp.le add ls).Pairwise (fun b c => ∀ p ∈ b, ∀ q ∈ c, p.object_id < q.object_id) :=
  (alignedBlocks_inv add ls).2

theorem mergeBlocks_above (add : α) (ls : List (Motl α)) :
    ∀ b ∈ mergeBlocks Cmp.le add ls, ∀ p ∈ b, add < p.object_id := by
  rw [← alignedBlocks_filter]
  exact fun b hb => (alignedBlocks_inv add ls).1 b (List.mem_filter.1 hb).1

theorem mergeBlocks_increasing (add : α) (ls : List (Motl α)) :
    (mergeBlocks Cmp.le add ls).Pairwise
      (fun b c => ∀ p ∈ b, ∀ q ∈ c, p.object_id < q.object_id) := by
  rw [← alignedBlocks_filter]
  exact (alignedBlocks_increasing add ls).filter _

theorem mergeBlocks_flat_rows (cmp : Cmp) (add : α) (ls : List (Motl α)) :
    ∀ q ∈ (mergeBlocks cmp add ls).flatten, ∃ m ∈ ls, ∃ p ∈ m, ∀ f : Field, f ≠ Field.object_id → q.get f = p.get f := by
  intro q hq
  rw [← alignedBlocks_flatten] at hq
  obtain ⟨b, hb, hqb⟩ := List.mem_flatten.1 hq
  obtain ⟨c, m, hm, rfl⟩ := mem_zipWith_right _ _ _ b hb
  obtain ⟨p, hp, rfl⟩ := List.mem_map.1 hqb
  exact ⟨m, hm, p, hp, fun f hf => Particle.get_set_other _ _ _ _ hf⟩

end ordered

section plain
variable {α : Type}

section blocks
variable [BEq α] [LT α] [DecidableLT α] [Add α] [Sub α] [OfNat α 1]

theorem mergeBlocks_ne_nil (cmp : Cmp) (add : α) (ls : List (Motl α)) :
    ∀ b ∈ mergeBlocks cmp add ls, b ≠ [] := by
  fun_induction mergeBlocks cmp add ls with
  | case1 => exact fun _ h => nomatch h
  | case2 add ms ih => exact ih
  | case3 add p m ms mn h c ih => exact List.forall_mem_cons.2 ⟨List.cons_ne_nil _ _, ih⟩
  | case4 add p m ms mn h ih => exact List.forall_mem_cons.2 ⟨List.cons_ne_nil _ _, ih⟩

theorem mergeBlocks_length (cmp : Cmp) (add : α) (ls : List (Motl α)) :
    (mergeBlocks cmp add ls).flatten.length = ls.flatten.length := by
  fun_induction mergeBlocks cmp add ls with
  | case1 => rfl
  | case2 add ms ih => exact ih
  | case3 add p m ms mn h c ih =>
    rw [List.flatten_cons, List.length_append, ih, List.flatten_cons, List.length_append, shiftObj, List.length_map]
  | case4 add p m ms mn h ih => simp only [List.flatten_cons, List.length_append, ih]

end blocks

theorem numberFrom_ids (nat : Nat → α) (k : Nat) (l : Motl α) :
    (numberFrom nat k l).map (·.subtomo_id) = (List.range l.length).map (fun i => nat (k + i)) := by
  induction l generalizing k with
  | nil => simp [numberFrom]
  | cons p l ih =>
    simp only [numberFrom, List.map_cons, List.length_cons, List.range_succ_eq_map, ih,
      List.map_map]
    refine congrArg₂ _ rfl ?_
    apply List.map_congr_left
    intro i _
    simp only [Function.comp]
    congr 1
    omega

theorem numbers_nodup (nat : Nat → α) (hnat : ∀ i j, nat i = nat j → i = j) (n : Nat) :
    ((List.range n).map (fun i => nat (i + 1))).Nodup := by
  rw [List.Nodup, List.pairwise_map]
  exact List.nodup_range.imp (fun {i j} hij e => hij (Nat.succ.inj (hnat _ _ e)))

theorem numberFrom_others (nat : Nat → α) (k : Nat) (l : Motl α) :
    List.Forall₂ (fun p q => ∀ f : Field, f ≠ Field.subtomo_id → q.get f = p.get f)
      l (numberFrom nat k l) := by
  induction l generalizing k with
  | nil => simp [numberFrom]
  | cons p l ih =>
    rw [numberFrom]
    exact List.Forall₂.cons (fun f hf => Particle.get_set_other _ _ _ _ hf) (ih _)

theorem numberFrom_length (nat : Nat → α) (k : Nat) (l : Motl α) :
    (numberFrom nat k l).length = l.length :=
  (numberFrom_others nat k l).length_eq.symm

theorem numberFrom_rows (nat : Nat → α) (k : Nat) (l : Motl α) :
    ∀ q ∈ numberFrom nat k l, ∃ p ∈ l,
      ∀ f : Field, f ≠ Field.subtomo_id → q.get f = p.get f :=
  forall2_mem_right (numberFrom_others nat k l)

end plain
end CryoCat.C08
