import CryoCat.Lemmas.C10
import CryoCat.Lemmas.Round
import CryoCat.Lemmas.RealAngle
import Mathlib.Algebra.Order.Ring.Abs
import Mathlib.Algebra.Order.Floor.Ring
import Mathlib.Data.Rat.Floor
import Mathlib.Analysis.SpecialFunctions.Complex.Arg
/-! C10 — the numeric services. What the theorems ask of them: `Svc.Exact` (unit trigonometry, a rounding that returns an integer
within 1/2) and `PolarExact` (polar coordinates, angle addition), under which the code's polar arithmetic for the subunit offset is the
Cartesian rotation `Rz(phi_k)·s` of the orbit theorems. Who meets them: the floor formula `roundHalfUp` with the floor of ℚ (the driver)
or ℝ is `Round.roundAway`; over ℝ the true `sqrt` / `arg` / `cos` / `sin` meet `PolarExact`, the step angle is 2π/n and fewer than `n`
steps do not close the circle. -/
namespace CryoCat.C10

section round
variable {α : Type} [_root_.Field α] [LinearOrder α] [IsStrictOrderedRing α]

def IsInt (x : α) : Prop := ∃ z : ℤ, x = (z : α)

/-- the rounding service (`Decimal(v).to_integral_value(ROUND_HALF_UP)` on exact values): all the statement asks of it
("integer x,y,z with |shift| ≤ 0.5") -/
def RoundSpec (r : α → α) : Prop := ∀ v, IsInt (r v) ∧ |v - r v| ≤ 1 / 2

/-- the tie rule of ROUND_HALF_UP -/
def TiesAway (r : α → α) : Prop :=
  ∀ k : ℕ, r ((k : α) + 1 / 2) = (k : α) + 1 ∧ r (-((k : α) + 1 / 2)) = -((k : α) + 1)

/-- the floor formula with the floor of `α` is `Round.roundAway` -/
theorem roundHalfUp_floor [FloorRing α] :
    roundHalfUp (fun v : α => ((⌊v⌋ : ℤ) : α)) (1 / 2) = fun v => ((Round.roundAway v : ℤ) : α) :=
  funext fun v => (Round.roundAway_cast_eq_floor v).symm

theorem roundSpec_floor [FloorRing α] : RoundSpec (roundHalfUp (fun v : α => ((⌊v⌋ : ℤ) : α)) (1 / 2)) :=
  roundHalfUp_floor (α := α) ▸ Round.roundAway_nearest

theorem tiesAway_floor [FloorRing α] : TiesAway (roundHalfUp (fun v : α => ((⌊v⌋ : ℤ) : α)) (1 / 2)) :=
  roundHalfUp_floor (α := α) ▸ Round.roundAway_ties

structure Svc.Exact (sv : Svc α) : Prop where
  unit : ∀ x, (sv.trig x).IsUnit
  round : RoundSpec sv.round

theorem ratRound_spec : RoundSpec ratRound := roundSpec_floor

theorem ratRound_ties : TiesAway ratRound := tiesAway_floor
end round

section polar
variable {α : Type} [_root_.Field α]

/-- the identities the polar form relies on, taken as hypotheses about the numeric services: `(rho, the)` are polar
coordinates of `(x, y)` (also at the origin, where `rho = 0`), `cos/sin(a + deg2rad d)` obey the addition formulas
against the degree-trigonometry `sv.trig d`, and `sv.trig` turns sums of degrees into angle sums. They hold for the real
`sqrt` / `arg` / `cos` / `sin` (`realPolar_exact`); binary64 `libm` meets them only approximately (the driver's results are
compared with tolerance). -/
structure PolarExact (sv : Svc α) (pv : PolarSvc α) : Prop where
  polar_x : ∀ x y, pv.sqrt (x * x + y * y) * pv.cosr (pv.atan2 y x) = x
  polar_y : ∀ x y, pv.sqrt (x * x + y * y) * pv.sinr (pv.atan2 y x) = y
  cos_add_deg : ∀ a d, pv.cosr (a + pv.deg2rad d) = pv.cosr a * (sv.trig d).c - pv.sinr a * (sv.trig d).s
  sin_add_deg : ∀ a d, pv.sinr (a + pv.deg2rad d) = pv.sinr a * (sv.trig d).c + pv.cosr a * (sv.trig d).s
  trig_add : ∀ x y, sv.trig (x + y) = (sv.trig x).add (sv.trig y)
  trig_zero : sv.trig 0 = Ang.zero

variable {sv : Svc α} {pv : PolarSvc α}

/-- `center_shift[k]` as the code computes it is `Rz(phi)·s`, also on the axis (`rho = 0`, whatever `arctan2(0, 0)` is) -/
theorem centerShift_eq (h : PolarExact sv pv) (s : V3 α) (d : α) :
    centerShift pv s d = (sv.trig d).rz.apply s := by
  have hx := h.polar_x s.x s.y
  have hy := h.polar_y s.x s.y
  ext
  · simp only [centerShift, Ang.rz, CryoCat.rz, M3.apply, h.cos_add_deg]
    linear_combination (sv.trig d).c * hx - (sv.trig d).s * hy
  · simp only [centerShift, Ang.rz, CryoCat.rz, M3.apply, h.sin_add_deg]
    linear_combination (sv.trig d).c * hy + (sv.trig d).s * hx
  · simp only [centerShift, Ang.rz, CryoCat.rz, M3.apply]
    ring

/-- the code hands `from_euler` the product `phi_k = k·(360/n)` (one trig evaluation); the model takes `k` steps of its
step angle -/
theorem trig_phiDeg (h : PolarExact sv pv) (n k : Nat) : sv.trig (phiDeg n k) = Ang.nsmul k (stepAng sv n) :=
  Ang.nsmul_of_add h.trig_zero h.trig_add k _

theorem subunitP_eq (h : PolarExact sv pv) (n : Nat) (s : V3 α) : subunitP sv pv n s = subunit sv n s := by
  funext P k
  unfold subunitP subunit
  rw [centerShift_eq h, trig_phiDeg h]

variable [LE α] [DecidableLE α]

/-- `expandP` is the definition the driver executes against the real code -/
theorem expandP_eq (h : PolarExact sv pv) (n : Nat) (s : V3 α) (l : List (Particle α)) :
    expandP sv pv n s l = expand sv n s l := by
  unfold expandP expand expandCore
  rw [subunitP_eq h]

theorem expandSymP_eq (h : PolarExact sv pv) (sym : Sym) (s : V3 α) (l : List (Particle α)) :
    expandSymP sv pv sym s l = expandSym sv sym s l := by
  unfold expandSymP expandSym
  cases parseSym sym <;> simp only [expandP_eq h]
end polar

section real
open Real

/-- (cos, sin) of an angle in degrees — what numpy/scipy compute (`deg2rad` then cos/sin) -/
noncomputable def trigDeg (x : ℝ) : Ang ℝ := ⟨cos (x * (π / 180)), sin (x * (π / 180))⟩

/-- the numeric services over ℝ: true trigonometry, true rounding half away from zero -/
noncomputable def realSvc : Svc ℝ :=
  { trig := trigDeg, round := roundHalfUp (fun v => ((⌊v⌋ : ℤ) : ℝ)) (1 / 2) }

theorem trigDeg_isUnit (x : ℝ) : (trigDeg x).IsUnit := RealAngle.cos_mul_self_add_sin_mul_self _

theorem trigDeg_add (x y : ℝ) : trigDeg (x + y) = (trigDeg x).add (trigDeg y) := by
  apply Ang.ext'
  · simp only [trigDeg, Ang.add, add_mul, cos_add]
  · simp only [trigDeg, Ang.add, add_mul, sin_add]

theorem trigDeg_zero : trigDeg 0 = Ang.zero := by
  simp [trigDeg, Ang.zero]

theorem nsmul_trigDeg (k : ℕ) (x : ℝ) : Ang.nsmul k (trigDeg x) = trigDeg ((k : ℝ) * x) :=
  (Ang.nsmul_of_add trigDeg_zero trigDeg_add k x).symm

theorem deg_turn (k n : ℝ) : k * (360 / n) * (π / 180) = k / n * (2 * π) := by ring

theorem fullTurn_eq : (Gen.C10.fullTurnDeg : ℝ) = 360 := Nat.cast_ofNat

theorem nsmul_stepAng_real (n k : ℕ) : Ang.nsmul k (stepAng realSvc n) = trigDeg ((k : ℝ) * (360 / (n : ℝ))) := by
  unfold stepAng
  simp only [realSvc, fullTurn_eq]
  exact nsmul_trigDeg k _

/-- the angle `k/n` of a turn lies strictly between 0 and a full turn, where the cosine is not 1 -/
theorem nsmul_stepAng_ne_zero (n k : ℕ) (hk : 0 < k) (hkn : k < n) : Ang.nsmul k (stepAng realSvc n) ≠ Ang.zero := by
  rw [nsmul_stepAng_real]
  intro h
  have hc : cos ((k : ℝ) * (360 / (n : ℝ)) * (π / 180)) = 1 := congrArg Ang.c h
  have hn' : (0 : ℝ) < n := Nat.cast_pos.2 (by omega)
  have h0 : 0 < (k : ℝ) / n * (2 * π) := mul_pos (div_pos (Nat.cast_pos.2 hk) hn') two_pi_pos
  have h1 : (k : ℝ) / n * (2 * π) < 2 * π :=
    mul_lt_of_lt_one_left two_pi_pos ((div_lt_one hn').2 (Nat.cast_lt.2 hkn))
  rw [deg_turn, cos_eq_one_iff_of_lt_of_lt ((neg_lt_zero.2 two_pi_pos).trans h0) h1] at hc
  exact h0.ne' hc

/-- numpy's `sqrt`, `arctan2`, `deg2rad`, `cos`, `sin` on real numbers -/
noncomputable def realPolar : PolarSvc ℝ :=
  { sqrt := Real.sqrt, atan2 := fun y x => Complex.arg ⟨x, y⟩, deg2rad := fun d => d * (π / 180),
    cosr := Real.cos, sinr := Real.sin }

theorem realPolar_exact : PolarExact realSvc realPolar where
  polar_x := RealAngle.sqrt_mul_cos_arg
  polar_y := RealAngle.sqrt_mul_sin_arg
  cos_add_deg a _ := Real.cos_add a _
  sin_add_deg a _ := Real.sin_add a _
  trig_add := trigDeg_add
  trig_zero := trigDeg_zero

theorem realPolar_atan2_range (y x : ℝ) : -π < realPolar.atan2 y x ∧ realPolar.atan2 y x ≤ π :=
  ⟨Complex.neg_pi_lt_arg _, Complex.arg_le_pi _⟩

theorem realPolar_on_axis : realPolar.sqrt (0 * 0 + 0 * 0) = 0 ∧ realPolar.atan2 0 0 = 0 :=
  ⟨by show √(0 * 0 + 0 * 0) = 0; simp, Complex.arg_zero⟩
end real

end CryoCat.C10
