import CryoCat.Lemmas.C07
import Mathlib.Tactic.Ring
import Mathlib.Order.Defs.LinearOrder
/-! C07 — `clean_by_distance` model: group-wise lemmas over any commutative ring with a linear order. -/
set_option linter.unusedSectionVars false
namespace CryoCat.C07
open CryoCat.Gen.C07

variable {α : Type} [CommRing α] [LinearOrder α]

theorem dist2_comm (a b : V3 α) : dist2 a b = dist2 b a := by unfold dist2; ring

theorem nearClean_eq (d : α) (a b : Item α) : nearClean d a b = closer d a b := rfl

theorem closer_symm (d : α) (a b : Item α) : closer d a b = closer d b a := by
  unfold closer; rw [dist2_comm]

theorem sortByScore_perm (kg : Bool) (g : List (Item α)) : (sortByScore kg g).Perm g := by
  unfold sortByScore
  split
  · exact (List.reverse_perm _).trans (List.mergeSort_perm _ _)
  · exact List.mergeSort_perm _ _

theorem mem_sortByScore (kg : Bool) (g : List (Item α)) (a : Item α) : a ∈ sortByScore kg g ↔ a ∈ g :=
  (sortByScore_perm kg g).mem_iff

theorem mergeSort_scoreLe_sorted (g : List (Item α)) : (g.mergeSort scoreLe).Pairwise (fun a b => a.score ≤ b.score) :=
  Lists.pairwise_mergeSort_of_iff scoreLe _ (fun _ _ => decide_eq_true_iff) (fun _ _ _ => le_trans)
    (fun _ _ => le_total _ _) g

theorem sortByScore_sorted (kg : Bool) (g : List (Item α)) :
    (sortByScore kg g).Pairwise (fun a b => betterEq kg a.score b.score = true) := by
  have h := mergeSort_scoreLe_sorted g
  cases kg
  · simp only [sortByScore, cleanSortDescLower, Bool.false_eq_true, if_false]
    exact h.imp (by intro a b hab; simp [betterEq, hab])
  · simp only [sortByScore, cleanSortDescGreater, if_true]
    rw [List.pairwise_reverse]
    exact h.imp (by intro a b hab; simp [betterEq, hab])

section Group
variable (d : α) (kg : Bool) (g : List (Item α))

theorem cleanGroup_sublist : (cleanGroup d kg g).Sublist g := List.filter_sublist

theorem mem_cleanGroup (hN : (g.map (·.idx)).Nodup) (it : Item α) :
    it ∈ cleanGroup d kg g ↔ it ∈ suppress (nearClean d) (sortByScore kg g) := by
  unfold cleanGroup
  simp only [List.mem_filter, List.any_eq_true, beq_iff_eq]
  constructor
  · rintro ⟨hit, k, hk, e⟩
    have hkg : k ∈ g := (mem_sortByScore kg g k).1 ((suppress_sublist _ _).subset hk)
    have : k = it := Lists.eq_of_nodup_map (·.idx) hN hkg hit e
    rw [← this]; exact hk
  · intro h
    exact ⟨(mem_sortByScore kg g it).1 ((suppress_sublist _ _).subset h), it, h, rfl⟩

theorem cleanGroup_separated (hN : (g.map (·.idx)).Nodup) (a b : Item α) (ha : a ∈ cleanGroup d kg g)
    (hb : b ∈ cleanGroup d kg g) (hne : a.idx ≠ b.idx) : closer d a b = false := by
  rw [mem_cleanGroup d kg g hN] at ha hb
  have hp := suppress_separated (nearClean d) (sortByScore kg g)
  exact Lists.pairwise_forall_ne (fun a b => nearClean d a b = false)
    (by intro x y h; rw [nearClean_eq] at h ⊢; rw [closer_symm]; exact h) _ hp a b ha hb
    (by intro e; exact hne (by rw [e]))

theorem cleanGroup_dominated (hN : (g.map (·.idx)).Nodup) (r : Item α) (hr : r ∈ g) :
    r ∈ cleanGroup d kg g ∨
      ∃ k ∈ cleanGroup d kg g, closer d k r = true ∧ betterEq kg k.score r.score = true := by
  have h := suppress_dominated (nearClean d) (fun a b => betterEq kg a.score b.score = true)
    (sortByScore kg g) (sortByScore_sorted kg g) r ((mem_sortByScore kg g r).2 hr)
  rcases h with h | ⟨k, hk, hn, hs⟩
  · exact Or.inl ((mem_cleanGroup d kg g hN r).2 h)
  · exact Or.inr ⟨k, (mem_cleanGroup d kg g hN k).2 hk, hn, hs⟩

end Group

section Items
variable (d : α) (kg : Bool) (items : List (Item α))

theorem nodup_filter_idx (hN : (items.map (·.idx)).Nodup) (p : Item α → Bool) : ((items.filter p).map (·.idx)).Nodup :=
  List.Nodup.sublist (List.filter_sublist.map _) hN

theorem cleanGroup_filter_sub (k : α) (it : Item α)
    (h : it ∈ cleanGroup d kg (items.filter (fun x => decide (x.grp = k)))) : it ∈ items ∧ it.grp = k := by
  have hm := List.mem_filter.1 ((cleanGroup_sublist d kg _).subset h)
  exact ⟨hm.1, of_decide_eq_true hm.2⟩

theorem mem_cleanItems (it : Item α) :
    it ∈ cleanItems d kg items ↔ it ∈ cleanGroup d kg (items.filter (fun x => decide (x.grp = it.grp))) := by
  unfold cleanItems
  simp only [List.mem_flatMap, mem_groupKeys, List.mem_map]
  constructor
  · rintro ⟨k, _, h⟩
    rw [(cleanGroup_filter_sub d kg items k it h).2]; exact h
  · intro h
    exact ⟨it.grp, ⟨it, (cleanGroup_filter_sub d kg items _ it h).1, rfl⟩, h⟩

theorem cleanItems_sub (it : Item α) (h : it ∈ cleanItems d kg items) : it ∈ items :=
  (cleanGroup_filter_sub d kg items _ it ((mem_cleanItems d kg items it).1 h)).1

theorem cleanItems_nil : cleanItems d kg ([] : List (Item α)) = [] := by
  simp [cleanItems, groupKeys, dedup]

theorem filter_cleanItems (k : α) :
    (cleanItems d kg items).filter (fun it => decide (it.grp = k)) =
      if k ∈ groupKeys (items.map (·.grp)) then cleanGroup d kg (items.filter (fun it => decide (it.grp = k))) else [] := by
  unfold cleanItems
  rw [Lists.filter_flatMap_key _ _ _ k (nodup_groupKeys _) fun k' _ hne => List.filter_eq_nil_iff.2 fun it hit e =>
      hne ((cleanGroup_filter_sub d kg items k' it hit).2.symm.trans (of_decide_eq_true e)),
    List.filter_eq_self.2 fun it hit => decide_eq_true (cleanGroup_filter_sub d kg items k it hit).2]

theorem cleanItems_single (k : α) (hne : items ≠ []) (h : ∀ it ∈ items, it.grp = k) :
    cleanItems d kg items = cleanGroup d kg items := by
  obtain ⟨it, hit⟩ := List.exists_mem_of_ne_nil items hne
  have e := filter_cleanItems d kg items k
  rw [if_pos ((mem_groupKeys _ k).2 (List.mem_map.2 ⟨it, hit, h it hit⟩)),
    List.filter_eq_self.2 fun x hx => decide_eq_true (h x hx),
    List.filter_eq_self.2 fun x hx => decide_eq_true (h x (cleanItems_sub d kg items x hx))] at e
  exact e

end Items

theorem itemsOf_nodup {β : Type} [Add β] (feature : Field) (l : List (Particle β)) : ((itemsOf feature l).map (·.idx)).Nodup := by
  unfold itemsOf
  rw [List.map_map]
  have : ((fun (it : Item β) => it.idx) ∘ fun (pi : Particle β × Nat) => (⟨pi.2, pi.1.get feature, pi.1.score, particlePos pi.1⟩ : Item β))
      = Prod.snd := by funext pi; rfl
  rw [this, List.zipIdx_map_snd]
  exact List.nodup_range' (step := 1)

end CryoCat.C07
