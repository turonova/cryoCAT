import CryoCat.Model.C02_Num
import CryoCat.Lemmas.C02_Tokenize
/-! C02 — the decimal token grammar. `NumTok` is the grammar written declaratively (sign, integer digits, fraction, exponent /
a spelling of infinity); `isNumTok` — the recogniser the driver runs — accepts exactly that grammar. Core Lean only. -/
namespace CryoCat.C02
open Text

/-- 0x20 is the blank and 0x85 NEL: all printable ASCII lies strictly between -/
theorem isWs_false_of_ascii {c : Char} (h1 : 0x20 < c.toNat) (h2 : c.toNat < 0x85) : isWs c = false := by
  rw [Bool.eq_false_iff, ne_eq, isWs_iff]
  omega

def AllDigits (d : Word) : Prop := ∀ c ∈ d, isDigit c = true
instance (d : Word) : Decidable (AllDigits d) := by unfold AllDigits; infer_instance

inductive Sign where | none | plus | minus
deriving DecidableEq, Repr

def Sign.text : Sign → Word
  | .none => []
  | .plus => ['+']
  | .minus => ['-']

/-- `[sign] ip [. fp] [e|E [sign] x]` -/
structure Dec where
  sign : Sign
  ip : Word
  frac : Option Word
  exp : Option (Char × Sign × Word)

def fracText : Option Word → Word
  | none => []
  | some fp => '.' :: fp

def expText : Option (Char × Sign × Word) → Word
  | none => []
  | some (c, s, x) => c :: (s.text ++ x)

def Dec.text (d : Dec) : Word := d.sign.text ++ ((d.ip ++ fracText d.frac) ++ expText d.exp)

def Dec.Ok (d : Dec) : Prop :=
  AllDigits d.ip ∧ (∀ fp, d.frac = some fp → AllDigits fp) ∧
  (d.ip ≠ [] ∨ ∃ fp, d.frac = some fp ∧ fp ≠ []) ∧
  (∀ c s x, d.exp = some (c, s, x) → (c = 'e' ∨ c = 'E') ∧ x ≠ [] ∧ AllDigits x)

/-- a decimal literal `[+-]?(d+[.d*]|.d+)([eE][+-]?d+)?` -/
def DecTok (w : Word) : Prop := ∃ d : Dec, d.Ok ∧ w = d.text
/-- `[+-]?(inf|infinity)` in any letter case -/
def InfTok (w : Word) : Prop := ∃ (s : Sign) (b : Word), isInfBody b = true ∧ w = s.text ++ b
def NumTok (w : Word) : Prop := DecTok w ∨ InfTok w

theorem digit_ne {c : Char} (h : isDigit c = true) :
    c ≠ 'e' ∧ c ≠ 'E' ∧ c ≠ '.' ∧ c ≠ '+' ∧ c ≠ '-' :=
  ⟨ne_of_test h rfl, ne_of_test h rfl, ne_of_test h rfl, ne_of_test h rfl, ne_of_test h rfl⟩

theorem notExp_of_digit {c : Char} (h : isDigit c = true) : (c != 'e' && c != 'E') = true := by
  have := digit_ne h
  simp [this.1, this.2.1]

theorem dot_not_digit : isDigit '.' = false := by decide

theorem isDigit_eq (c : Char) : isDigit c = c.isDigit := rfl

theorem natDigits_all (k : Nat) : AllDigits (natDigits k) := fun c hc => isDigit_eq c ▸ isDigit_toDigits k c hc

theorem natDigits_ne (k : Nat) : natDigits k ≠ [] := Nat.toDigits_ne_nil

theorem zeros_all (k : Nat) : AllDigits (zeros k) := by
  intro c hc
  simp only [zeros, List.mem_replicate] at hc
  rw [hc.2]; decide

theorem allDigits_append {a b : Word} (ha : AllDigits a) (hb : AllDigits b) : AllDigits (a ++ b) := by
  intro c hc
  rcases List.mem_append.1 hc with h | h
  · exact ha c h
  · exact hb c h

theorem allDigits_take {a : Word} (k : Nat) (ha : AllDigits a) : AllDigits (a.take k) :=
  fun c hc => ha c (List.mem_of_mem_take hc)

theorem allDigits_drop {a : Word} (k : Nat) (ha : AllDigits a) : AllDigits (a.drop k) :=
  fun c hc => ha c (List.mem_of_mem_drop hc)

theorem all_of_allDigits {a : Word} (ha : AllDigits a) : a.all isDigit = true := List.all_eq_true.2 ha

theorem allDigits_of_all {a : Word} (ha : a.all isDigit = true) : AllDigits a := List.all_eq_true.1 ha

theorem not_sign {c : Char} (h : isDigit c = true ∨ c = '.') : c ≠ '+' ∧ c ≠ '-' := by
  rcases h with h | rfl
  · exact ⟨(digit_ne h).2.2.2.1, (digit_ne h).2.2.2.2⟩
  · decide

theorem dropSign_text (s : Sign) (c : Char) (r : Word) (h : c ≠ '+' ∧ c ≠ '-') : dropSign (s.text ++ c :: r) = c :: r := by
  cases s
  · show dropSign (c :: r) = c :: r
    unfold dropSign
    split
    · rename_i heq; cases heq; exact absurd rfl h.1
    · rename_i heq; cases heq; exact absurd rfl h.2
    · rfl
  · rfl
  · rfl

theorem dropSign_spec (w : Word) : ∃ s : Sign, w = s.text ++ dropSign w := by
  unfold dropSign
  split
  · exact ⟨.plus, rfl⟩
  · exact ⟨.minus, rfl⟩
  · exact ⟨.none, rfl⟩

theorem mantissa_cut (ip : Word) (frac : Option Word) (hip : AllDigits ip) :
    (ip ++ fracText frac).takeWhile isDigit = ip ∧ (ip ++ fracText frac).dropWhile isDigit = fracText frac :=
  span_run hip (by
    cases frac with
    | none => exact stops_nil
    | some fp => exact stops_cons dot_not_digit fp)

theorem isMantissa_build (ip : Word) (frac : Option Word) (hip : AllDigits ip)
    (hfp : ∀ fp, frac = some fp → AllDigits fp) (hne : ip ≠ [] ∨ ∃ fp, frac = some fp ∧ fp ≠ []) :
    isMantissa (ip ++ fracText frac) = true := by
  have hs := mantissa_cut ip frac hip
  unfold isMantissa
  simp only [hs.1, hs.2]
  cases frac with
  | none =>
    rcases hne with h | ⟨fp, h, _⟩
    · simpa [fracText, List.isEmpty_iff] using h
    · cases h
  | some fp =>
    have h1 := all_of_allDigits (hfp fp rfl)
    simp only [fracText, h1, Bool.true_and]
    rcases hne with h | ⟨fp', h, h'⟩
    · simp [h]
    · cases h; simp [h']

theorem isMantissa_parts (m : Word) (h : isMantissa m = true) :
    ∃ ip frac, m = ip ++ fracText frac ∧ AllDigits ip ∧ (∀ fp, frac = some fp → AllDigits fp) ∧
      (ip ≠ [] ∨ ∃ fp, frac = some fp ∧ fp ≠ []) := by
  have hm : m.takeWhile isDigit ++ m.dropWhile isDigit = m := List.takeWhile_append_dropWhile
  have hip : AllDigits (m.takeWhile isDigit) := List.all_eq_true.1 List.all_takeWhile
  unfold isMantissa at h
  cases hd : m.dropWhile isDigit with
  | nil =>
    simp only [hd] at h
    refine ⟨m.takeWhile isDigit, none, by simpa [fracText, hd] using hm.symm, hip, by simp, Or.inl ?_⟩
    simpa [List.isEmpty_iff] using h
  | cons c fp =>
    simp only [hd] at h
    split at h
    · rename_i heq; cases heq
    · rename_i fp' heq
      cases heq
      simp only [Bool.and_eq_true, Bool.or_eq_true, Bool.not_eq_eq_eq_not, Bool.not_true, List.isEmpty_eq_false_iff] at h
      refine ⟨m.takeWhile isDigit, some fp, by simpa [fracText, hd] using hm.symm, hip, ?_, ?_⟩
      · intro fp' e; cases e; exact allDigits_of_all h.1
      · rcases h.2 with h2 | h2
        · exact Or.inl h2
        · exact Or.inr ⟨fp, rfl, h2⟩
    · simp at h

theorem mantissa_head (ip : Word) (frac : Option Word) (hip : AllDigits ip)
    (hne : ip ≠ [] ∨ ∃ fp, frac = some fp ∧ fp ≠ []) (rest : Word) :
    ∃ c r, (ip ++ fracText frac) ++ rest = c :: r ∧ (isDigit c = true ∨ c = '.') := by
  cases ip with
  | cons c ip' => exact ⟨c, _, rfl, Or.inl (hip c (by simp))⟩
  | nil =>
    rcases hne with h | ⟨fp, h, _⟩
    · exact absurd rfl h
    · subst h; exact ⟨'.', _, rfl, Or.inr rfl⟩

theorem mantissa_notExp (ip : Word) (frac : Option Word) (hip : AllDigits ip) (hfp : ∀ fp, frac = some fp → AllDigits fp) :
    ∀ c ∈ ip ++ fracText frac, (c != 'e' && c != 'E') = true := by
  intro c hc
  rcases List.mem_append.1 hc with h | h
  · exact notExp_of_digit (hip c h)
  · cases frac with
    | none => simp [fracText] at h
    | some fp =>
      simp only [fracText, List.mem_cons] at h
      rcases h with rfl | h
      · decide
      · exact notExp_of_digit (hfp fp rfl c h)

theorem dec_cut (d : Dec) (h : d.Ok) :
    dropSign d.text = (d.ip ++ fracText d.frac) ++ expText d.exp ∧
    ((d.ip ++ fracText d.frac) ++ expText d.exp).takeWhile (fun c => c != 'e' && c != 'E') = d.ip ++ fracText d.frac ∧
    ((d.ip ++ fracText d.frac) ++ expText d.exp).dropWhile (fun c => c != 'e' && c != 'E') = expText d.exp := by
  obtain ⟨hip, hfp, hne, hexp⟩ := h
  obtain ⟨c, r, hcr, hc⟩ := mantissa_head d.ip d.frac hip hne (expText d.exp)
  refine ⟨by unfold Dec.text; rw [hcr]; exact dropSign_text d.sign c r (not_sign hc),
    span_run (mantissa_notExp d.ip d.frac hip hfp) ?_⟩
  cases he : d.exp with
  | none => exact stops_nil
  | some t =>
    obtain ⟨c, s, x⟩ := t
    refine stops_cons ?_ (s.text ++ x)
    rcases (hexp c s x he).1 with rfl | rfl <;> decide

theorem isDecTok_of_dec (d : Dec) (h : d.Ok) : isDecTok d.text = true := by
  obtain ⟨hu, hs⟩ := dec_cut d h
  obtain ⟨hip, hfp, hne, hexp⟩ := h
  have hm := isMantissa_build d.ip d.frac hip hfp hne
  unfold isDecTok
  simp only [hu, hs.1, hs.2]
  cases he : d.exp with
  | none => simpa [expText] using hm
  | some t =>
    obtain ⟨c, s, x⟩ := t
    obtain ⟨_, hx, hxd⟩ := hexp c s x he
    simp only [expText, hm, Bool.true_and]
    obtain ⟨c', x', rfl⟩ := List.exists_cons_of_ne_nil hx
    rw [dropSign_text s c' x' (not_sign (Or.inl (hxd c' (by simp))))]
    simp only [allDigits, List.isEmpty_cons, Bool.not_false, Bool.true_and]
    exact all_of_allDigits hxd

theorem dec_of_isDecTok (w : Word) (h : isDecTok w = true) : DecTok w := by
  obtain ⟨s, hs⟩ := dropSign_spec w
  have hu : (dropSign w).takeWhile (fun c => c != 'e' && c != 'E') ++ (dropSign w).dropWhile (fun c => c != 'e' && c != 'E') = dropSign w :=
    List.takeWhile_append_dropWhile
  unfold isDecTok at h
  cases hd : (dropSign w).dropWhile (fun c => c != 'e' && c != 'E') with
  | nil =>
    simp only [hd] at h
    obtain ⟨ip, frac, hm, hip, hfp, hne⟩ := isMantissa_parts _ h
    refine ⟨⟨s, ip, frac, none⟩, ⟨hip, hfp, hne, by intro c s x e; cases e⟩, ?_⟩
    rw [hd, List.append_nil] at hu
    rw [hs, ← hu, hm]; simp [Dec.text, expText]
  | cons c ex =>
    simp only [hd, Bool.and_eq_true] at h
    obtain ⟨ip, frac, hm, hip, hfp, hne⟩ := isMantissa_parts _ h.1
    have hc : c = 'e' ∨ c = 'E' := by
      have := stops_dropWhile (p := fun c => c != 'e' && c != 'E') (dropSign w) c (congrArg List.head? hd)
      simp only [Bool.and_eq_false_iff, bne_eq_false_iff_eq] at this
      exact this
    obtain ⟨s', hs'⟩ := dropSign_spec ex
    have hx := h.2
    simp only [allDigits, Bool.and_eq_true, Bool.not_eq_eq_eq_not, Bool.not_true, List.isEmpty_eq_false_iff] at hx
    refine ⟨⟨s, ip, frac, some (c, s', dropSign ex)⟩, ⟨hip, hfp, hne, ?_⟩, ?_⟩
    · intro c' s'' x e; cases e; exact ⟨hc, hx.1, allDigits_of_all hx.2⟩
    · rw [hd] at hu
      rw [hs, ← hu, hm]
      simp only [Dec.text, expText]
      rw [← hs']

theorem isDecTok_iff (w : Word) : isDecTok w = true ↔ DecTok w :=
  ⟨dec_of_isDecTok w, fun ⟨d, hd, hw⟩ => hw ▸ isDecTok_of_dec d hd⟩

theorem matchCI_ne_nil : ∀ (w : Word) (pat : List (Char × Char)), pat ≠ [] → matchCI w pat = true → w ≠ []
  | [], [], h, _ => absurd rfl h
  | [], _ :: _, _, h => by simp [matchCI] at h
  | _ :: _, _, _, _ => by simp

theorem matchCI_mem : ∀ (w : Word) (pat : List (Char × Char)), matchCI w pat = true →
    ∀ c ∈ w, ∃ p ∈ pat, c = p.1 ∨ c = p.2
  | [], _, _, c, hc => by simp at hc
  | _ :: _, [], h, _, _ => by simp [matchCI] at h
  | a :: w, p :: ps, h, c, hc => by
    simp only [matchCI, Bool.and_eq_true, Bool.or_eq_true, beq_iff_eq] at h
    simp only [List.mem_cons] at hc
    rcases hc with rfl | hc
    · exact ⟨p, by simp, h.1⟩
    · obtain ⟨q, hq, hcq⟩ := matchCI_mem w ps h.2 c hc
      exact ⟨q, by simp [hq], hcq⟩

def infLetter (c : Char) : Bool :=
  c == 'i' || c == 'I' || c == 'n' || c == 'N' || c == 'f' || c == 'F' || c == 't' || c == 'T' || c == 'y' || c == 'Y'

theorem infBody_letters (b : Word) (h : isInfBody b = true) : b ≠ [] ∧ ∀ c ∈ b, infLetter c = true := by
  have key : ∀ p ∈ infinityPat, infLetter p.1 = true ∧ infLetter p.2 = true := by decide
  -- `b` spells one of the two patterns; the shorter one is the beginning of the longer one
  obtain ⟨pat, hne, hsub, hm⟩ : ∃ pat, pat ≠ [] ∧ (∀ p ∈ pat, p ∈ infinityPat) ∧ matchCI b pat = true := by
    rcases Bool.or_eq_true_iff.1 h with h | h
    · exact ⟨infPat, by decide, fun p hp => List.mem_append_left _ hp, h⟩
    · exact ⟨infinityPat, by decide, fun p hp => hp, h⟩
  refine ⟨matchCI_ne_nil b _ hne hm, fun c hc => ?_⟩
  obtain ⟨p, hp, hcp⟩ := matchCI_mem b _ hm c hc
  rcases hcp with rfl | rfl
  · exact (key p (hsub p hp)).1
  · exact (key p (hsub p hp)).2

theorem infLetter_not_sign {c : Char} (h : infLetter c = true) : c ≠ '+' ∧ c ≠ '-' :=
  ⟨ne_of_test h rfl, ne_of_test h rfl⟩

theorem isInfTok_iff (w : Word) : isInfTok w = true ↔ InfTok w := by
  constructor
  · intro h
    obtain ⟨s, hs⟩ := dropSign_spec w
    exact ⟨s, dropSign w, h, hs⟩
  · rintro ⟨s, b, hb, rfl⟩
    obtain ⟨hne, hl⟩ := infBody_letters b hb
    obtain ⟨c, r, rfl⟩ := List.exists_cons_of_ne_nil hne
    unfold isInfTok
    rw [dropSign_text s c r (infLetter_not_sign (hl c (by simp)))]; exact hb

theorem isNumTok_iff (w : Word) : isNumTok w = true ↔ NumTok w := by
  unfold isNumTok NumTok
  rw [Bool.or_eq_true, isDecTok_iff, isInfTok_iff]

end CryoCat.C02
