import CryoCat.Props.C07
#print axioms CryoCat.C07.anchors_ok
#print axioms CryoCat.C07.clean_operators_documented
#print axioms CryoCat.C07.clean_keep_mask_documented
#print axioms CryoCat.C07.defaults_documented
#print axioms CryoCat.C07.body_clean_by_distance_documented
#print axioms CryoCat.C07.body_get_motl_subset_documented
#print axioms CryoCat.C07.body_get_coordinates_documented
#print axioms CryoCat.C07.body_point_pairwise_dist_documented
#print axioms CryoCat.C07.body_scores_extract_particles_documented
#print axioms CryoCat.C07.body_rot_angles_load_documented
#print axioms CryoCat.C07.body_cryomap_read_documented
#print axioms CryoCat.C07.body_motl_init_documented
#print axioms CryoCat.C07.body_check_df_correct_format_documented
#print axioms CryoCat.C07.body_motl_fill_documented
#print axioms CryoCat.C07.body_get_feature_documented
#print axioms CryoCat.C07.body_create_empty_motl_df_documented
#print axioms CryoCat.C07.bodies_documented
#print axioms CryoCat.C07.read_documented
#print axioms CryoCat.C07.position_documented
#print axioms CryoCat.C07.peak_operators_documented
#print axioms CryoCat.C07.peak_threshold_double_documented
#print axioms CryoCat.C07.peak_fill_documented
#print axioms CryoCat.C07.zzx_documented
#print axioms CryoCat.C07.greedy_sublist
#print axioms CryoCat.C07.greedy_separated
#print axioms CryoCat.C07.greedy_dominated
#print axioms CryoCat.C07.suppress_fold_of_separated
#print axioms CryoCat.C07.greedy_fixed_of_separated
#print axioms CryoCat.C07.greedy_idempotent
#print axioms CryoCat.C07.betterEq_iff
#print axioms CryoCat.C07.clean_separated
#print axioms CryoCat.C07.clean_dominated
#print axioms CryoCat.C07.clean_groups_independent
#print axioms CryoCat.C07.clean_remaining
#print axioms CryoCat.C07.cleanByDistance_spec
#print axioms CryoCat.C07.checkCleanR_eq_core_and_order
#print axioms CryoCat.C07.checkCleanR_core
#print axioms CryoCat.C07.checkCleanCoreR_iff
#print axioms CryoCat.C07.checkCleanCore_iff
#print axioms CryoCat.C07.checkCleanCoreLe_iff
#print axioms CryoCat.C07.groupsInOrder_iff
#print axioms CryoCat.C07.checkClean_iff
#print axioms CryoCat.C07.clean_nodup
#print axioms CryoCat.C07.checkClean_accepts_model
#print axioms CryoCat.C07.checkClean_accepts_cleanByDistance
#print axioms CryoCat.C07.checkClean_sound
#print axioms CryoCat.C07.checkClean_rejects_duplicate
#print axioms CryoCat.C07.checkCleanLe_sound
#print axioms CryoCat.C07.checkCleanR_congr
#print axioms CryoCat.C07.checkClean_eq_checkCleanLe_of_no_tie
#print axioms CryoCat.C07.restrict_subset
#print axioms CryoCat.C07.dominated_restrict
#print axioms CryoCat.C07.spec_iff_groups
#print axioms CryoCat.C07.groupwise_iff
#print axioms CryoCat.C07.checkIndependent_iff
#print axioms CryoCat.C07.checkIndependentCore_iff
#print axioms CryoCat.C07.checkIndependent_sound
#print axioms CryoCat.C07.checkIndependentCore_sound
#print axioms CryoCat.C07.checkIndependentCore_of_core
#print axioms CryoCat.C07.checkIndependent_core
#print axioms CryoCat.C07.checkIndependentCoreLe_sound
#print axioms CryoCat.C07.checkIndependentLe_sound
#print axioms CryoCat.C07.checkIndependentCore_spec
#print axioms CryoCat.C07.clean_single_group
#print axioms CryoCat.C07.peaks_carry
#print axioms CryoCat.C07.peaks_above_threshold
#print axioms CryoCat.C07.peaks_separated
#print axioms CryoCat.C07.PeaksPairwiseFar.far
#print axioms CryoCat.C07.peaks_far
#print axioms CryoCat.C07.peaks_cover
#print axioms CryoCat.C07.peakOf_below_numbering
#print axioms CryoCat.C07.peaks_none_iff
#print axioms CryoCat.C07.extractPeaks_reads_maps
#print axioms CryoCat.C07.extractPeaks_covers_map
#print axioms CryoCat.C07.checkPeaks_iff
#print axioms CryoCat.C07.checkPeaks_sound
#print axioms CryoCat.C07.checkPeaks_rejects_duplicate
#print axioms CryoCat.C07.checkPeaks_accepts_model
#print axioms CryoCat.C07.zzx_list_unpermuted_counterexample
