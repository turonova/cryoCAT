import CryoCat.Props.C06
#print axioms CryoCat.C06.anchors_ok
#print axioms CryoCat.C06.ang_expr_documented
#print axioms CryoCat.C06.cone_expr_documented
#print axioms CryoCat.C06.inplane_expr_documented
#print axioms CryoCat.C06.normals_expr_documented
#print axioms CryoCat.C06.n2e_expr_documented
#print axioms CryoCat.C06.compare_expr_documented
#print axioms CryoCat.C06.compare_branches_documented
#print axioms CryoCat.C06.n2e_orders_documented
#print axioms CryoCat.C06.defaults_documented
#print axioms CryoCat.C06.compareRotations_all
#print axioms CryoCat.C06.compareRotations_single
#print axioms CryoCat.C06.compareRotations_unsupported
#print axioms CryoCat.C06.n2eColumns_spec
#print axioms CryoCat.C06.qdot_comm
#print axioms CryoCat.C06.qdot_mul_left
#print axioms CryoCat.C06.qdot_mul_right
#print axioms CryoCat.C06.toM3_mul
#print axioms CryoCat.C06.toM3_orth
#print axioms CryoCat.C06.toM3_qzxz
#print axioms CryoCat.C06.trace_rel
#print axioms CryoCat.C06.toM3_eq_iff
#print axioms CryoCat.C06.absDot_clamp
#print axioms CryoCat.C06.angDistBatch_spec
#print axioms CryoCat.C06.angDist_range
#print axioms CryoCat.C06.angDist_symm
#print axioms CryoCat.C06.angDist_eq_zero_iff
#print axioms CryoCat.C06.angDist_left_invariant
#print axioms CryoCat.C06.angDist_right_invariant
#print axioms CryoCat.C06.angDist_triangle
#print axioms CryoCat.C06.angDist_is_rotation_angle
#print axioms CryoCat.C06.angDistAsIs_eq
#print axioms CryoCat.C06.coneCos_eq_dot
#print axioms CryoCat.C06.coneDist_eq_angle
#print axioms CryoCat.C06.coneDist_range
#print axioms CryoCat.C06.coneDist_symm
#print axioms CryoCat.C06.coneDist_self
#print axioms CryoCat.C06.inplane_range
#print axioms CryoCat.C06.inplane_self
#print axioms CryoCat.C06.inplane_symm
#print axioms CryoCat.C06.inplane_wrap
#print axioms CryoCat.C06.inplane_le_of_close
#print axioms CryoCat.C06.normals_one_per_orientation
#print axioms CryoCat.C06.normals_rowwise_unit
#print axioms CryoCat.C06.zaxis_unit
#print axioms CryoCat.C06.normals_rowwise_is_zaxis
#print axioms CryoCat.C06.normals_asis_not_unit
#print axioms CryoCat.C06.n2e_zaxis
#print axioms CryoCat.C06.n2e_scale_invariant
#print axioms CryoCat.C06.checkMetric_components
#print axioms CryoCat.C06.checkMetric_sound
#print axioms CryoCat.C06.toM3_qzxz_real
#print axioms CryoCat.C06.real_sqrtSpec
#print axioms CryoCat.C06.n2eAngles_cos_sin
#print axioms CryoCat.C06.n2e_asis_counterexample
#print axioms CryoCat.C06.angDistE_eq
#print axioms CryoCat.C06.dist2E_eq
#print axioms CryoCat.C06.normaliseBy_row
#print axioms CryoCat.C06.n2eBatchE_eq
#print axioms CryoCat.C06.inputConversion_spec
#print axioms CryoCat.C06.n2e_k1_overflow_witness
#print axioms CryoCat.C06.n2e_k1_underflow_witness
