import CryoCat.Props.C17
#print axioms CryoCat.C17.anchors_ok
#print axioms CryoCat.C17.section_prefixes_documented
#print axioms CryoCat.C17.write_formats_documented
#print axioms CryoCat.C17.write_filter_documented
#print axioms CryoCat.C17.write_skips_nan_documented
#print axioms CryoCat.C17.row_frames_object_documented
#print axioms CryoCat.C17.sort_key_documented
#print axioms CryoCat.C17.dose_keys_documented
#print axioms CryoCat.C17.defocus_constants_documented
#print axioms CryoCat.C17.wedge_columns_documented
#print axioms CryoCat.C17.wedge_written_last_documented
#print axioms CryoCat.C17.mdoc_open_documented
#print axioms CryoCat.C17.sort_perm
#print axioms CryoCat.C17.reset_key_documented
#print axioms CryoCat.C17.reset_hits_section
#print axioms CryoCat.C17.sort_keeps_info
#print axioms CryoCat.C17.sort_keeps_header
#print axioms CryoCat.C17.sort_reset_foreign_adds_entry
#print axioms CryoCat.C17.keyLe_sortAscending
#print axioms CryoCat.C17.sort_sorted
#print axioms CryoCat.C17.sorted_perm_unique_up_to_ties
#print axioms CryoCat.C17.renumber_cells
#print axioms CryoCat.C17.finishSort_rows
#print axioms CryoCat.C17.sortByTiltAs_some
#print axioms CryoCat.C17.sort_as_spec
#print axioms CryoCat.C17.sort_as_none
#print axioms CryoCat.C17.sort_reset_cells
#print axioms CryoCat.C17.kept_index_mapping
#print axioms CryoCat.C17.remove_flags_only
#print axioms CryoCat.C17.targets_spec
#print axioms CryoCat.C17.filter_written_false
#print axioms CryoCat.C17.write_all
#print axioms CryoCat.C17.write_omits_removed
#print axioms CryoCat.C17.tlt_perm
#print axioms CryoCat.C17.tlt_sorted
#print axioms CryoCat.C17.dose_file_order
#print axioms CryoCat.C17.defocus_units
#print axioms CryoCat.C17.gctf_rows
#print axioms CryoCat.C17.ctffind_rows
#print axioms CryoCat.C17.wedge_single_rows
#print axioms CryoCat.C17.wedge_single_optional
#print axioms CryoCat.C17.wedge_rows
#print axioms CryoCat.C17.wedge_header_full
#print axioms CryoCat.C17.wedge_em_minmax
#print axioms CryoCat.C17.colIdx_spec
#print axioms CryoCat.C17.mdoc_dose
#print axioms CryoCat.C17.mdoc_tilts_sorted
#print axioms CryoCat.C17.stable_of_plain
#print axioms CryoCat.C17.tilt_cell_roundtrip
#print axioms CryoCat.C17.unstable_class_reads_as_text
#print axioms CryoCat.C17.small_float_not_stable
#print axioms CryoCat.C17.kv_line_roundtrip
#print axioms CryoCat.C17.mdoc_roundtrip
#print axioms CryoCat.C17.mdoc_roundtrip_all
#print axioms CryoCat.C17.written_file_has_kept_images
#print axioms CryoCat.C17.wfb_m₀
#print axioms CryoCat.C17.read_write_read
#print axioms CryoCat.C17.text_class_exact
#print axioms CryoCat.C17.parse_wf
#print axioms CryoCat.C17.read_write_read_text
#print axioms CryoCat.C17.write_read_write_text
#print axioms CryoCat.C17.text_ops_write_read
#print axioms CryoCat.C17.typed_value_stable
#print axioms CryoCat.C17.wedge_star_documented
#print axioms CryoCat.C17.wedge_table_columns
#print axioms CryoCat.C17.wedge_table_rows
#print axioms CryoCat.C17.wedge_via_file
#print axioms CryoCat.C17.sg_to_em_groups
#print axioms CryoCat.C17.sg_to_em_via_file
#print axioms CryoCat.C17.parse_print_decimal
#print axioms CryoCat.C17.loader_dispatch_documented
#print axioms CryoCat.C17.mdoc_extension
#print axioms CryoCat.C17.default_extension
#print axioms CryoCat.C17.tlt_array_as_given
#print axioms CryoCat.C17.tlt_file_sorted
#print axioms CryoCat.C17.tlt_file_reader
#print axioms CryoCat.C17.dose_input_dispatch
#print axioms CryoCat.C17.defocus_input_dispatch
#print axioms CryoCat.C17.defocus_array_rows
#print axioms CryoCat.C17.one_value_dtype_documented
#print axioms CryoCat.C17.gctf_columns_documented
#print axioms CryoCat.C17.indices_load_documented
#print axioms CryoCat.C17.defaults_documented
#print axioms CryoCat.C17.body_digests_documented
#print axioms CryoCat.C17.parse_ext_conservative
#print axioms CryoCat.C17.read_write_read_text_driver
#print axioms CryoCat.C17.k1_roundtrip_counterexample
#print axioms CryoCat.C17.all_removed_unreadable
#print axioms CryoCat.C17.indices_load_spec
#print axioms CryoCat.C17.remove_script_spec
#print axioms CryoCat.C17.gctf_column_order_irrelevant
#print axioms CryoCat.C17.gctf_without_phase_shift
#print axioms CryoCat.C17.wedge_single_code_spec
#print axioms CryoCat.C17.wedge_batch_code_spec
