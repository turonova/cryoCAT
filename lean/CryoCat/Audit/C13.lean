import CryoCat.Props.C13
#print axioms CryoCat.C13.anchors_ok
#print axioms CryoCat.C13.blur_factor_documented
#print axioms CryoCat.C13.mask_expansion_default
#print axioms CryoCat.C13.preprocess_documented
#print axioms CryoCat.C13.sphere_source_documented
#print axioms CryoCat.C13.cylinder_source_documented
#print axioms CryoCat.C13.ellipsoid_source_documented
#print axioms CryoCat.C13.shell_source_documented
#print axioms CryoCat.C13.format_source_documented
#print axioms CryoCat.C13.algebra_source_documented
#print axioms CryoCat.C13.writeout_source_documented
#print axioms CryoCat.C13.gaussian_source_documented
#print axioms CryoCat.C13.generator_source_documented
#print axioms CryoCat.C13.defaults_documented
#print axioms CryoCat.C13.labels_documented
#print axioms CryoCat.C13.mask_layout
#print axioms CryoCat.C13.voxel_sphere
#print axioms CryoCat.C13.sphere_exact
#print axioms CryoCat.C13.sphere_array_exact
#print axioms CryoCat.C13.sphere_exact_sqrt
#print axioms CryoCat.C13.preprocess_outwards_eq
#print axioms CryoCat.C13.le_preprocess_outwards
#print axioms CryoCat.C13.sphere_radius_hard
#print axioms CryoCat.C13.sphere_radius_outwards
#print axioms CryoCat.C13.sphere_radius_default
#print axioms CryoCat.C13.voxel_cylinder
#print axioms CryoCat.C13.cylinder_exact
#print axioms CryoCat.C13.cylinder_half_height_hard
#print axioms CryoCat.C13.cylinder_half_height_outwards
#print axioms CryoCat.C13.half_height_of_fractional
#print axioms CryoCat.C13.cylinder_radius_hard
#print axioms CryoCat.C13.ellipsoid_exact_even
#print axioms CryoCat.C13.ellipsoid_mask_exact
#print axioms CryoCat.C13.ellipsoid_integer_form
#print axioms CryoCat.C13.ellipsoid_even_integer_form
#print axioms CryoCat.C13.sphere_shell_exact
#print axioms CryoCat.C13.sphere_shell_analytic
#print axioms CryoCat.C13.ellipsoid_shell_exact
#print axioms CryoCat.C13.ellipsoid_fractional_radii_truncated
#print axioms CryoCat.C13.generate_box_size
#print axioms CryoCat.C13.generate_sphere
#print axioms CryoCat.C13.generate_cylinder
#print axioms CryoCat.C13.generate_ellipsoid
#print axioms CryoCat.C13.generate_sphere_shell
#print axioms CryoCat.C13.generate_ellipsoid_shell
#print axioms CryoCat.C13.generate_sphere_exact
#print axioms CryoCat.C13.generate_cylinder_exact
#print axioms CryoCat.C13.generate_ellipsoid_exact
#print axioms CryoCat.C13.generate_sphere_shell_exact
#print axioms CryoCat.C13.generate_ellipsoid_shell_exact
#print axioms CryoCat.C13.parse_format
#print axioms CryoCat.C13.generate_from_name
#print axioms CryoCat.C13.sphere_defined_iff
#print axioms CryoCat.C13.sphere_negative_centre_wraps
#print axioms CryoCat.C13.clip_range
#print axioms CryoCat.C13.algebra_voxel_range
#print axioms CryoCat.C13.union_is_or
#print axioms CryoCat.C13.intersection_is_and
#print axioms CryoCat.C13.subtraction_is_andnot
#print axioms CryoCat.C13.difference_is_or_andnot_and
#print axioms CryoCat.C13.difference_is_xor
#print axioms CryoCat.C13.accumulate_clip_voxelwise
#print axioms CryoCat.C13.union_voxelwise
#print axioms CryoCat.C13.intersection_voxelwise
#print axioms CryoCat.C13.subtraction_voxelwise
#print axioms CryoCat.C13.difference_voxelwise
#print axioms CryoCat.C13.inDomain_iff
#print axioms CryoCat.C13.union_accepts_iff
#print axioms CryoCat.C13.xorAll_pair
#print axioms CryoCat.C13.specVox_documented
#print axioms CryoCat.C13.b2r_injective
#print axioms CryoCat.C13.difference_eq_xor_iff
#print axioms CryoCat.C13.difference_meets_spec_two
#print axioms CryoCat.C13.difference_single_is_empty
#print axioms CryoCat.C13.difference_not_xor_of_three
#print axioms CryoCat.C13.difference_xor_reading_fails
#print axioms CryoCat.C13.algebra_empty_rejected
#print axioms CryoCat.C13.soft_range
#print axioms CryoCat.C13.soft_core_deficit
#print axioms CryoCat.C13.outwards_sphere_contains_core_neighbourhood
#print axioms CryoCat.C13.outwards_cylinder_contains_core_neighbourhood
#print axioms CryoCat.C13.coreTol_documented
#print axioms CryoCat.C13.kernel_radius_examples
#print axioms CryoCat.C13.w3_nonneg
#print axioms CryoCat.C13.blur_range
#print axioms CryoCat.C13.blur_core_deficit
#print axioms CryoCat.C13.blur_deficit_ge
#print axioms CryoCat.C13.normalised_weights
#print axioms CryoCat.C13.kernel_total_weight
#print axioms CryoCat.C13.b2i_cast_mem
#print axioms CryoCat.C13.blur_core_of_neighbourhood
#print axioms CryoCat.C13.realW_is_model
#print axioms CryoCat.C13.gaussian_kernel_weights
#print axioms CryoCat.C13.gaussian_kernel_tail
#print axioms CryoCat.C13.soft_gaussian_range
#print axioms CryoCat.C13.gaussian_core_of_neighbourhood
#print axioms CryoCat.C13.soft_sphere_core_gaussian_default
#print axioms CryoCat.C13.soft_sphere_core_gaussian
#print axioms CryoCat.C13.soft_cylinder_core_gaussian_default
#print axioms CryoCat.C13.soft_cylinder_core_gaussian
#print axioms CryoCat.C13.ellipsoid_outwards_not_dilation
#print axioms CryoCat.C13.ellipsoid_outwards_core_deficit
