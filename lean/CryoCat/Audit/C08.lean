import CryoCat.Props.C08
#print axioms CryoCat.C08.anchors_ok
#print axioms CryoCat.C08.columns_documented
#print axioms CryoCat.C08.format_check_is_permutation
#print axioms CryoCat.C08.subset_operator
#print axioms CryoCat.C08.remove_operator
#print axioms CryoCat.C08.remove_loop_documented
#print axioms CryoCat.C08.split_operator
#print axioms CryoCat.C08.intersection_operator
#print axioms CryoCat.C08.dropdup_documented
#print axioms CryoCat.C08.merge_documented
#print axioms CryoCat.C08.signatures_documented
#print axioms CryoCat.C08.bodies_documented
#print axioms CryoCat.C08.body_Motl_init_documented
#print axioms CryoCat.C08.body_Motl_create_empty_motl_df_documented
#print axioms CryoCat.C08.body_Motl_check_df_correct_format_documented
#print axioms CryoCat.C08.body_Motl_check_df_type_documented
#print axioms CryoCat.C08.body_Motl_load_documented
#print axioms CryoCat.C08.body_Motl_get_unique_values_documented
#print axioms CryoCat.C08.body_Motl_get_motl_subset_documented
#print axioms CryoCat.C08.body_Motl_remove_feature_documented
#print axioms CryoCat.C08.body_Motl_split_by_feature_documented
#print axioms CryoCat.C08.body_Motl_get_motl_intersection_documented
#print axioms CryoCat.C08.body_Motl_drop_duplicates_documented
#print axioms CryoCat.C08.body_Motl_merge_and_renumber_documented
#print axioms CryoCat.C08.body_Motl_merge_and_drop_duplicates_documented
#print axioms CryoCat.C08.body_Motl_renumber_particles_documented
#print axioms CryoCat.C08.body_Motl_renumber_objects_sequentially_documented
#print axioms CryoCat.C08.body_EmMotl_init_documented
#print axioms CryoCat.C08.no_subclass_overrides
#print axioms CryoCat.C08.subclass_constructors_documented
#print axioms CryoCat.C08.subclasses_documented
#print axioms CryoCat.C08.renumber_particles_documented
#print axioms CryoCat.C08.renumber_objects_documented
#print axioms CryoCat.C08.objKeysCfg_eq
#print axioms CryoCat.C08.dd_default_fields
#print axioms CryoCat.C08.subset_spec_beq
#print axioms CryoCat.C08.remove_spec_beq
#print axioms CryoCat.C08.split_drops_irreflexive_rows
#print axioms CryoCat.C08.renumberObjects_irreflexive_rows
#print axioms CryoCat.C08.subset_spec
#print axioms CryoCat.C08.mem_subset
#print axioms CryoCat.C08.subset_eq_stable_sort
#print axioms CryoCat.C08.subset_perm
#print axioms CryoCat.C08.remove_spec
#print axioms CryoCat.C08.remove_subset_complement
#print axioms CryoCat.C08.remove_subset_disjoint
#print axioms CryoCat.C08.split_spec
#print axioms CryoCat.C08.split_flatten_eq_stable_sort
#print axioms CryoCat.C08.split_partition
#print axioms CryoCat.C08.split_disjoint
#print axioms CryoCat.C08.split_parts_nonempty
#print axioms CryoCat.C08.split_part_sublist
#print axioms CryoCat.C08.intersect_spec
#print axioms CryoCat.C08.intersect_spec_ids
#print axioms CryoCat.C08.intersect_spec_no_missing
#print axioms CryoCat.C08.dropDup_spec
#print axioms CryoCat.C08.dropDup_sorted
#print axioms CryoCat.C08.renumberParticles_spec
#print axioms CryoCat.C08.mergeRenumber_ids
#print axioms CryoCat.C08.mergeRenumber_objects
#print axioms CryoCat.C08.shiftObj_grouping
#print axioms CryoCat.C08.mergeDropDup_spec
#print axioms CryoCat.C08.renumberObjects_spec
#print axioms CryoCat.C08.renumberObjects_eq_map_newObjId
#print axioms CryoCat.C08.renumberObjects_tomo_blocks
#print axioms CryoCat.C08.renumberObjects_others
#print axioms CryoCat.C08.subset_ok
#print axioms CryoCat.C08.remove_ok
#print axioms CryoCat.C08.split_ok
#print axioms CryoCat.C08.intersect_ok
#print axioms CryoCat.C08.dropDup_ok
#print axioms CryoCat.C08.mergeRenumber_model_ok
#print axioms CryoCat.C08.blockOK_grouping
#print axioms CryoCat.C08.mergeRenumberOK_statement
#print axioms CryoCat.C08.mergeDropDup_cert_ok
#print axioms CryoCat.C08.mergeDropDup_model_ok
#print axioms CryoCat.C08.renumberObjects_ok
#print axioms CryoCat.C08.modelObs_out
#print axioms CryoCat.C08.selection_stepOK
#print axioms CryoCat.C08.model_stepOK
#print axioms CryoCat.C08.selection_step_mem
#print axioms CryoCat.C08.step_rows
#print axioms CryoCat.C08.step_rows_literal
#print axioms CryoCat.C08.run_rows
#print axioms CryoCat.C08.history_rows
#print axioms CryoCat.C08.history_rows_modulo_fill
#print axioms CryoCat.C08.history_rows_literal
#print axioms CryoCat.C08.selection_history_rows
#print axioms CryoCat.C08.check_schema_iff
#print axioms CryoCat.C08.check_subset_sound
#print axioms CryoCat.C08.check_subset_complete
#print axioms CryoCat.C08.check_subset_accepts_model
#print axioms CryoCat.C08.check_subset_iff_model
#print axioms CryoCat.C08.check_remove_sound
#print axioms CryoCat.C08.check_remove_complete
#print axioms CryoCat.C08.check_remove_accepts_model
#print axioms CryoCat.C08.check_split_sound
#print axioms CryoCat.C08.check_split_complete
#print axioms CryoCat.C08.check_split_accepts_model
#print axioms CryoCat.C08.check_intersect_sound
#print axioms CryoCat.C08.check_intersect_complete
#print axioms CryoCat.C08.check_intersect_accepts_model
#print axioms CryoCat.C08.check_dropdup_sound
#print axioms CryoCat.C08.check_dropdup_complete
#print axioms CryoCat.C08.check_dropdup_accepts_model
#print axioms CryoCat.C08.check_merge_renumber_sound
#print axioms CryoCat.C08.check_merge_renumber_complete
#print axioms CryoCat.C08.check_merge_renumber_accepts_model
#print axioms CryoCat.C08.check_merge_renumber_statement
#print axioms CryoCat.C08.check_merge_dropdup_sound
#print axioms CryoCat.C08.check_merge_dropdup_complete
#print axioms CryoCat.C08.check_merge_dropdup_accepts_model
#print axioms CryoCat.C08.check_renumber_particles_sound
#print axioms CryoCat.C08.check_renumber_particles_complete
#print axioms CryoCat.C08.check_renumber_particles_accepts_model
#print axioms CryoCat.C08.check_renumber_particles_iff_model
#print axioms CryoCat.C08.check_renumber_objects_sound
#print axioms CryoCat.C08.check_renumber_objects_complete
#print axioms CryoCat.C08.check_renumber_objects_accepts_model
#print axioms CryoCat.C08.check_step_accepts_model
#print axioms CryoCat.C08.check_run_accepts_model
#print axioms CryoCat.C08.modelChain_last
#print axioms CryoCat.C08.check_step_sound
#print axioms CryoCat.C08.check_step_iff
#print axioms CryoCat.C08.check_run_iff
#print axioms CryoCat.C08.check_history_rows
#print axioms CryoCat.C08.check_history_rows_literal
#print axioms CryoCat.C08.history_rows_via_checkers
#print axioms CryoCat.C08.stepOK_selection_keeps_nodup
#print axioms CryoCat.C08.selection_step_keeps_nodup
#print axioms CryoCat.C08.selection_history_keeps_nodup
#print axioms CryoCat.C08.mergeRenumber_then_selections_nodup
#print axioms CryoCat.C08.history_schema
#print axioms CryoCat.C08.check_selection_history_keeps_nodup
#print axioms CryoCat.C08.check_merge_renumber_then_selections_nodup
#print axioms CryoCat.C08.trace_eq_run
#print axioms CryoCat.C08.executed_instance_lawful
#print axioms CryoCat.C08.check_step_iff_executed
#print axioms CryoCat.C08.check_step_executed_eq
#print axioms CryoCat.C08.check_run_iff_executed
#print axioms CryoCat.C08.check_history_rows_executed
#print axioms CryoCat.C08.check_run_accepts_model_executed
#print axioms CryoCat.C08.dropDupClausesM_no_missing
#print axioms CryoCat.C08.dropdup_missing_ids_collapse_witness
#print axioms CryoCat.C08.dropdup_missing_ids_checker_witness
#print axioms CryoCat.C08.dropdup_missing_score_checker_witness
#print axioms CryoCat.C08.merge_missing_object_id_collides_witness
#print axioms CryoCat.C08.merge_missing_object_id_last_is_fine_witness
