import CryoCat.Props.C16
#print axioms CryoCat.C16.anchors_ok
#print axioms CryoCat.C16.constants_documented
#print axioms CryoCat.C16.defaults_documented
#print axioms CryoCat.C16.single_image_body_documented
#print axioms CryoCat.C16.dose_filter_body_documented
#print axioms CryoCat.C16.total_dose_load_body_documented
#print axioms CryoCat.C16.tiltstack_helpers_documented
#print axioms CryoCat.C16.dose_helpers_documented
#print axioms CryoCat.C16.warp_xml_documented
#print axioms CryoCat.C16.constants_real
#print axioms CryoCat.C16.q_expression_documented
#print axioms CryoCat.C16.single_image_pipeline_documented
#print axioms CryoCat.C16.frequency_array_documented
#print axioms CryoCat.C16.per_tilt_pairing_documented
#print axioms CryoCat.C16.frequency_is_physical
#print axioms CryoCat.C16.fftshift_index
#print axioms CryoCat.C16.frequency_zero_iff_dc
#print axioms CryoCat.C16.attenuation_formula
#print axioms CryoCat.C16.dc_gain_one
#print axioms CryoCat.C16.gain_zero_dose
#print axioms CryoCat.C16.gain_mul
#print axioms CryoCat.C16.gain_pos_le_one
#print axioms CryoCat.C16.gain_antitone
#print axioms CryoCat.C16.gain_hermitian_even
#print axioms CryoCat.C16.filter_spectrum
#print axioms CryoCat.C16.filter_zero_dose
#print axioms CryoCat.C16.filter_add
#print axioms CryoCat.C16.filter_smul
#print axioms CryoCat.C16.filter_compose
#print axioms CryoCat.C16.filter_more_dose
#print axioms CryoCat.C16.filter_power_le
#print axioms CryoCat.C16.filter_dc
#print axioms CryoCat.C16.filter_mean
#print axioms CryoCat.C16.stack_rejects_iff
#print axioms CryoCat.C16.filtStack_eq
#print axioms CryoCat.C16.stack_pairs_doses
#print axioms CryoCat.C16.stack_compose
#print axioms CryoCat.C16.stack_zero_dose
#print axioms CryoCat.C16.dft_filter_spectrum
#print axioms CryoCat.C16.dft_filter_zero_dose
#print axioms CryoCat.C16.dft_filter_linear
#print axioms CryoCat.C16.dft_filter_compose
#print axioms CryoCat.C16.dft_filter_power
#print axioms CryoCat.C16.dft_filter_mean
#print axioms CryoCat.C16.dft_stack_compose
#print axioms CryoCat.C16.dft_stack_zero_dose
#print axioms CryoCat.C16.int_stack_zero_dose_identity
#print axioms CryoCat.C16.int_stack_counterexample
