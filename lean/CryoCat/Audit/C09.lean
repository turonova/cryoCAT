import CryoCat.Props.C09
#print axioms CryoCat.C09.anchors_ok
#print axioms CryoCat.C09.oob_upper_documented
#print axioms CryoCat.C09.oob_lower_recorded
#print axioms CryoCat.C09.oob_code_cfg
#print axioms CryoCat.C09.trim_cfg_documented
#print axioms CryoCat.C09.mask_cfg_documented
#print axioms CryoCat.C09.mask_ids_through_filter
#print axioms CryoCat.C09.mask_tomo_list_as_given
#print axioms CryoCat.C09.mask_tomo_file_exact
#print axioms CryoCat.C09.tlt_load_sort_default_documented
#print axioms CryoCat.C09.read_transpose_documented
#print axioms CryoCat.C09.points_ball_query_per_tomogram
#print axioms CryoCat.C09.coord_columns_documented
#print axioms CryoCat.C09.dim_columns_documented
#print axioms CryoCat.C09.binarize_documented
#print axioms CryoCat.C09.oob_defaults_documented
#print axioms CryoCat.C09.points_defaults_documented
#print axioms CryoCat.C09.mask_defaults_documented
#print axioms CryoCat.C09.binarize_defaults_documented
#print axioms CryoCat.C09.dims_load_defaults_documented
#print axioms CryoCat.C09.tlt_load_defaults_documented
#print axioms CryoCat.C09.read_defaults_documented
#print axioms CryoCat.C09.oob_skeleton_documented
#print axioms CryoCat.C09.trim_skeleton_documented
#print axioms CryoCat.C09.mask_skeleton_documented
#print axioms CryoCat.C09.points_skeleton_documented
#print axioms CryoCat.C09.coords_skeleton_documented
#print axioms CryoCat.C09.dims_load_skeleton_documented
#print axioms CryoCat.C09.binarize_skeleton_documented
#print axioms CryoCat.C09.subset_skeleton_documented
#print axioms CryoCat.C09.unique_values_skeleton_documented
#print axioms CryoCat.C09.motl_load_skeleton_documented
#print axioms CryoCat.C09.tlt_load_skeleton_documented
#print axioms CryoCat.C09.one_value_per_line_skeleton_documented
#print axioms CryoCat.C09.read_skeleton_documented
#print axioms CryoCat.C09.oobCode_is
#print axioms CryoCat.C09.trimCode_eq
#print axioms CryoCat.C09.cleanMaskCode_eq
#print axioms CryoCat.C09.tltLoad_false
#print axioms CryoCat.C09.tltLoad_asGiven
#print axioms CryoCat.C09.tltLoad_fromFile
#print axioms CryoCat.C09.cleanMaskArg_eq
#print axioms CryoCat.C09.cleanMaskArgCode_eq
#print axioms CryoCat.C09.readWith_id
#print axioms CryoCat.C09.cleanMaskFileCode_eq
#print axioms CryoCat.C09.lookupDim_some
#print axioms CryoCat.C09.lookupDim_none
#print axioms CryoCat.C09.boundary_spec
#print axioms CryoCat.C09.boundaryWith_asIs
#print axioms CryoCat.C09.lowerOk_ge_iff
#print axioms CryoCat.C09.upperOk_lt_iff
#print axioms CryoCat.C09.oobKeep_asis_iff
#print axioms CryoCat.C09.oobKeep_doc_eq
#print axioms CryoCat.C09.oobKeep_doc_iff
#print axioms CryoCat.C09.oobWith_ok
#print axioms CryoCat.C09.oobWith_spec
#print axioms CryoCat.C09.oob_spec
#print axioms CryoCat.C09.oob_mem_iff
#print axioms CryoCat.C09.oob_sublist
#print axioms CryoCat.C09.oob_rejects_iff
#print axioms CryoCat.C09.oobAsIs_spec
#print axioms CryoCat.C09.oob_partial
#print axioms CryoCat.C09.oobAsIs_keeps_more
#print axioms CryoCat.C09.oob_counterexample
#print axioms CryoCat.C09.trimOrigin_doc
#print axioms CryoCat.C09.trim_axis_iff
#print axioms CryoCat.C09.trim_keep_iff
#print axioms CryoCat.C09.trim_spec
#print axioms CryoCat.C09.shiftXYZ_other
#print axioms CryoCat.C09.shiftXYZ_xyz
#print axioms CryoCat.C09.trim_survivor
#print axioms CryoCat.C09.trim_complete
#print axioms CryoCat.C09.closed_ball_iff
#print axioms CryoCat.C09.inBall_iff_dist_le
#print axioms CryoCat.C09.inBall_neg
#print axioms CryoCat.C09.nearPoint_neg
#print axioms CryoCat.C09.dist2_nonneg
#print axioms CryoCat.C09.dist2_eq_zero
#print axioms CryoCat.C09.inBall_zero_iff
#print axioms CryoCat.C09.insertAsc_perm
#print axioms CryoCat.C09.insertAsc_eq_cons
#print axioms CryoCat.C09.sortAsc_eq_self
#print axioms CryoCat.C09.sortAsc_perm
#print axioms CryoCat.C09.cleanMaskArgSorted_eq_of_ascending
#print axioms CryoCat.C09.nearPoint_iff
#print axioms CryoCat.C09.not_nearPoint_iff
#print axioms CryoCat.C09.cleanPointsStmt_spec
#print axioms CryoCat.C09.cleanPoints_eq_groups
#print axioms CryoCat.C09.cleanPointsStmt_keys
#print axioms CryoCat.C09.cleanPoints_perm_stmt
#print axioms CryoCat.C09.cleanPoints_perm
#print axioms CryoCat.C09.cleanPoints_mem_iff
#print axioms CryoCat.C09.cleanPoints_tomogram_order_stmt
#print axioms CryoCat.C09.cleanPoints_tomogram_order
#print axioms CryoCat.C09.cleanPoints_single_tomogram
#print axioms CryoCat.C09.maskHit_doc_iff
#print axioms CryoCat.C09.mem_maskIdsOf
#print axioms CryoCat.C09.mem_maskRemoveIds
#print axioms CryoCat.C09.pairMasks_ok
#print axioms CryoCat.C09.insideMask_iff
#print axioms CryoCat.C09.onZeroVoxel_iff
#print axioms CryoCat.C09.not_onZeroVoxel_iff
#print axioms CryoCat.C09.cleanMaskStmt_spec
#print axioms CryoCat.C09.cleanMaskWith_eq_filter
#print axioms CryoCat.C09.cleanMaskWith_ok
#print axioms CryoCat.C09.maskKeep_iff
#print axioms CryoCat.C09.cleanMaskWith_spec_iff
#print axioms CryoCat.C09.cleanMask_mem_iff
#print axioms CryoCat.C09.maskWellFormed_of_unique
#print axioms CryoCat.C09.unique_of_nodup_keys
#print axioms CryoCat.C09.cleanMask_spec_iff
#print axioms CryoCat.C09.cleanMask_spec
#print axioms CryoCat.C09.cleanMask_spec_of_nodup_keys
#print axioms CryoCat.C09.cleanMask_eq_stmt
#print axioms CryoCat.C09.cleanMaskById_spec
#print axioms CryoCat.C09.cleanMaskById_mem_iff
#print axioms CryoCat.C09.cleanMask_rejects_iff
#print axioms CryoCat.C09.pairMasks_perTomo_getElem
#print axioms CryoCat.C09.cleanMaskArgCode_spec
#print axioms CryoCat.C09.cleanMaskArgCode_eq_stmt
#print axioms CryoCat.C09.truncRat_eq
#print axioms CryoCat.C09.voxel_truncation_convention
#print axioms CryoCat.C09.mask_position_below_zero_counts_as_voxel_zero
#print axioms CryoCat.C09.binarize_doc_iff
#print axioms CryoCat.C09.cleanMask_needs_unique_ids
#print axioms CryoCat.C09.cleanMask_needs_unique_ids_within_tomogram
#print axioms CryoCat.C09.cleanMask_sorted_file_counterexample
#print axioms CryoCat.C09.f32Int_examples
#print axioms CryoCat.C09.cleanMask_float32_file_counterexample
#print axioms CryoCat.C09.cleanMask_old_misaligned
