import CryoCat.Props.C01
#print axioms CryoCat.C01.anchors_ok
#print axioms CryoCat.C01.em_field_order
#print axioms CryoCat.C01.read_expects_20
#print axioms CryoCat.C01.writer_selects_by_name
#print axioms CryoCat.C01.writer_fills_missing
#print axioms CryoCat.C01.writer_casts_single
#print axioms CryoCat.C01.dispatch_documented
#print axioms CryoCat.C01.writeEm_eq
#print axioms CryoCat.C01.readEm_blocks
#print axioms CryoCat.C01.em_roundtrip
#print axioms CryoCat.C01.accepted_iff
#print axioms CryoCat.C01.cell_of_accepted
#print axioms CryoCat.C01.cell_canonical
#print axioms CryoCat.C01.em_roundtrip_named
#print axioms CryoCat.C01.conv_missing
#print axioms CryoCat.C01.conv_present
#print axioms CryoCat.C01.em_roundtrip_values
#print axioms CryoCat.C01.em_write_perm_invariant
#print axioms CryoCat.C01.em_write_same_named
#print axioms CryoCat.C01.em_layout
#print axioms CryoCat.C01.em_offset
#print axioms CryoCat.C01.em_scrambles_without_reindex
#print axioms CryoCat.C01.writeSrc_selected
#print axioms CryoCat.C01.writeGen_eq_writeEm
#print axioms CryoCat.C01.em_roundtrip_gen
#print axioms CryoCat.C01.em_layout_gen
#print axioms CryoCat.C01.writer_fill_matters
#print axioms CryoCat.C01.writer_cast_matters
#print axioms CryoCat.C01.writer_selection_matters
#print axioms CryoCat.C01.motl_write_out_em
#print axioms CryoCat.C01.motl_load_em
#print axioms CryoCat.C01.motl_write_out_other
#print axioms CryoCat.C01.decodeEm_sound
#print axioms CryoCat.C01.decodeEm_complete
#print axioms CryoCat.C01.decodeEm_encodeEm
#print axioms CryoCat.C01.checkFile_ok_iff
#print axioms CryoCat.C01.writeGen_bytes_decode
#print axioms CryoCat.C01.em_file_bytes_valid
#print axioms CryoCat.C01.em_roundtrip_bytes
