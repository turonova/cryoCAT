import CryoCat.Props.C15
#print axioms CryoCat.C15.anchors_ok
#print axioms CryoCat.C15.flip_table_documented
#print axioms CryoCat.C15.index_shift_documented
#print axioms CryoCat.C15.even_rule_documented
#print axioms CryoCat.C15.order_handling_documented
#print axioms CryoCat.C15.shape_unpack_documented
#print axioms CryoCat.C15.defaults_documented
#print axioms CryoCat.C15.defaults_resolve
#print axioms CryoCat.C15.wrappers_documented
#print axioms CryoCat.C15.crop_expressions_documented
#print axioms CryoCat.C15.sort_expressions_documented
#print axioms CryoCat.C15.remove_expressions_documented
#print axioms CryoCat.C15.bin_expression_documented
#print axioms CryoCat.C15.split_outputs_documented
#print axioms CryoCat.C15.flip_body_documented
#print axioms CryoCat.C15.tiltstack_class_documented
#print axioms CryoCat.C15.loaders_documented
#print axioms CryoCat.C15.angle_readers_documented
#print axioms CryoCat.C15.mrc_io_documented
#print axioms CryoCat.C15.sort_perm_sorted
#print axioms CryoCat.C15.sort_is_permutation
#print axioms CryoCat.C15.sort_unique_without_ties
#print axioms CryoCat.C15.remove_spec
#print axioms CryoCat.C15.remove_accepts_iff
#print axioms CryoCat.C15.interleave_evens_odds
#print axioms CryoCat.C15.evens_odds_positions
#print axioms CryoCat.C15.split_spec
#print axioms CryoCat.C15.flip_flip
#print axioms CryoCat.C15.flip_twice_identity
#print axioms CryoCat.C15.flip_rejects_unknown_axis
#print axioms CryoCat.C15.crop_window
#print axioms CryoCat.C15.crop_centred
#print axioms CryoCat.C15.crop_rejects
#print axioms CryoCat.C15.sumRange_eq_sum
#print axioms CryoCat.C15.ceilDiv_full
#print axioms CryoCat.C15.get3_binV
#print axioms CryoCat.C15.bin_zero_padded
#print axioms CryoCat.C15.bin_blockmean
#print axioms CryoCat.C15.bin_shape
#print axioms CryoCat.C15.opBin_wf
#print axioms CryoCat.C15.transpose_spec
#print axioms CryoCat.C15.file_roundtrip
#print axioms CryoCat.C15.order_naturality
#print axioms CryoCat.C15.output_order_only_transposes
#print axioms CryoCat.C15.written_file_presents_result
#print axioms CryoCat.C15.written_file_holds_result
#print axioms CryoCat.C15.sort_length_iff
#print axioms CryoCat.C15.sort_length_mismatch
#print axioms CryoCat.C15.remove_sources
#print axioms CryoCat.C15.remove_single_entry_file
#print axioms CryoCat.C15.remove_default_is_one_based
#print axioms CryoCat.C15.flip_reverses
#print axioms CryoCat.C15.flip_named_convention
#print axioms CryoCat.C15.flip_argument_kinds
#print axioms CryoCat.C15.trunc_toward_zero
#print axioms CryoCat.C15.trunc_of_int
#print axioms CryoCat.C15.present_map
#print axioms CryoCat.C15.written_file_holds_result_cast
#print axioms CryoCat.C15.file_holds_result_for_each_function
#print axioms CryoCat.C15.angle_text_value
#print axioms CryoCat.C15.sort_by_written_angles
#print axioms CryoCat.C15.sort_by_written_angles_unique
#print axioms CryoCat.C15.sort_ties_keep_input_order
#print axioms CryoCat.C15.sort_written_ties_keep_input_order
#print axioms CryoCat.C15.angle_file_columns
#print axioms CryoCat.C15.sort_argument_kinds
#print axioms CryoCat.C15.file_holds_result_sort_lines
#print axioms CryoCat.C15.file_holds_result_bin
