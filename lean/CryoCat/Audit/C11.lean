import CryoCat.Props.C11
#print axioms CryoCat.C11.anchors_ok
#print axioms CryoCat.C11.write_axes_documented
#print axioms CryoCat.C11.read_axes_documented
#print axioms CryoCat.C11.write_steps_documented
#print axioms CryoCat.C11.narrowing_documented
#print axioms CryoCat.C11.write_exts_documented
#print axioms CryoCat.C11.read_exts_documented
#print axioms CryoCat.C11.em2mrc_documented
#print axioms CryoCat.C11.mrc2em_documented
#print axioms CryoCat.C11.write_defaults_documented
#print axioms CryoCat.C11.read_defaults_documented
#print axioms CryoCat.C11.converter_defaults_documented
#print axioms CryoCat.C11.write_body_documented
#print axioms CryoCat.C11.read_body_documented
#print axioms CryoCat.C11.em2mrc_body_documented
#print axioms CryoCat.C11.mrc2em_body_documented
#print axioms CryoCat.C11.invert_contrast_body_documented
#print axioms CryoCat.C11.offset_lt
#print axioms CryoCat.C11.offset_injective
#print axioms CryoCat.C11.offset_surjective
#print axioms CryoCat.C11.x_fastest
#print axioms CryoCat.C11.y_second
#print axioms CryoCat.C11.z_slowest
#print axioms CryoCat.C11.write_eq
#print axioms CryoCat.C11.write_eq_untransposed
#print axioms CryoCat.C11.specWrite_store
#print axioms CryoCat.C11.write_spec
#print axioms CryoCat.C11.write_ok_iff
#print axioms CryoCat.C11.endsWith_append
#print axioms CryoCat.C11.writeKind_mrc
#print axioms CryoCat.C11.writeKind_rec
#print axioms CryoCat.C11.writeKind_em
#print axioms CryoCat.C11.readMrcExts_dotted
#print axioms CryoCat.C11.readKind_mrc
#print axioms CryoCat.C11.readKind_rec
#print axioms CryoCat.C11.readKind_em
#print axioms CryoCat.C11.outDType_eq
#print axioms CryoCat.C11.conv2_eq
#print axioms CryoCat.C11.outDType_none
#print axioms CryoCat.C11.outDType_some
#print axioms CryoCat.C11.outDType_ne_f64
#print axioms CryoCat.C11.convW_id
#print axioms CryoCat.C11.convW_f64
#print axioms CryoCat.C11.convW_some_direct
#print axioms CryoCat.C11.convW_some_f64
#print axioms CryoCat.C11.checkXFastest_iff
#print axioms CryoCat.C11.checkXFastest_sound
#print axioms CryoCat.C11.checkXFastest_complete
#print axioms CryoCat.C11.load_store
#print axioms CryoCat.C11.read_eq
#print axioms CryoCat.C11.read_write
#print axioms CryoCat.C11.kind_of_ext
#print axioms CryoCat.C11.roundtrip
#print axioms CryoCat.C11.roundtrip_same
#print axioms CryoCat.C11.roundtrip_f64
#print axioms CryoCat.C11.read_write_untransposed
#print axioms CryoCat.C11.read_untransposed_of_write
#print axioms CryoCat.C11.read_cross_format
#print axioms CryoCat.C11.writeKw_default
#print axioms CryoCat.C11.readKw_default
#print axioms CryoCat.C11.writeKw_explicit
#print axioms CryoCat.C11.checkSameVoxels_iff
#print axioms CryoCat.C11.checkSameVoxels_sound
#print axioms CryoCat.C11.map_at
#print axioms CryoCat.C11.invert_invert
#print axioms CryoCat.C11.lookup_put_self
#print axioms CryoCat.C11.lookup_put_other
#print axioms CryoCat.C11.convert_spec
#print axioms CryoCat.C11.em2mrc_default_name
#print axioms CryoCat.C11.mrc2em_default_name
#print axioms CryoCat.C11.outName_explicit
#print axioms CryoCat.C11.em2mrc_spec
#print axioms CryoCat.C11.mrc2em_spec
#print axioms CryoCat.C11.convertKw_default
#print axioms CryoCat.C11.converted_voxel_f64
#print axioms CryoCat.C11.converted_voxel
#print axioms CryoCat.C11.checkSameFileVoxels_iff
#print axioms CryoCat.C11.checkSameFileVoxels_sound
#print axioms CryoCat.C11.checkConverted_accepts
#print axioms CryoCat.C11.checkConverted_sound
#print axioms CryoCat.C11.checkSameVoxels_complete
#print axioms CryoCat.C11.checkSameFileVoxels_complete
#print axioms CryoCat.C11.checkConverted_complete
#print axioms CryoCat.C11.decodeMrc_encodeMrc
#print axioms CryoCat.C11.decodeEm_encodeEm
#print axioms CryoCat.C11.decode_encode
#print axioms CryoCat.C11.decodeMrc_encodeEm
#print axioms CryoCat.C11.decodeEm_encodeMrc
#print axioms CryoCat.C11.decodeAs_encode_of_ne
#print axioms CryoCat.C11.encodeMrc_voxel_bytes
#print axioms CryoCat.C11.encodeEm_voxel_bytes
#print axioms CryoCat.C11.encodeMrc_header
#print axioms CryoCat.C11.toRaw_WF
#print axioms CryoCat.C11.toMapFile?_toRaw
#print axioms CryoCat.C11.readBytes_encode
#print axioms CryoCat.C11.readBytes_cross_format
#print axioms CryoCat.C11.readBytes_writeBytes
