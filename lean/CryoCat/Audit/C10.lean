import CryoCat.Props.C10
#print axioms CryoCat.C10.anchors_ok
#print axioms CryoCat.C10.step_documented
#print axioms CryoCat.C10.fields_documented
#print axioms CryoCat.C10.symmetry_argument_documented
#print axioms CryoCat.C10.numbering_documented
#print axioms CryoCat.C10.euler_convention_documented
#print axioms CryoCat.C10.shift_expression_documented
#print axioms CryoCat.C10.rounding_documented
#print axioms CryoCat.C10.parent_order_documented
#print axioms CryoCat.C10.signature_documented
#print axioms CryoCat.C10.body_documented
#print axioms CryoCat.C10.update_body_documented
#print axioms CryoCat.C10.expandCore_perm
#print axioms CryoCat.C10.subunit_count
#print axioms CryoCat.C10.expand_getElem?_core
#print axioms CryoCat.C10.expandCore_getElem?
#print axioms CryoCat.C10.expand_getElem?
#print axioms CryoCat.C10.expand_sound
#print axioms CryoCat.C10.expand_complete
#print axioms CryoCat.C10.expand_ids
#print axioms CryoCat.C10.expand_ids_nodup
#print axioms CryoCat.C10.sortParents_sorted
#print axioms CryoCat.C10.sortParents_stable
#print axioms CryoCat.C10.sortParents_perm
#print axioms CryoCat.C10.mkSub_setId
#print axioms CryoCat.C10.mkSub_pos
#print axioms CryoCat.C10.subunit_bookkeeping
#print axioms CryoCat.C10.subunit_other_fields
#print axioms CryoCat.C10.subunit_orient
#print axioms CryoCat.C10.subunit_position
#print axioms CryoCat.C10.subunit_maps_back
#print axioms CryoCat.C10.subunit_offset
#print axioms CryoCat.C10.orientOf_isRot
#print axioms CryoCat.C10.orientOf_orth
#print axioms CryoCat.C10.ownAxisRot_axis
#print axioms CryoCat.C10.subunit_orbit
#print axioms CryoCat.C10.orbit_closes
#print axioms CryoCat.C10.subunit_integer_xyz
#print axioms CryoCat.C10.subunit_shift_bound
#print axioms CryoCat.C10.expand_spec
#print axioms CryoCat.C10.expand_index_range
#print axioms CryoCat.C10.realSvc_exact
#print axioms CryoCat.C10.real_orientation
#print axioms CryoCat.C10.real_orbit_closes
#print axioms CryoCat.C10.real_subunits_distinct
#print axioms CryoCat.C10.parse_padded
#print axioms CryoCat.C10.parse_last_number
#print axioms CryoCat.C10.parse_C
#print axioms CryoCat.C10.parse_c
#print axioms CryoCat.C10.parse_num_trunc
#print axioms CryoCat.C10.parse_num
#print axioms CryoCat.C10.parse_num_refused
#print axioms CryoCat.C10.parse_examples
#print axioms CryoCat.C10.expandSym_of_cyclic
#print axioms CryoCat.C10.expandSym_string
#print axioms CryoCat.C10.expandSym_num
#print axioms CryoCat.C10.expandP_spec
#print axioms CryoCat.C10.real_expandP_eq
#print axioms CryoCat.C10.real_centerShift
#print axioms CryoCat.C10.real_expandP_spec
#print axioms CryoCat.C10.real_expandSymP_eq
#print axioms CryoCat.C10.old_bookkeeping_repeated_ids
#print axioms CryoCat.C10.new_bookkeeping_repeated_ids
#print axioms CryoCat.C10.asis_runs_iff
#print axioms CryoCat.C10.asis_raises_for_7
