import CryoCat.Props.C03
#print axioms CryoCat.C03.anchors_ok
#print axioms CryoCat.C03.export_call_documented
#print axioms CryoCat.C03.import_call_documented
#print axioms CryoCat.C03.defaults_documented
#print axioms CryoCat.C03.pixel_size_per_row_documented
#print axioms CryoCat.C03.bodies_documented
#print axioms CryoCat.C03.filled_by_position_documented
#print axioms CryoCat.C03.version_forwarded_documented
#print axioms CryoCat.C03.export_is_transpose
#print axioms CryoCat.C03.export_is_inverse
#print axioms CryoCat.C03.import_is_transpose
#print axioms CryoCat.C03.import_is_inverse
#print axioms CryoCat.C03.export_import_orientation
#print axioms CryoCat.C03.columns_documented
#print axioms CryoCat.C03.column_pairs_documented
#print axioms CryoCat.C03.version_names
#print axioms CryoCat.C03.file_versions_documented
#print axioms CryoCat.C03.renumber_loop_documented
#print axioms CryoCat.C03.scalar_anchors_documented
#print axioms CryoCat.C03.origin_in_angstrom_total
#print axioms CryoCat.C03.sniff_documented
#print axioms CryoCat.C03.sniff_version
#print axioms CryoCat.C03.sniff_matches_names
#print axioms CryoCat.C03.exportPose_of_angles
#print axioms CryoCat.C03.export_coord
#print axioms CryoCat.C03.import_shift_total
#print axioms CryoCat.C03.import_shift_pixels
#print axioms CryoCat.C03.import_shift_angstrom
#print axioms CryoCat.C03.import_shift_zero
#print axioms CryoCat.C03.import_coord
#print axioms CryoCat.C03.importPose_zero_origin
#print axioms CryoCat.C03.Pose.position_zero_shift
#print axioms CryoCat.C03.export_import_pose
#print axioms CryoCat.C03.halfset_parity
#print axioms CryoCat.C03.renumber_spec
#print axioms CryoCat.C03.halfsetOf_mod
#print axioms CryoCat.C03.renumber_halfset
#print axioms CryoCat.C03.import_ids_halfset
#print axioms CryoCat.C03.zfill_parse
#print axioms CryoCat.C03.names_parse_v3
#print axioms CryoCat.C03.names_generated_v3
#print axioms CryoCat.C03.names_parse_v4
#print axioms CryoCat.C03.names_generated_v4
#print axioms CryoCat.C03.tomo_name_generated_v3
#print axioms CryoCat.C03.tomo_fallback_documented
#print axioms CryoCat.C03.tomo_fallback_le31
#print axioms CryoCat.C03.tomo_fallback_gt31
#print axioms CryoCat.C03.names_parse_fallback_v3
#print axioms CryoCat.C03.names_parse_fallback_v4
#print axioms CryoCat.C03.import_ids_nodup
#print axioms CryoCat.C03.import_ids_kept
#print axioms CryoCat.C03.import_identity
#print axioms CryoCat.C03.import_geom3_numbers
#print axioms CryoCat.C03.export_identity
#print axioms CryoCat.C03.class_survives
#print axioms CryoCat.C03.export_is_inverse_of_contract
#print axioms CryoCat.C03.import_is_inverse_of_contract
#print axioms CryoCat.C03.export_import_angles_of_contract
#print axioms CryoCat.C03.export_import_pose_of_contract
#print axioms CryoCat.C03.eulerOK_real
#print axioms CryoCat.C03.export_is_inverse_real
#print axioms CryoCat.C03.import_is_inverse_real
#print axioms CryoCat.C03.export_import_pose_real
#print axioms CryoCat.C03.export_import_pose_degrees
