import CryoCat.Props.C04
#print axioms CryoCat.C04.anchors_ok
#print axioms CryoCat.C04.pairs_documented
#print axioms CryoCat.C04.columns_documented
#print axioms CryoCat.C04.zeros_width
#print axioms CryoCat.C04.loops_direction
#print axioms CryoCat.C04.export_positional
#print axioms CryoCat.C04.halfset_literals
#print axioms CryoCat.C04.motl_idx_source
#print axioms CryoCat.C04.reset_range
#print axioms CryoCat.C04.star_block
#print axioms CryoCat.C04.defaults_documented
#print axioms CryoCat.C04.export_order_documented
#print axioms CryoCat.C04.bodies_documented
#print axioms CryoCat.C04.digest_StopgapMotl_init_documented
#print axioms CryoCat.C04.digest_StopgapMotl_read_in_documented
#print axioms CryoCat.C04.digest_StopgapMotl_convert_to_motl_documented
#print axioms CryoCat.C04.digest_StopgapMotl_convert_to_sg_motl_documented
#print axioms CryoCat.C04.digest_StopgapMotl_sg_df_reset_index_documented
#print axioms CryoCat.C04.digest_StopgapMotl_write_out_documented
#print axioms CryoCat.C04.digest_stopgap2emmotl_documented
#print axioms CryoCat.C04.digest_emmotl2stopgap_documented
#print axioms CryoCat.C04.wrappers_documented
#print axioms CryoCat.C04.pairs_bijective
#print axioms CryoCat.C04.exportRow_field
#print axioms CryoCat.C04.exportRow_halfset
#print axioms CryoCat.C04.exportRow_motl_idx
#print axioms CryoCat.C04.exportRowAt_spec
#print axioms CryoCat.C04.exportRowAt_kinds
#print axioms CryoCat.C04.toSg_eq
#print axioms CryoCat.C04.toSg_rows
#print axioms CryoCat.C04.toSg_total
#print axioms CryoCat.C04.export_rows
#print axioms CryoCat.C04.halfset_of_parity
#print axioms CryoCat.C04.letter_of_parity
#print axioms CryoCat.C04.halfset_even_odd
#print axioms CryoCat.C04.motl_idx_spec
#print axioms CryoCat.C04.omitted_keywords
#print axioms CryoCat.C04.intBitOps_modEq
#print axioms CryoCat.C04.halfset_even_odd_bits
#print axioms CryoCat.C04.halfset_parity_float_ids
#print axioms CryoCat.C04.exportTable_eq
#print axioms CryoCat.C04.model_columns
#print axioms CryoCat.C04.model_spec
#print axioms CryoCat.C04.check_iff
#print axioms CryoCat.C04.check_sound
#print axioms CryoCat.C04.check_complete
#print axioms CryoCat.C04.check_parity_sound
#print axioms CryoCat.C04.encodeNat_examples
#print axioms CryoCat.C04.importTable_accepts_iff
#print axioms CryoCat.C04.importTable_eq_some_iff
#print axioms CryoCat.C04.importTable_isSome_iff
#print axioms CryoCat.C04.importRow_get
#print axioms CryoCat.C04.import_rows
#print axioms CryoCat.C04.import_rejects_text
#print axioms CryoCat.C04.checkImport_iff
#print axioms CryoCat.C04.checkImport_sound
#print axioms CryoCat.C04.checkImport_complete
#print axioms CryoCat.C04.import_meets_spec
#print axioms CryoCat.C04.import_other_fields
#print axioms CryoCat.C04.importRow_of_fields
#print axioms CryoCat.C04.SgTable.mapCells_id
#print axioms CryoCat.C04.SgTable.mapCells_ofRows
#print axioms CryoCat.C04.importTable_rows
#print axioms CryoCat.C04.importTable_mapCells_exportTable
#print axioms CryoCat.C04.fromSg_toSg
#print axioms CryoCat.C04.toSg_fromSg
#print axioms CryoCat.C04.updateCoord_position
#print axioms CryoCat.C04.updateCoord_other
#print axioms CryoCat.C04.export_update_coord
#print axioms CryoCat.C04.updateCoord_recentred
#print axioms CryoCat.C04.updateCoord_rat
#print axioms CryoCat.C04.updateCoord_rat_ties
#print axioms CryoCat.C04.write_out_spec
#print axioms CryoCat.C04.motlWriteOut_spec
#print axioms CryoCat.C04.starWF_ofRows
#print axioms CryoCat.C04.exportTable_starWF
#print axioms CryoCat.C04.via_file_at
#print axioms CryoCat.C04.via_file
#print axioms CryoCat.C04.writeSpecifier_ok
#print axioms CryoCat.C04.star_layer_roundtrip_cells
#print axioms CryoCat.C04.star_layer_roundtrip_spec
#print axioms CryoCat.C04.star_layer_roundtrip
#print axioms CryoCat.C04.via_file_c02
#print axioms CryoCat.C04.via_file_c02_cells
#print axioms CryoCat.C04.via_file_wrappers
#print axioms CryoCat.C04.Dec.cell_ok
#print axioms CryoCat.C04.via_file_c02_decimal
#print axioms CryoCat.C04.swapped_angles_detected
