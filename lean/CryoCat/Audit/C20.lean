import CryoCat.Props.C20
#print axioms CryoCat.C20.anchors_ok
#print axioms CryoCat.C20.sites_identical
#print axioms CryoCat.C20.site_dist2_eval
#print axioms CryoCat.C20.site_proj_eval
#print axioms CryoCat.C20.site_lat2_eval
#print axioms CryoCat.C20.site_coneRhs_eval
#print axioms CryoCat.C20.site_operators
#print axioms CryoCat.C20.site_ball_tests
#print axioms CryoCat.C20.stored_is_distance
#print axioms CryoCat.C20.site_stored_eval
#print axioms CryoCat.C20.guard_chains_documented
#print axioms CryoCat.C20.stores_documented
#print axioms CryoCat.C20.multiplier_is_tan_squared
#print axioms CryoCat.C20.multiplier_evaluates
#print axioms CryoCat.C20.radius_is_max_over_voxel
#print axioms CryoCat.C20.assignment_loop_shape
#print axioms CryoCat.C20.cpu_flow_shape
#print axioms CryoCat.C20.gpu_flow_shape
#print axioms CryoCat.C20.kernel_bodies_documented
#print axioms CryoCat.C20.defaults_documented
#print axioms CryoCat.C20.top_dispatch_documented
#print axioms CryoCat.C20.top_flow_shape
#print axioms CryoCat.C20.helpers_pure
#print axioms CryoCat.C20.callers_documented
#print axioms CryoCat.C20.log_helpers_documented
#print axioms CryoCat.C20.kernel_signatures_documented
#print axioms CryoCat.C20.spec_iff_cands
#print axioms CryoCat.C20.model_distance
#print axioms CryoCat.C20.params_multiplier_is_source_expression
#print axioms CryoCat.C20.model_lex
#print axioms CryoCat.C20.model_spec
#print axioms CryoCat.C20.check_iff
#print axioms CryoCat.C20.check_sound
#print axioms CryoCat.C20.check_complete
#print axioms CryoCat.C20.capped_eq_uncapped
#print axioms CryoCat.C20.fewer_than_25_candidates
#print axioms CryoCat.C20.capped_pairs_sound
#print axioms CryoCat.C20.measure_order_independent
#print axioms CryoCat.C20.no_leftover
#print axioms CryoCat.C20.no_closer
#print axioms CryoCat.C20.at_most_one
#print axioms CryoCat.C20.Spec.of_adm
#print axioms CryoCat.C20.within_range_and_forward
#print axioms CryoCat.C20.in_cone
#print axioms CryoCat.C20.in_cone_approx
#print axioms CryoCat.C20.cone_iff
#print axioms CryoCat.C20.measure_move
#print axioms CryoCat.C20.measure_rescale
#print axioms CryoCat.C20.thickness_scales
#print axioms CryoCat.C20.thickness_at_other_voxel
#print axioms CryoCat.C20.cands_at_larger_voxel_iff
#print axioms CryoCat.C20.cands_of_larger_voxel
#print axioms CryoCat.C20.direction_swap
#print axioms CryoCat.C20.real_angle
#print axioms CryoCat.C20.in_cone_real
#print axioms CryoCat.C20.in_cone_real_approx
#print axioms CryoCat.C20.cone_counterexample
#print axioms CryoCat.C20.exInput_cands
#print axioms CryoCat.C20.cap_counterexample
