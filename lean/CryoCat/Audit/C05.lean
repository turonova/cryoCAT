import CryoCat.Props.C05
#print axioms CryoCat.C05.anchors_ok
#print axioms CryoCat.C05.coordinates_are_x_plus_shift
#print axioms CryoCat.C05.update_rounds_half_up
#print axioms CryoCat.C05.update_keeps_residual
#print axioms CryoCat.C05.scale_columns
#print axioms CryoCat.C05.euler_convention
#print axioms CryoCat.C05.angle_columns
#print axioms CryoCat.C05.rotation_on_right
#print axioms CryoCat.C05.shift_targets
#print axioms CryoCat.C05.flip_source_form
#print axioms CryoCat.C05.flip_makes_z_float
#print axioms CryoCat.C05.signatures_documented
#print axioms CryoCat.C05.get_coordinates_body_documented
#print axioms CryoCat.C05.get_angles_body_documented
#print axioms CryoCat.C05.get_rotations_body_documented
#print axioms CryoCat.C05.update_body_documented
#print axioms CryoCat.C05.scale_body_documented
#print axioms CryoCat.C05.shift_body_documented
#print axioms CryoCat.C05.rotate_body_documented
#print axioms CryoCat.C05.flip_body_documented
#print axioms CryoCat.C05.dimensions_load_body_documented
#print axioms CryoCat.C05.imod_com_read_body_documented
#print axioms CryoCat.C05.update_pos
#print axioms CryoCat.C05.update_pose
#print axioms CryoCat.C05.update_idem
#print axioms CryoCat.C05.update_clause
#print axioms CryoCat.C05.roundHalfUp_within_half
#print axioms CryoCat.C05.roundHalfUp_ties
#print axioms CryoCat.C05.update_spec
#print axioms CryoCat.C05.scale_pos
#print axioms CryoCat.C05.scale_orient
#print axioms CryoCat.C05.shift_pos
#print axioms CryoCat.C05.shift_orient
#print axioms CryoCat.C05.shift_shift
#print axioms CryoCat.C05.rotate_pos
#print axioms CryoCat.C05.rotate_orient
#print axioms CryoCat.C05.rotate_rotate
#print axioms CryoCat.C05.orient_neg_theta
#print axioms CryoCat.C05.flip_orient
#print axioms CryoCat.C05.flip_pos
#print axioms CryoCat.C05.flip_pos_none
#print axioms CryoCat.C05.flip_flip
#print axioms CryoCat.C05.specDim_dimOf
#print axioms CryoCat.C05.applyOpP_tomo
#print axioms CryoCat.C05.runOpsP_tomo
#print axioms CryoCat.C05.absPose_applyOpP
#print axioms CryoCat.C05.specOp_isSome
#print axioms CryoCat.C05.flip_uncovered_pose
#print axioms CryoCat.C05.absPose_runOpsP
#print axioms CryoCat.C05.runOps_eq_map
#print axioms CryoCat.C05.absPose_runOps
#print axioms CryoCat.C05.orient_isRot
#print axioms CryoCat.C05.runOK_of_global
#print axioms CryoCat.C05.absPose_runOps_global
#print axioms CryoCat.C05.shift_rigid
#print axioms CryoCat.C05.applyOp_applyOp
#print axioms CryoCat.C05.shift_shift_list
#print axioms CryoCat.C05.rotate_rotate_list
#print axioms CryoCat.C05.flip_flip_list
#print axioms CryoCat.C05.update_list
#print axioms CryoCat.C05.spec_shift_shift
#print axioms CryoCat.C05.spec_rotate_rotate
#print axioms CryoCat.C05.spec_flip_flip
#print axioms CryoCat.C05.checkUpdate_iff
#print axioms CryoCat.C05.checkUpdate_complete
#print axioms CryoCat.C05.checkScale_iff
#print axioms CryoCat.C05.checkScale_sound
#print axioms CryoCat.C05.checkFlipPos_iff
#print axioms CryoCat.C05.checkFlip_sound
#print axioms CryoCat.C05.checkFlip_complete
#print axioms CryoCat.C05.zxz_angles_exist
#print axioms CryoCat.C05.euler_angles_exist
#print axioms CryoCat.C05.realSvc_meets_all
#print axioms CryoCat.C05.absPose_runOps_real
#print axioms CryoCat.C05.update_spec_real
#print axioms CryoCat.C05.rotate_rotate_real
#print axioms CryoCat.C05.loadDims_triple
#print axioms CryoCat.C05.loadDims_rows
#print axioms CryoCat.C05.loadDims_table
#print axioms CryoCat.C05.loadDims_refuses
#print axioms CryoCat.C05.flip_flip_in_history
#print axioms CryoCat.C05.flips_parity
#print axioms CryoCat.C05.spec_flip_then_op
#print axioms CryoCat.C05.spec_flip_scale_counterexample
#print axioms CryoCat.C05.spec_history_flip_parity
#print axioms CryoCat.C05.history_flip_parity
#print axioms CryoCat.C05.history_flip_parity_list
#print axioms CryoCat.C05.spec_only_flips
#print axioms CryoCat.C05.history_flip_parity_real
