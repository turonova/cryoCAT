import CryoCat.Props.C14
#print axioms CryoCat.C14.anchors_ok
#print axioms CryoCat.C14.rotate_source_documented
#print axioms CryoCat.C14.window_source_documented
#print axioms CryoCat.C14.extract_source_documented
#print axioms CryoCat.C14.place_source_documented
#print axioms CryoCat.C14.place_threshold_documented
#print axioms CryoCat.C14.symmetrize_source_documented
#print axioms CryoCat.C14.motl_source_documented
#print axioms CryoCat.C14.signatures_documented
#print axioms CryoCat.C14.rotate_body_documented
#print axioms CryoCat.C14.window_body_documented
#print axioms CryoCat.C14.extract_body_documented
#print axioms CryoCat.C14.crop_body_documented
#print axioms CryoCat.C14.pad_body_documented
#print axioms CryoCat.C14.place_body_documented
#print axioms CryoCat.C14.sym_body_documented
#print axioms CryoCat.C14.rotate_coordinate_active
#print axioms CryoCat.C14.rotate_coordinate_active_zxz
#print axioms CryoCat.C14.rotate_coordinate_inverse
#print axioms CryoCat.C14.rotate_index
#print axioms CryoCat.C14.rotate_outside
#print axioms CryoCat.C14.rotate_plain_is_inverse
#print axioms CryoCat.C14.rotate_inverse_restores
#print axioms CryoCat.C14.cube24_count
#print axioms CryoCat.C14.cube24_nodup
#print axioms CryoCat.C14.cube24_orth
#print axioms CryoCat.C14.cube24_det
#print axioms CryoCat.C14.cube24_transpose_orth
#print axioms CryoCat.C14.cubeZxz_mem
#print axioms CryoCat.C14.cube24_from_zxz
#print axioms CryoCat.C14.cube24_complete
#print axioms CryoCat.C14.cube_inverse_angles
#print axioms CryoCat.C14.rotate_index_cube
#print axioms CryoCat.C14.rotate_compose
#print axioms CryoCat.C14.cube24_closed
#print axioms CryoCat.C14.cube24_transpose_mem
#print axioms CryoCat.C14.rotate_compose_cube
#print axioms CryoCat.C14.window_start_is_floor
#print axioms CryoCat.C14.window_start_even
#print axioms CryoCat.C14.window_blocks_agree
#print axioms CryoCat.C14.extract_spec
#print axioms CryoCat.C14.extractSubvolume_spec
#print axioms CryoCat.C14.crop_spec
#print axioms CryoCat.C14.crop_spec_clipped
#print axioms CryoCat.C14.crop_default_is_centre
#print axioms CryoCat.C14.extract_enforce_spec
#print axioms CryoCat.C14.pad_spec
#print axioms CryoCat.C14.stamp_spec
#print axioms CryoCat.C14.place_painter
#print axioms CryoCat.C14.place_offset_documented
#print axioms CryoCat.C14.placeStart_meets_statement
#print axioms CryoCat.C14.placeStart_centred
#print axioms CryoCat.C14.placeStart_floor
#print axioms CryoCat.C14.place_rotated
#print axioms CryoCat.C14.place_active_any
#print axioms CryoCat.C14.place_active
#print axioms CryoCat.C14.motl_bodies_documented
#print axioms CryoCat.C14.shift_moves_position
#print axioms CryoCat.C14.shift_moves_position_cube
#print axioms CryoCat.C14.placeStartQ_floor
#print axioms CryoCat.C14.placeStartQ_add_int
#print axioms CryoCat.C14.shift_moves_stamp
#print axioms CryoCat.C14.placeMotl_painter
#print axioms CryoCat.C14.placeMotl_active
#print axioms CryoCat.C14.old_place_start_odd_one_voxel_low
#print axioms CryoCat.C14.old_place_start_odd_cases
#print axioms CryoCat.C14.place_template_centred_on_position
#print axioms CryoCat.C14.symmetrize_is_mean
#print axioms CryoCat.C14.symmetrize_invariant
#print axioms CryoCat.C14.symmetrize_total
#print axioms CryoCat.C14.symExact_invariant
#print axioms CryoCat.C14.symExact_rotate_invariant
#print axioms CryoCat.C14.symExact_total
#print axioms CryoCat.C14.symExact_total_sum
#print axioms CryoCat.C14.voxels_spec
#print axioms CryoCat.C14.driver_plumbing
#print axioms CryoCat.C14.old_symmetrize_angles_wrong
