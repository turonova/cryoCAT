import CryoCat.Props.C12
#print axioms CryoCat.C12.anchors_ok
#print axioms CryoCat.C12.outwards_false
#print axioms CryoCat.C12.mask_arguments_documented
#print axioms CryoCat.C12.apply_expressions_documented
#print axioms CryoCat.C12.box_edge_documented
#print axioms CryoCat.C12.band_keywords_documented
#print axioms CryoCat.C12.resolution_expressions_documented
#print axioms CryoCat.C12.filter_radius_branches_documented
#print axioms CryoCat.C12.sphere_documented
#print axioms CryoCat.C12.blur_documented
#print axioms CryoCat.C12.defaults_documented
#print axioms CryoCat.C12.signatures_documented
#print axioms CryoCat.C12.flow_documented
#print axioms CryoCat.C12.bodies_documented
#print axioms CryoCat.C12.freq_spec
#print axioms CryoCat.C12.freqRadius2_neg
#print axioms CryoCat.C12.hard_gain
#print axioms CryoCat.C12.hard_gain_even
#print axioms CryoCat.C12.hard_gain_effective
#print axioms CryoCat.C12.soft_gain_range
#print axioms CryoCat.C12.soft_gain_tail
#print axioms CryoCat.C12.soft_gain_inside
#print axioms CryoCat.C12.soft_gain_outside
#print axioms CryoCat.C12.soft_margin_checked
#print axioms CryoCat.C12.soft_gain_inside_margin
#print axioms CryoCat.C12.soft_gain_outside_margin
#print axioms CryoCat.C12.soft_gain_one
#print axioms CryoCat.C12.soft_gain_zero
#print axioms CryoCat.C12.soft_tail_range
#print axioms CryoCat.C12.soft_gain_mono_cutoff
#print axioms CryoCat.C12.high_gain_complement
#print axioms CryoCat.C12.band_gain_difference
#print axioms CryoCat.C12.low_gain_range
#print axioms CryoCat.C12.high_gain_range
#print axioms CryoCat.C12.band_gain_range_nested
#print axioms CryoCat.C12.band_gain_bounds
#print axioms CryoCat.C12.effective_gain_range
#print axioms CryoCat.C12.model_kernel_valid
#print axioms CryoCat.C12.soft_edge_exact_beyond_reach
#print axioms CryoCat.C12.face_rise_zero
#print axioms CryoCat.C12.soft_gain_step_bound
#print axioms CryoCat.C12.soft_eff_gain_step_bound
#print axioms CryoCat.C12.face_rise_zero_short_kernel
#print axioms CryoCat.C12.face_rise_range
#print axioms CryoCat.C12.soft_monotone_fails_only_if
#print axioms CryoCat.C12.soft_eff_gain_mono_step_reach
#print axioms CryoCat.C12.soft_eff_gain_axis_step_checked
#print axioms CryoCat.C12.soft_edge_rays_bound
#print axioms CryoCat.C12.soft_monotone_face_closed
#print axioms CryoCat.C12.soft_gain_mono_axis_x
#print axioms CryoCat.C12.soft_gain_mono_axis_y
#print axioms CryoCat.C12.soft_gain_mono_axis_z
#print axioms CryoCat.C12.soft_edge_monotone_axes_partial
#print axioms CryoCat.C12.soft_gain_mono_step
#print axioms CryoCat.C12.soft_high_gain_mono_step
#print axioms CryoCat.C12.soft_eff_gain_mono_step
#print axioms CryoCat.C12.soft_eff_gain_mono_nyquist_x
#print axioms CryoCat.C12.soft_edge_monotone_rays_partial
#print axioms CryoCat.C12.model_kernel_unimodal
#print axioms CryoCat.C12.soft_edge_full_false_below_reach
#print axioms CryoCat.C12.soft_monotone_radial_false
#print axioms CryoCat.C12.soft_monotone_false_at_face
#print axioms CryoCat.C12.soft_monotone_face_witness
#print axioms CryoCat.C12.band_gain_negative_unequal_widths
#print axioms CryoCat.C12.band_gain_negative_inverted
#print axioms CryoCat.C12.band_gain_K1_witness
#print axioms CryoCat.C12.band_gain_K2_witness
#print axioms CryoCat.C12.lowGain_grid
#print axioms CryoCat.C12.highGain_grid
#print axioms CryoCat.C12.bandGain_grid
#print axioms CryoCat.C12.effGain_grid
#print axioms CryoCat.C12.filt_add
#print axioms CryoCat.C12.filt_smul
#print axioms CryoCat.C12.filt_real
#print axioms CryoCat.C12.filt_shift
#print axioms CryoCat.C12.filt_spectrum
#print axioms CryoCat.C12.filt_effective_gain
#print axioms CryoCat.C12.filt_difference
#print axioms CryoCat.C12.filt_complement
#print axioms CryoCat.C12.highpass_complement
#print axioms CryoCat.C12.bandpass_difference
#print axioms CryoCat.C12.dft1_inversion
#print axioms CryoCat.C12.dft_is_transform_complex
#print axioms CryoCat.C12.highpass_complement_complex
#print axioms CryoCat.C12.dft1_shift_theorem
#print axioms CryoCat.C12.dft1_hermitian_symmetry
#print axioms CryoCat.C12.dft3_shift_theorem
#print axioms CryoCat.C12.dft3_hermitian_symmetry
#print axioms CryoCat.C12.roll_neg_invol
#print axioms CryoCat.C12.filt_shift_dft
#print axioms CryoCat.C12.dftC_is_dft3
#print axioms CryoCat.C12.dft_shift_theorem_complex
#print axioms CryoCat.C12.dft_hermitian_complex
#print axioms CryoCat.C12.idft_real_part_complex
#print axioms CryoCat.C12.filt_add_complex
#print axioms CryoCat.C12.filt_smul_complex
#print axioms CryoCat.C12.filt_real_complex
#print axioms CryoCat.C12.filt_spectrum_complex
#print axioms CryoCat.C12.filt_shift_complex
#print axioms CryoCat.C12.filt_effective_gain_complex
#print axioms CryoCat.C12.filt_even_gain_complex
#print axioms CryoCat.C12.filt_complement_complex
#print axioms CryoCat.C12.filt_difference_complex
#print axioms CryoCat.C12.bandpass_difference_complex
#print axioms CryoCat.C12.filters_shift_complex
#print axioms CryoCat.C12.freqRadius2_negBox
#print axioms CryoCat.C12.hard_lowpass_spectrum_complex
#print axioms CryoCat.C12.filter_effective_gain_complex
#print axioms CryoCat.C12.filters_effective_gain_complex
#print axioms CryoCat.C12.lowpass_grid
#print axioms CryoCat.C12.highpass_grid
#print axioms CryoCat.C12.bandpass_grid
#print axioms CryoCat.C12.filter_grid_roll
#print axioms CryoCat.C12.filter_grid_roll_complex
#print axioms CryoCat.C12.roundRat_nearest_even
#print axioms CryoCat.C12.res2pix_round
#print axioms CryoCat.C12.filter_radius_pixels
#print axioms CryoCat.C12.filter_radius_resolution
#print axioms CryoCat.C12.filter_radius_rejects
