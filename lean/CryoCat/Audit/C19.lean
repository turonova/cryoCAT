import CryoCat.Props.C19
#print axioms CryoCat.C19.anchors_ok
#print axioms CryoCat.C19.nn_sorted_first
#print axioms CryoCat.C19.tail_renumbered_by_chain_order
#print axioms CryoCat.C19.both_sides_fresh_id
#print axioms CryoCat.C19.min_bound_unconditional
#print axioms CryoCat.C19.subsets_positional
#print axioms CryoCat.C19.opts_documented
#print axioms CryoCat.C19.numbering_documented
#print axioms CryoCat.C19.bodies_documented
#print axioms CryoCat.C19.defaults_documented
#print axioms CryoCat.C19.store_documented
#print axioms CryoCat.C19.merge_calls_as_observed
#print axioms CryoCat.C19.trace_partition
#print axioms CryoCat.C19.trace_partition_all
#print axioms CryoCat.C19.once_no_span
#print axioms CryoCat.C19.trace_no_span
#print axioms CryoCat.C19.other_fields_documented
#print axioms CryoCat.C19.otherFields_mem
#print axioms CryoCat.C19.check_fields_sound
#print axioms CryoCat.C19.check_fields_complete
#print axioms CryoCat.C19.emit_other_fields
#print axioms CryoCat.C19.trace_returns_particles
#print axioms CryoCat.C19.trace_chains_well_numbered
#print axioms CryoCat.C19.trace_orders
#print axioms CryoCat.C19.trace_dist
#print axioms CryoCat.C19.trace_spec_full
#print axioms CryoCat.C19.trace_spec_full_particles
#print axioms CryoCat.C19.trace_spec_full_gen
#print axioms CryoCat.C19.trace_links_partial
#print axioms CryoCat.C19.chkOrders_iff
#print axioms CryoCat.C19.chkDist_iff
#print axioms CryoCat.C19.check_iff
#print axioms CryoCat.C19.check_sound
#print axioms CryoCat.C19.check_complete
#print axioms CryoCat.C19.model_accepted
#print axioms CryoCat.C19.tailcut_roworder_counterexample
#print axioms CryoCat.C19.double_cut_shared_id_counterexample
#print axioms CryoCat.C19.min_zero_coincidence_counterexample
#print axioms CryoCat.C19.min_zero_coincidence_repaired
#print axioms CryoCat.C19.repaired_model_passes_witnesses
#print axioms CryoCat.C19.nearestEntry_order_free
#print axioms CryoCat.C19.nearestExit_order_free
#print axioms CryoCat.C19.nearestEntry_is_nearest
