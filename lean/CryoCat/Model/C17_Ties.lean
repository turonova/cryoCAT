import CryoCat.Model.C17
/-! C17 — sorting a table in which several images carry the SAME tilt angle (round 5, work-list item 1).

`DataFrame.sort_values(by="TiltAngle")` uses quicksort: it promises an ascending table, NOT the order of equal keys. The
statement of C17 says "sorting by tilt … change[s] only the order": every ascending arrangement of the rows is correct. The
model's `sortByTilt` is the stable merge sort — one of the correct arrangements. To compare the implementation with the model on
tables with ties the driver is told which arrangement the implementation chose (`order`: for every row of the new table its
position in the old one); `arrangeOk` is the VERIFIED CHECKER that decides whether that arrangement is a permutation of the rows
that is ascending in the key, and `sortByTiltAs` then continues from it. Lemmas/C17_Ops.lean proves that the checker is sound
and complete, that every accepted arrangement agrees with the stable sort on the key sequence and inside every tie group up to
permutation, and that without ties it IS the stable sort (`sorted_perm_unique_up_to_ties`). Mathlib-free, executable. -/
namespace CryoCat.C17

/-- the rows at the given positions, in that order (a position out of range is skipped; `arrangeOk` excludes that) -/
def pick {α : Type} (rows : List α) (order : List Nat) : List α := order.filterMap (fun i => rows[i]?)

/-- the comparison `sortRowsBy` sorts with -/
def keyLe {α : Type} (key : α → Rat) (asc : Bool) (a b : α) : Bool :=
  if asc then decide (key a ≤ key b) else decide (key b ≤ key a)

/-- **verified checker**: `order` names every position of the table exactly once and the rows taken in that order are
ascending (descending for `asc = false`) in the key -/
def arrangeOk {α : Type} (key : α → Rat) (asc : Bool) (rows : List α) (order : List Nat) : Bool :=
  order.isPerm (List.range rows.length) &&
    decide ((pick rows order).Pairwise (fun a b => keyLe key asc a b = true))

/-- what `sort_by_tilt` does after the rows are in order: `reset_z_value` (see `sortByTilt`) -/
def finishSort (reset : Bool) (m : Mdoc) (rows : List Row) : Mdoc :=
  if reset && !resetHitsSection m then resetForeign { m with rows := rows }
  else { m with rows := if reset then renumber rows else rows }

/-- `Mdoc.sort_by_tilt(reset_z_value)` when the arrangement of equal tilt angles is the one the implementation was seen to
choose: `none` when that arrangement is not an ascending permutation of the table (the implementation's sort is then wrong);
without an arrangement: the stable sort -/
def sortByTiltAs (order : Option (List Nat)) (reset : Bool) (m : Mdoc) : Option Mdoc :=
  match order with
  | none => some (sortByTilt reset m)
  | some o =>
    if arrangeOk (Row.tiltAt (m.cols.idxOf Gen.C17.sortKey)) Gen.C17.sortAscending m.rows o then
      some (finishSort reset m (pick m.rows o))
    else none

/-- does the table hold two images with the same tilt angle? -/
def hasTiltTies (m : Mdoc) : Bool :=
  let ks := m.rows.map (Row.tiltAt (m.cols.idxOf Gen.C17.sortKey))
  !(decide ks.Nodup)

/-! ### floats with more than 15 significant digits: outside the recorded assumption on Python's `repr` -/

/-- significant digits of the canonical decimal `i.f` (leading and trailing zeros do not count) -/
def sigDigits (i f : Str) : Nat :=
  let ds := dropZeros (i ++ (if f == ['0'] then [] else f))
  (dropZeros ds.reverse).length

def Val.longFloat : Val → Bool
  | .flt i f => decide (15 < sigDigits i f)
  | .tilt _ i f => decide (15 < sigDigits i f)
  | _ => false

/-- does the object hold a float whose decimal has more than 15 significant digits? The model keeps the digits of the FILE; Python keeps the
nearest double and prints its shortest representation, which need not be those digits (recorded assumption of the model: at most 15
significant digits). Such texts are a named class the model does not describe: the driver says so and the judge evaluates the statement on
the implementation alone. -/
def hasLongFloat (m : Mdoc) : Bool :=
  m.info.any (fun kv => kv.2.longFloat) || m.rows.any (fun r => r.cells.any Val.longFloat)

end CryoCat.C17
