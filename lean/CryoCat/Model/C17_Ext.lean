import CryoCat.Model.C17
/-! C17 — the reader as the code behaves OUTSIDE the strict model `parseMdoc` (hardening pass, audit item 5).

`parseMdoc` (Model/C17.lean) answers `none` both when `Mdoc(path)` raises and when the text is of a shape it does not
describe. This file separates the two:

* `parseMdocX` FOLLOWS THE CODE on two more classes — duplicate header keys (`project_info[key] = …` overwrites: position of
  the first occurrence, value of the last) and TiltAngle cells in any decimal / exponent spelling Python's `float()` accepts
  (`+5`, `1e-05`, `.5e1`; `astype(float)` on the text cell) — and agrees with `parseMdoc` wherever that is defined
  (`parse_ext_conservative`, Props/C17.lean);
* `whyNone` says, for a text `parseMdocX` does not read, whether the code RAISES or the text belongs to a named class that is
  explicitly OUTSIDE the quantifier of the property (the judge then skips the comparison and counts the case; it never agrees
  silently): sections with different key sets (pandas fills NaN), a `[` line inside a section (overwrites the section value, adds
  a NaN column), duplicate keys inside a section, a section value `int()` accepts but `isdigit` does not (`+3`, `1_0`), a
  TiltAngle spelled `nan` / `inf` / with underscores.

Also here: `indicesLoad` (`ioutils.indices_load` on list / array input). Mathlib-free, executable. -/
namespace CryoCat.C17

/-! ### Python `float(text)` for a decimal / exponent literal → canonical decimal -/

/-- split at the first `e` / `E` -/
def splitExp : Str → Str × Option Str
  | [] => ([], none)
  | c :: cs => if c == 'e' || c == 'E' then ([], some cs) else ((c :: (splitExp cs).1), (splitExp cs).2)

/-- `[+-]?digits` → (negative, value) -/
def signedNat (s : Str) : Option (Bool × Nat) :=
  match s with
  | '-' :: r => if allDigits r then some (true, natOfDigits r) else none
  | '+' :: r => if allDigits r then some (false, natOfDigits r) else none
  | r => if allDigits r then some (false, natOfDigits r) else none

/-- the digits `i.f × 10^e` as canonical integer / fraction digit strings (decimal point shifted by `e`) -/
def shiftPoint (i f : Str) (neg : Bool) (e : Nat) : Str × Str :=
  if neg then
    -- move the point e places to the left
    let pad := (List.replicate (e - i.length) '0') ++ i
    let cut := pad.length - e
    (normI (pad.take cut), normF (pad.drop cut ++ f))
  else
    let padf := f ++ List.replicate (e - f.length) '0'
    (normI (i ++ padf.take e), normF (padf.drop e))

/-- unsigned `digits[.digits]` / `.digits` with an optional exponent of magnitude ≤ 30 (beyond that `float()` may overflow to
`inf` or underflow: outside) -/
def pyUFloat (s : Str) : Option (Str × Str) :=
  let (mant, ex) := splitExp s
  let okMant := allDigits (removeFirstDot mant)
  if !okMant then none
  else
    let i := (splitDot mant).1
    let f := (splitDot mant).2
    match ex with
    | none => some (normI i, normF f)
    | some es =>
      match signedNat es with
      | some (neg, e) => if e ≤ 30 then some (shiftPoint i f neg e) else none
      | none => none

/-- `float(s)` for a stripped text `s` in decimal / exponent spelling → (negative, integer digits, fraction digits) -/
def pyFloatText (s : Str) : Option (Bool × Str × Str) :=
  match s with
  | '-' :: r => (pyUFloat r).map (fun p => (true, p.1, p.2))
  | '+' :: r => (pyUFloat r).map (fun p => (false, p.1, p.2))
  | r => (pyUFloat r).map (fun p => (false, p.1, p.2))

/-- `astype(float)` on one TiltAngle cell, as the code does it: the strict model's forms first, then every other decimal /
exponent spelling of a text cell -/
def toTiltX (v : Val) : Option Val :=
  match toTilt v with
  | some t => some t
  | none =>
    match v with
    | .text s => (pyFloatText s).map (fun p => .tilt p.1 p.2.1 p.2.2)
    | _ => none

/-! ### the reader with the code's dict semantics in the header -/

/-- `_parse_header`: `project_info[key] = value` — a repeated key keeps the position of its first occurrence and the value of
its last one -/
def parseHeaderX : List Str → Option (List Str × List (Str × Val))
  | [] => some ([], [])
  | l :: ls =>
    match parseHeaderX ls with
    | none => none
    | some (ts, info) =>
      if ['['].isPrefixOf l then some (parseTitle l :: ts, info)
      else match parseKV l with
        | none => none
        | some kv =>
          match info.lookup kv.1 with
          | some later => some (ts, (kv.1, later) :: info.filter (fun e => !(e.1 == kv.1)))
          | none => some (ts, kv :: info)

def convTiltX (kv : Str × Val) : Option Val := if kv.1 == Gen.C17.tiltKey then toTiltX kv.2 else some kv.2

def mkRowX (cols : List Str) (sec : List Str) : Option Row :=
  match sec with
  | [] => none
  | h :: body =>
    match parseSecValue h, parseBody body with
    | some z, some kvs =>
      if !allDigits z then none
      else if kvs.map (·.1) == cols then
        match kvs.mapM convTiltX with
        | some cells => some { z := normI z, cells := cells, removed := false }
        | none => none
      else if (kvs.map (·.1)).isPerm cols then
        -- the same keys in ANOTHER ORDER (round 5, item 5): `pd.concat` aligns the one-row frame by column NAME, the cells land in the
        -- column order of the first section
        match (cols.mapM (fun c => (kvs.lookup c).map (fun v => (c, v)))).bind (fun kvs' => kvs'.mapM convTiltX) with
        | some cells => some { z := normI z, cells := cells, removed := false }
        | none => none
      else none
    | _, _ => none

/-- `Mdoc._read_mdoc` following the code on duplicate header keys and on every decimal / exponent TiltAngle spelling -/
def parseMdocX (lines : List Str) : Option Mdoc :=
  let headerLines := ((lines.takeWhile (fun l => (secStart l).isNone)).filter (fun l => !isBlank l)).map strip
  let data := lines.dropWhile (fun l => (secStart l).isNone)
  match data with
  | [] => none
  | first :: _ =>
    match secStart first, parseHeaderX headerLines with
    | some sid, some (titles, info) =>
      let sections := secGo ('[' :: sid) [] data
      match sections with
      | [] => none
      | s0 :: _ =>
        let cols := (s0.drop 1).map colName
        if !cols.contains Gen.C17.tiltKey then none
        else match sections.mapM (mkRowX cols) with
          | some rows => some { info := info, titles := titles, sid := sid, cols := cols, rows := rows }
          | none => none
    | _, _ => none

/-! ### why a text is not read: the code raises, or a named class outside the quantifier -/

inductive Why where
  | raises              -- `Mdoc(path)` raises
  | bracketInSection    -- a line starting with '[' inside a section
  | dupKeyInSection     -- the same key twice in one section
  | diffKeys            -- sections with different key SETS (pandas fills NaN cells; the same keys in another order are read: `mkRowX`)
  | secValueForm        -- section value `int()` accepts but `str.isdigit` does not
  | tiltForm            -- TiltAngle spelled nan / inf / infinity / with '_' / with an exponent beyond ±30
deriving Repr, DecidableEq

def Why.name : Why → String
  | .raises => "raises"
  | .bracketInSection => "bracket-line-in-section"
  | .dupKeyInSection => "duplicate-key-in-section"
  | .diffKeys => "different-key-sets"
  | .secValueForm => "section-value-form"
  | .tiltForm => "tilt-form"

def hasDup : List Str → Bool
  | [] => false
  | k :: ks => ks.contains k || hasDup ks

def lowerStr (s : Str) : Str := s.map Char.toLower

/-- a text cell `float()` may accept although `pyFloatText` does not describe it -/
def tiltOutside (s : Str) : Bool :=
  let body := match s with
    | '-' :: r => r
    | '+' :: r => r
    | r => r
  let b := lowerStr body
  b == "nan".toList || b == "inf".toList || b == "infinity".toList || s.contains '_' ||
    ((pyFloatText s).isNone && (splitExp body).2.isSome && allDigits (removeFirstDot (splitExp body).1))

/-- a section value `int()` may accept although it is not all digits -/
def secValueOutside (z : Str) : Bool :=
  !allDigits z && !z.isEmpty && z.all (fun c => c.isDigit || c == '_' || c == '+' || c == '-' || isWs c) && z.any Char.isDigit

def whyNone (lines : List Str) : Why :=
  let data := lines.dropWhile (fun l => (secStart l).isNone)
  match data with
  | [] => .raises
  | first :: _ =>
    match secStart first with
    | none => .raises
    | some sid =>
      let sections := secGo ('[' :: sid) [] data
      let bodies := sections.map (fun s => s.drop 1)
      let keys := bodies.map (fun b => b.map colName)
      -- a `key = value` line of ANY section with no or several '=' (`key, value = line.split("=")` raises ValueError) and a '[' line
      -- without '=' (`line.split("=")[1]` raises IndexError): the reader must refuse, whatever else the text contains
      if bodies.any (fun b => b.any (fun l => if ['['].isPrefixOf l then decide ((splitEq l).length < 2) else (parseKV l).isNone)) then .raises
      else if bodies.any (fun b => b.any (fun l => ['['].isPrefixOf l)) then .bracketInSection
      else if keys.any hasDup then .dupKeyInSection
      else if keys.any (fun ks => !(ks.isPerm (keys.headD []))) then .diffKeys
      else if sections.any (fun s => match s.head? with
          | some h => (match parseSecValue h with | some z => secValueOutside z | none => false)
          | none => false) then .secValueForm
      else if bodies.any (fun b => b.any (fun l => match parseKV l with
          | some (k, .text s) => k == Gen.C17.tiltKey && tiltOutside s
          | _ => false)) then .tiltForm
      else .raises

/-! ### `ioutils.indices_load` on a list / array, and the console-level `mdoc.remove_images` -/

/-- `indices_load(input, numbered_from_1)`: a NEW array, shifted by one when the input counts from 1; the input is not touched
(`Gen.C17.indicesShiftPure`: the source says `indices = indices - 1`, not `indices -= 1`) -/
def indicesLoad (from1 : Bool) (xs : List Int) : List Int := if from1 then xs.map (· - 1) else xs

/-- `mdoc.remove_images(path, idx, numbered_from_1)` after reading: `indices_load`, then `Mdoc.remove_images(…, kept_only=True)` -/
def removeImagesScript (from1 : Bool) (idxs : List Int) (m : Mdoc) : Option Mdoc :=
  removeImages (indicesLoad from1 idxs) Gen.C17.removeKeptOnlyDefault m

end CryoCat.C17
