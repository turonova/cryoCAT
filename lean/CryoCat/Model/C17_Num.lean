import CryoCat.Model.C17_Ext
/-! C17 — the text → number step of the loaders INSIDE the model (round 5, extension goal).

`tlt_load`, `total_dose_load`, `ctffind4_read` (through `pandas.read_csv`) and `gctf_read` (through the STAR reader) turn the decimal
tokens of their text files into floats. Until round 5 the harness did that step (`Fraction(token)`) and the model received numbers.
Now the driver receives the TOKENS and `parseDecimal` turns them into exact rationals: an optional sign, digits with an optional
fraction (`12`, `12.`, `.5`, `12.50`), an optional exponent (`e-3`, `E+2`). What the implementation must return is then the binary
float NEAREST to that rational (float32 for the one-value-per-line and ctffind4 readers, float64 elsewhere) — compared exactly by the
harness. `printDecimal` is the printer of the class of tokens the generators write; `parse_print_decimal` (Props/C17.lean) proves
`parseDecimal (printDecimal neg i f) = some (decVal neg i f)`. Mathlib-free, executable. -/
namespace CryoCat.C17

/-- unsigned `digits[.digits]` / `.digits` → the rational it denotes -/
def uDec (mant : Str) : Option Rat :=
  if allDigits (removeFirstDot mant) then
    some (mkRat (natOfDigits ((splitDot mant).1 ++ (splitDot mant).2)) (10 ^ (splitDot mant).2.length))
  else none

/-- `10^e` resp. `10^-e` -/
def pow10 (neg : Bool) (e : Nat) : Rat := if neg then mkRat 1 (10 ^ e) else ((10 ^ e : Nat) : Rat)

/-- a decimal token → exact rational; `none` = not a decimal literal of this grammar (`nan`, `inf`, `1_0`, `abc`, empty) -/
def parseDecimal (s : Str) : Option Rat :=
  let neg := match s with | '-' :: _ => true | _ => false
  let body := match s with | '-' :: r => r | '+' :: r => r | r => r
  match uDec (splitExp body).1, (splitExp body).2 with
  | some q, none => some (if neg then -q else q)
  | some q, some es =>
    match signedNat es with
    | some (eneg, e) => some ((if neg then -q else q) * pow10 eneg e)
    | none => none
  | none, _ => none

/-- the tokens the generators write: optional '-', integer digits, optionally '.' and fraction digits -/
def printDecimal (neg : Bool) (i f : Str) : Str :=
  (if neg then ['-'] else []) ++ i ++ (if f.isEmpty then [] else '.' :: f)

end CryoCat.C17
