import CryoCat.Gen.C17
import CryoCat.Model.C17_Wedge
/-! C17 — CODE-LEVEL models of `ioutils.gctf_read` and `wedgeutils.create_wedge_list_sg(_batch)` (hardening pass, audit items 2
and 6). `Model/C17_Wedge.lean` states WHAT the lists must contain (`wedgeSingle = tilts.zipIdx.map mkWedgeRow`); this file
transcribes HOW the code builds them — column selection by a name list followed by a POSITIONAL `iloc[:, 0:2]` scaling;
`np.repeat(tomo_dimensions.values, n, axis=0)`; `z_shift.values[0][0]`; the per-tomogram look-ups
`table.loc[table["tomo_id"] == t, …].values[0]` of the batch function — and `Lemmas/C17_Wedge.lean` and `Props/C17.lean` prove that the two agree
(`gctf_code_row`, `wedge_single_code_eq`, `wedge_batch_code_spec`). The driver runs the code-level definitions; the
implementation's rows are compared with THEM. Mathlib-free, polymorphic in the number type. -/
namespace CryoCat.C17

variable {α : Type}

/-! ### `gctf_read` -/

/-- `df[[n₁, n₂, …]]` on one row of a table whose columns are `cols` (FILE order): the cells in the order of the NAME list;
`none` = KeyError -/
def selectCols (names : List String) (cols : List String) (row : List α) : Option (List α) :=
  names.mapM (fun n => (cols.zip row).lookup n)

/-- `df.iloc[:, lo:hi] = df.iloc[:, lo:hi] * factor` on one row: POSITIONS lo ≤ j < hi are scaled -/
def scaleSlice [Mul α] (lo hi : Nat) (factor : α) (row : List α) : List α :=
  row.zipIdx.map (fun p => if lo ≤ p.2 && p.2 < hi then p.1 * factor else p.1)

/-- `gctf_read` on the STAR table (`cols` in file order): select by the source's name list (`Gen.C17.gctfColumns`; without
`rlnPhaseShift` when the file has none, the column is then appended with 0), scale the first two SELECTED columns, mean -/
def gctfReadCode [Add α] [Mul α] [Div α] [OfNat α 0] (factor divisor : α) (cols : List String) (rows : List (List α)) :
    Option (List (Defocus α)) :=
  let hasPhase := cols.contains Gen.C17.gctfPhaseColumn
  let names := if hasPhase then Gen.C17.gctfColumns else Gen.C17.gctfColumns.filter (fun n => n != Gen.C17.gctfPhaseColumn)
  rows.mapM (fun r =>
    match (selectCols names cols r).map (fun s => scaleSlice Gen.C17.gctfScaleLo Gen.C17.gctfScaleHi factor (if hasPhase then s else s ++ [0])) with
    | some [u, v, a, p] => some { defocus1 := u, defocus2 := v, astigmatism := a, phaseShift := p, defocusMean := (u + v) / divisor }
    | _ => none)

/-! ### `create_wedge_list_sg` -/

/-- `np.repeat(values, n, axis=0)`: every row n times, rows in order -/
def repeatRows (rows : List (List α)) (n : Nat) : List (List α) := rows.flatMap (fun r => List.replicate n r)

/-- what `create_wedge_list_sg` works with after its loaders ran -/
structure SingleIn (α : Type) where
  id : Int
  dims : List (List α)              -- `dimensions_load(tomo_dim).values` (rows of x, y, z)
  zTable : List (List α)            -- `z_shift_load(z_shift).values`
  tilts : List α                    -- `tlt_load(tlt_file)`
  defocus : Option (List α)         -- `defocus_load(…)["defocus_mean"].values`
  dose : Option (List α)            -- `total_dose_load(…)`

def SingleIn.lengthsOk (s : SingleIn α) : Bool :=
  (match s.defocus with | some d => d.length == s.tilts.length | none => true) &&
  (match s.dose with | some d => d.length == s.tilts.length | none => true)

/-- `create_wedge_list_sg`: `tilt_angle = tilts`, `defocus`, `exposure` column-wise; `[tomo_x, tomo_y, tomo_z] =
np.repeat(dims.values, len(tilts), axis=0)` (a block with another number of rows raises); `z_shift = z.values[0][0]` -/
def wedgeSingleCode (c : Consts α) (s : SingleIn α) : Option (List (WedgeRow α)) :=
  let n := s.tilts.length
  let rep := repeatRows s.dims n
  match s.zTable with
  | (zs :: _) :: _ =>
    if s.lengthsOk && rep.length == n then
      s.tilts.zipIdx.mapM (fun p =>
        match rep[p.2]? with
        | some [x, y, z] =>
          some { tomoNum := s.id, pixelSize := c.pixelSize, tomoX := x, tomoY := y, tomoZ := z, zShift := zs, tiltAngle := p.1,
                 defocus := optAt s.defocus p.2, exposure := optAt s.dose p.2,
                 voltage := c.voltage, ampContrast := c.ampContrast, cs := c.cs }
        | _ => none)
    else none
  | _ => none

/-! ### `create_wedge_list_sg_batch` -/

/-- the tables of the batch function: dimensions and z-shifts keyed by `tomo_id` (a single dimension triple / a scalar z-shift is
repeated for every tomogram of the list: `np.repeat(…, len(tomograms))`, `table["tomo_id"] = tomograms`), and what the loaders
return for the files named by a tomogram number -/
structure BatchIn (α : Type) where
  ids : List Int                                                        -- `tlt_load(tomo_list).astype(int)`
  dimTable : List (Int × List α)                                        -- rows (tomo_id, [x, y, z])
  zTable : List (Int × α)                                               -- rows (tomo_id, z_shift)
  files : List (Int × (List α × Option (List α) × Option (List α)))     -- id ↦ (tilts, defocus_mean, dose) as loaded

/-- `table.loc[table["tomo_id"] == t, …].values[0]`: the FIRST row whose id equals `t` (`none` = IndexError) -/
def firstWithId {β : Type} (table : List (Int × β)) (t : Int) : Option β := (table.find? (fun r => r.1 == t)).map (·.2)

def batchSingleIn (b : BatchIn α) (t : Int) : Option (SingleIn α) :=
  match firstWithId b.dimTable t, firstWithId b.zTable t, firstWithId b.files t with
  | some d, some z, some f => some { id := t, dims := [d], zTable := [[z]], tilts := f.1, defocus := f.2.1, dose := f.2.2 }
  | _, _, _ => none

/-- `create_wedge_list_sg_batch`: for every tomogram of the list, in list order, look the dimensions and the z-shift up BY
`tomo_id`, build the single list, concatenate -/
def wedgeBatchCode (c : Consts α) (b : BatchIn α) : Option (List (WedgeRow α)) :=
  (b.ids.mapM (fun t => (batchSingleIn b t).bind (wedgeSingleCode c))).map List.flatten

/-- the specification-level tomogram the look-ups denote -/
def batchTomo (b : BatchIn α) (t : Int) : Option (Tomo α) :=
  match firstWithId b.dimTable t, firstWithId b.zTable t, firstWithId b.files t with
  | some [x, y, z], some zs, some f => some { id := t, dimX := x, dimY := y, dimZ := z, zShift := zs, tilts := f.1, defocus := f.2.1, dose := f.2.2 }
  | _, _, _ => none

end CryoCat.C17
