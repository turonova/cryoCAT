/-! The 20 named fields of a cryoCAT particle list (`Motl.motl_columns`) — Mathlib-free. -/
namespace CryoCat

inductive Field
  | score | geom1 | geom2 | subtomo_id | tomo_id | object_id | subtomo_mean
  | x | y | z | shift_x | shift_y | shift_z | geom3 | geom4 | geom5
  | phi | psi | theta | cls
deriving DecidableEq, Repr, Inhabited

namespace Field

/-- the documented TOM/AV3 field order (written here by hand; `Gen.C01.motlColumns` is what the
source says today and `Props/C01` proves they agree) -/
def all : List Field :=
  [score, geom1, geom2, subtomo_id, tomo_id, object_id, subtomo_mean, x, y, z,
   shift_x, shift_y, shift_z, geom3, geom4, geom5, phi, psi, theta, cls]

def name : Field → String
  | score => "score" | geom1 => "geom1" | geom2 => "geom2" | subtomo_id => "subtomo_id"
  | tomo_id => "tomo_id" | object_id => "object_id" | subtomo_mean => "subtomo_mean"
  | x => "x" | y => "y" | z => "z" | shift_x => "shift_x" | shift_y => "shift_y"
  | shift_z => "shift_z" | geom3 => "geom3" | geom4 => "geom4" | geom5 => "geom5"
  | phi => "phi" | psi => "psi" | theta => "theta" | cls => "class"

def ofName? (s : String) : Option Field := all.find? (fun f => f.name == s)

def idx : Field → Nat
  | score => 0 | geom1 => 1 | geom2 => 2 | subtomo_id => 3 | tomo_id => 4 | object_id => 5
  | subtomo_mean => 6 | x => 7 | y => 8 | z => 9 | shift_x => 10 | shift_y => 11 | shift_z => 12
  | geom3 => 13 | geom4 => 14 | geom5 => 15 | phi => 16 | psi => 17 | theta => 18 | cls => 19

theorem mem_all (f : Field) : f ∈ all := by cases f <;> decide +kernel
theorem all_nodup : all.Nodup := by decide +kernel
theorem all_length : all.length = 20 := rfl
theorem ofName_name (f : Field) : ofName? f.name = some f :=
  (by decide +kernel : ∀ f ∈ all, ofName? f.name = some f) f f.mem_all

end Field

/-- a particle as a record of its 20 fields -/
structure Particle (α : Type) where
  score : α
  geom1 : α
  geom2 : α
  subtomo_id : α
  tomo_id : α
  object_id : α
  subtomo_mean : α
  x : α
  y : α
  z : α
  shift_x : α
  shift_y : α
  shift_z : α
  geom3 : α
  geom4 : α
  geom5 : α
  phi : α
  psi : α
  theta : α
  cls : α
deriving Repr, DecidableEq, Inhabited

namespace Particle
variable {α : Type}

def get (p : Particle α) : Field → α
  | .score => p.score | .geom1 => p.geom1 | .geom2 => p.geom2 | .subtomo_id => p.subtomo_id
  | .tomo_id => p.tomo_id | .object_id => p.object_id | .subtomo_mean => p.subtomo_mean
  | .x => p.x | .y => p.y | .z => p.z | .shift_x => p.shift_x | .shift_y => p.shift_y
  | .shift_z => p.shift_z | .geom3 => p.geom3 | .geom4 => p.geom4 | .geom5 => p.geom5
  | .phi => p.phi | .psi => p.psi | .theta => p.theta | .cls => p.cls

def set (p : Particle α) (f : Field) (v : α) : Particle α :=
  match f with
  | .score => { p with score := v } | .geom1 => { p with geom1 := v } | .geom2 => { p with geom2 := v }
  | .subtomo_id => { p with subtomo_id := v } | .tomo_id => { p with tomo_id := v }
  | .object_id => { p with object_id := v } | .subtomo_mean => { p with subtomo_mean := v }
  | .x => { p with x := v } | .y => { p with y := v } | .z => { p with z := v }
  | .shift_x => { p with shift_x := v } | .shift_y => { p with shift_y := v }
  | .shift_z => { p with shift_z := v } | .geom3 => { p with geom3 := v } | .geom4 => { p with geom4 := v }
  | .geom5 => { p with geom5 := v } | .phi => { p with phi := v } | .psi => { p with psi := v }
  | .theta => { p with theta := v } | .cls => { p with cls := v }

/-- build a particle from a function on field names -/
def ofFn (g : Field → α) : Particle α :=
  ⟨g .score, g .geom1, g .geom2, g .subtomo_id, g .tomo_id, g .object_id, g .subtomo_mean,
   g .x, g .y, g .z, g .shift_x, g .shift_y, g .shift_z, g .geom3, g .geom4, g .geom5,
   g .phi, g .psi, g .theta, g .cls⟩

/-- the 20 values in canonical field order -/
def toList (p : Particle α) : List α := Field.all.map p.get

/-- from 20 values in canonical order (missing values filled with `d`) -/
def ofList (d : α) (l : List α) : Particle α := ofFn (fun f => l.getD f.idx d)

/-! A particle is a function on the fields: `get` and `ofFn` are inverse and `set` is function update; the laws of reading after
writing, extensionality and `ofList_toList` follow without a case split on two fields. -/

theorem get_ofFn (g : Field → α) (f : Field) : (ofFn g).get f = g f := by cases f <;> rfl
theorem ofFn_get (p : Particle α) : ofFn p.get = p := rfl
theorem set_eq (p : Particle α) (f : Field) (v : α) : p.set f v = ofFn (fun g => if g = f then v else p.get g) := by
  cases f <;> rfl
theorem get_set (p : Particle α) (f g : Field) (v : α) : (p.set f v).get g = if g = f then v else p.get g := by
  rw [set_eq, get_ofFn]
theorem get_set_same (p : Particle α) (f : Field) (v : α) : (p.set f v).get f = v := by rw [get_set, if_pos rfl]
theorem get_set_other (p : Particle α) (f g : Field) (v : α) (h : g ≠ f) : (p.set f v).get g = p.get g := by
  rw [get_set, if_neg h]
theorem ext_get {p q : Particle α} (h : ∀ f, p.get f = q.get f) : p = q := by
  rw [← ofFn_get p, ← ofFn_get q, funext h]
theorem ofList_toList (d : α) (p : Particle α) : ofList d p.toList = p := rfl

end Particle

abbrev Motl (α : Type) := List (Particle α)

end CryoCat
